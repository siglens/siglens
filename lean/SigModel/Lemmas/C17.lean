import SigModel.Model.QTable
import SigModel.Lemmas.Assoc
/-!
The running / waiting query tables (Model/QTable.lean): the association list and the queue, what each operation
does to the tables, and the elementary moves every operation is made of.  The invariants of the tables are proved
on the moves (Lemmas/C17b.lean).
-/
namespace SigModel.Lemmas.C17
open SigModel.QTable SigModel.Assoc

theorem isGet_lookup : IsGet lookup some none :=
  ⟨fun _ => rfl, fun _ _ _ => if_pos rfl, fun _ _ _ _ h => if_neg h⟩

theorem isErase_erase : IsErase erase :=
  ⟨fun _ => rfl, fun _ _ _ => if_pos rfl, fun _ _ _ _ h => if_neg h⟩

-- `put` conses in front of an `erase`, so it is no `Assoc.IsPut` (overwrite in place); its laws come from `erase`'s

theorem erase_sublist (q : Nat) (m : List (Nat × RQ)) : (erase q m).Sublist m :=
  isErase_erase.eq_filter q m ▸ List.filter_sublist

theorem mem_erase {x : Nat × RQ} {q : Nat} {m : List (Nat × RQ)} (h : x ∈ erase q m) : x.1 ≠ q ∧ x ∈ m := by
  rw [isErase_erase.eq_filter, List.mem_filter] at h
  exact ⟨of_decide_eq_false ((Bool.not_eq_true' _).mp h.2), h.1⟩

theorem forall_put {P : Nat × RQ → Prop} {q : Nat} {v : RQ} {m : List (Nat × RQ)}
    (hv : P (q, v)) (hm : ∀ x ∈ m, P x) : ∀ x ∈ put q v m, P x :=
  List.forall_mem_cons.mpr ⟨hv, fun x hx => hm x (mem_erase hx).2⟩

theorem forall_erase {P : Nat × RQ → Prop} {q : Nat} {m : List (Nat × RQ)}
    (hm : ∀ x ∈ m, P x) : ∀ x ∈ erase q m, P x :=
  fun x hx => hm x (mem_erase hx).2

theorem lookup_none_of_not_mem_keys {q : Nat} {m : List (Nat × RQ)} (h : q ∉ m.map Prod.fst) :
    lookup q m = none :=
  Classical.not_not.mp (mt (isGet_lookup.mem_keys_iff m q).mpr h)

theorem lookup_isSome_of_mem {x : Nat × RQ} {m : List (Nat × RQ)} (h : x ∈ m) :
    ∃ r, lookup x.1 m = some r :=
  Option.ne_none_iff_exists'.mp ((isGet_lookup.mem_keys_iff m x.1).mp (List.mem_map_of_mem h))

theorem lookup_mem {q : Nat} {m : List (Nat × RQ)} {r : RQ} (h : lookup q m = some r) : (q, r) ∈ m :=
  isGet_lookup.mem_of_get h

theorem not_mem_keys_of_lookup_none {q : Nat} {m : List (Nat × RQ)} (h : lookup q m = none) :
    q ∉ m.map Prod.fst :=
  fun hk => (isGet_lookup.mem_keys_iff m q).1 hk h

theorem lookup_erase_self (q : Nat) (m : List (Nat × RQ)) : lookup q (erase q m) = none :=
  (isGet_lookup.get_erase isErase_erase q m q).trans (if_pos rfl)

theorem lookup_put_self (q : Nat) (v : RQ) (m : List (Nat × RQ)) : lookup q (put q v m) = some v :=
  if_pos rfl

theorem lookup_erase_ne {q q' : Nat} {m : List (Nat × RQ)} (h : q' ≠ q) :
    lookup q' (erase q m) = lookup q' m :=
  (isGet_lookup.get_erase isErase_erase q m q').trans (if_neg h)

theorem lookup_put_ne {q q' : Nat} {v : RQ} {m : List (Nat × RQ)} (h : q' ≠ q) :
    lookup q' (put q v m) = lookup q' m :=
  (if_neg (Ne.symm h)).trans (lookup_erase_ne h)

theorem lookup_of_lookup_erase {q q0 : Nat} {m : List (Nat × RQ)} {r : RQ}
    (h : lookup q (erase q0 m) = some r) : lookup q m = some r := by
  by_cases hq : q = q0
  · rw [hq, lookup_erase_self] at h
    cases h
  · rwa [lookup_erase_ne hq] at h

theorem erase_erase (q : Nat) (m : List (Nat × RQ)) : erase q (erase q m) = erase q m := by
  rw [isErase_erase.eq_filter, isErase_erase.eq_filter, List.filter_filter]
  simp only [Bool.and_self]

theorem put_erase (q : Nat) (v : RQ) (m : List (Nat × RQ)) : put q v (erase q m) = put q v m :=
  congrArg (List.cons (q, v)) (erase_erase q m)

theorem put_put (q : Nat) (v w : RQ) (m : List (Nat × RQ)) : put q v (put q w m) = put q v m :=
  congrArg (List.cons (q, v)) ((isErase_erase.hit q w _).trans (erase_erase q m))

theorem length_erase_lt {q : Nat} {m : List (Nat × RQ)} {r : RQ} (h : lookup q m = some r) :
    (erase q m).length + 1 ≤ m.length := by
  rw [isErase_erase.eq_filter]
  exact List.length_filter_lt_length_iff_exists.mpr ⟨_, lookup_mem h, fun hd =>
    Bool.false_ne_true (((Bool.not_eq_true' _).mp hd).symm.trans (decide_eq_true rfl))⟩

theorem nodup_keys_erase (q : Nat) {m : List (Nat × RQ)} (h : (m.map Prod.fst).Nodup) :
    ((erase q m).map Prod.fst).Nodup :=
  h.sublist ((erase_sublist q m).map _)

theorem nodup_keys_put (q : Nat) (v : RQ) {m : List (Nat × RQ)} (h : (m.map Prod.fst).Nodup) :
    ((put q v m).map Prod.fst).Nodup :=
  List.nodup_cons.mpr ⟨not_mem_keys_of_lookup_none (lookup_erase_self q m), nodup_keys_erase q h⟩

theorem removeFirstWaiting_sublist (q : Nat) (l : List RQ) : (removeFirstWaiting q l).Sublist l := by
  induction l with
  | nil => exact .slnil
  | cons a l ih =>
    unfold removeFirstWaiting
    by_cases h : a.qid = q
    · rw [if_pos h]
      exact List.sublist_cons_self a l
    · rw [if_neg h]
      exact ih.cons_cons a

theorem removeFirstWaiting_clears (q : Nat) (l : List RQ)
    (h : (l.filter (fun r => r.qid == q)).length ≤ 1) :
    ∀ r ∈ removeFirstWaiting q l, r.qid ≠ q := by
  induction l with
  | nil => exact List.forall_mem_nil _
  | cons a t ih =>
    unfold removeFirstWaiting
    by_cases ha : a.qid = q
    · rw [if_pos ha]
      rw [List.filter_cons, if_pos (beq_iff_eq.mpr ha)] at h
      have hnil := List.eq_nil_of_length_eq_zero (Nat.le_zero.mp (Nat.le_of_succ_le_succ h))
      intro r hr hq
      have hm : r ∈ t.filter (fun r => r.qid == q) := List.mem_filter.mpr ⟨hr, beq_iff_eq.mpr hq⟩
      rw [hnil] at hm
      cases hm
    · rw [if_neg ha]
      rw [List.filter_cons, if_neg (fun e => ha (beq_iff_eq.mp e))] at h
      exact List.forall_mem_cons.mpr ⟨ha, ih h⟩

theorem send_of_room {r : RQ} (msg : Nat) (h : r.chanLen < chanCap) :
    send r msg = ({ r with chanLen := r.chanLen + 1, sent := r.sent ++ [msg] }, false) :=
  if_pos h

theorem send_proj {α : Type} (f : RQ → α)
    (hf : ∀ (r : RQ) (n : Nat) (l : List Nat), f { r with chanLen := n, sent := l } = f r)
    (r : RQ) (msg : Nat) : f (send r msg).1 = f r := by
  unfold send
  by_cases h : r.chanLen < chanCap
  · rw [if_pos h]
    exact hf r _ _
  · rw [if_neg h]

theorem send_qid (r : RQ) (msg : Nat) : (send r msg).1.qid = r.qid := send_proj RQ.qid (fun _ _ _ => rfl) r msg
theorem send_obj (r : RQ) (msg : Nat) : (send r msg).1.obj = r.obj := send_proj RQ.obj (fun _ _ _ => rfl) r msg
theorem send_timeoutArmed (r : RQ) (msg : Nat) : (send r msg).1.timeoutArmed = r.timeoutArmed :=
  send_proj RQ.timeoutArmed (fun _ _ _ => rfl) r msg
theorem send_timerLive (r : RQ) (msg : Nat) : (send r msg).1.timerLive = r.timerLive :=
  send_proj RQ.timerLive (fun _ _ _ => rfl) r msg
theorem send_cancelled (r : RQ) (msg : Nat) : (send r msg).1.cancelled = r.cancelled :=
  send_proj RQ.cancelled (fun _ _ _ => rfl) r msg

theorem send_sent_prefix (r : RQ) (msg : Nat) : r.sent <+: (send r msg).1.sent := by
  unfold send
  by_cases h : r.chanLen < chanCap
  · rw [if_pos h]
    exact List.prefix_append _ _
  · rw [if_neg h]
    exact List.prefix_refl _

/-- the object that `withLockRunQuery` stores -/
def admitted (r : RQ) : RQ := (send (send (arm r) 1).1 2).1

theorem admitted_fields (r : RQ) :
    (admitted r).qid = r.qid ∧ (admitted r).obj = r.obj ∧ (admitted r).timeoutArmed = true ∧
    (admitted r).timerLive = true ∧ (admitted r).cancelled = r.cancelled ∧ (admitted r).coord = r.coord := by
  simp only [admitted, arm, send_qid, send_obj, send_timeoutArmed, send_timerLive, send_cancelled,
    send_proj RQ.coord (fun _ _ _ => rfl), and_self]

theorem runQuery_cancelled (s : St) {r : RQ} (h : r.cancelled = true) : runQuery s r = s :=
  if_pos h

theorem runQuery_admit (s : St) {r : RQ} (h : r.cancelled = false) :
    runQuery s r = { s with running := put r.qid (admitted r) s.running,
                            blocked := s.blocked || (send (arm r) 1).2 || (send (send (arm r) 1).1 2).2 } := by
  unfold runQuery admitted
  rw [h, if_neg Bool.false_ne_true]

/-- `StartQuery…` from the point where the new object `r` exists; the second half of `RestartQuery` is the same code
(`restartQuery_eq`) -/
def enter (s : St) (r : RQ) (force : Bool) : St × Out :=
  match lookup r.qid s.running with
  | some _ => (s, .rejected)
  | none =>
    if force then (runQuery { s with next := s.next + 1 } r, .ok)
    else if s.waiting.length ≥ maxWaiting then ({ s with next := s.next + 1 }, .rejected)
    else ({ s with next := s.next + 1, waiting := s.waiting ++ [r] }, .ok)

theorem startQuery_eq (s : St) (q : Nat) (force coord : Bool) :
    startQuery s q force coord = enter s { obj := s.next, qid := q, coord := coord } force := rfl

theorem restartQuery_eq (s : St) (q nq : Nat) (force : Bool) :
    restartQuery s q nq force =
      match lookup q s.running with
      | none => (s, .noop)
      | some r =>
        if r.cancelled then (s, .rejected)
        else if !r.coord then ({ s with running := erase q s.running }, .rejected)
        else enter { s with running := erase q s.running }
          { obj := s.next, qid := nq, coord := true, chanLen := r.chanLen } force := rfl

theorem enter_cases (s : St) (r : RQ) (force : Bool) :
    (enter s r force).1 = s ∨
    (force = true ∧ (enter s r force).1 = runQuery { s with next := s.next + 1 } r) ∨
    (enter s r force).1 = { s with next := s.next + 1 } ∨
    (s.waiting.length < maxWaiting ∧
      (enter s r force).1 = { s with next := s.next + 1, waiting := s.waiting ++ [r] }) := by
  unfold enter
  cases lookup r.qid s.running with
  | some _ => exact .inl rfl
  | none =>
    cases force with
    | true => exact .inr (.inl ⟨rfl, rfl⟩)
    | false =>
      by_cases h : s.waiting.length ≥ maxWaiting
      · exact .inr (.inr (.inl (congrArg Prod.fst ((if_neg Bool.false_ne_true).trans (if_pos h)))))
      · exact .inr (.inr (.inr ⟨Nat.not_le.mp h,
          congrArg Prod.fst ((if_neg Bool.false_ne_true).trans (if_neg h))⟩))

theorem enter_of_fresh {s : St} {r : RQ} (force : Bool) (hl : lookup r.qid s.running = none)
    (hroom : s.waiting.length < maxWaiting) :
    enter s r force =
      (if force then runQuery { s with next := s.next + 1 } r
        else { s with next := s.next + 1, waiting := s.waiting ++ [r] }, .ok) := by
  unfold enter
  rw [hl]
  cases force
  · exact (if_neg Bool.false_ne_true).trans (if_neg (Nat.not_le.mpr hroom))
  · rfl

theorem pull_cases (s : St) :
    (step s .pull).1 = s ∨
    ∃ r rs, s.waiting = r :: rs ∧ s.running.length < s.maxRunning ∧
      (step s .pull).1 = runQuery { s with waiting := rs } r := by
  unfold step
  by_cases hlt : s.running.length < s.maxRunning
  · rw [if_pos hlt]
    cases hw : s.waiting with
    | nil => exact .inl rfl
    | cons r rs => exact .inr ⟨r, rs, rfl, hlt, rfl⟩
  · rw [if_neg hlt]
    exact .inl rfl

theorem cancelQuery_of_running {s : St} {q : Nat} {r : RQ} (h : lookup q s.running = some r) :
    (cancelQuery s q).1 =
      { s with running := put q (send { r with cancelled := true } 5).1 s.running,
               waiting := removeFirstWaiting q s.waiting,
               blocked := s.blocked || (send { r with cancelled := true } 5).2 } := by
  unfold cancelQuery
  rw [h]

theorem cancelQuery_cases (s : St) (q : Nat) :
    (lookup q s.running = none ∧
      (((cancelQuery s q).1 = s ∧ ∀ r ∈ s.waiting, r.qid ≠ q) ∨
       ∃ b, (cancelQuery s q).1 = { s with waiting := removeFirstWaiting q s.waiting, blocked := b })) ∨
    ∃ r b, lookup q s.running = some r ∧
      (cancelQuery s q).1 = { s with running := put q (send { r with cancelled := true } 5).1 s.running,
                                     waiting := removeFirstWaiting q s.waiting, blocked := b } := by
  cases hl : lookup q s.running with
  | some r => exact .inr ⟨r, _, rfl, cancelQuery_of_running hl⟩
  | none =>
    refine .inl ⟨rfl, ?_⟩
    unfold cancelQuery
    rw [hl]
    cases hf : s.waiting.find? (fun r => r.qid == q) with
    | none => exact .inl ⟨rfl, fun r hr hq => List.find?_eq_none.mp hf r hr (beq_iff_eq.mpr hq)⟩
    | some w => exact .inr ⟨_, rfl⟩

/-- the object the timer leaves behind: TIMEOUT sent, then CancelQuery -/
def timedOut (r : RQ) : RQ :=
  (send { (send { r with timerLive := false } 6).1 with cancelled := true } 5).1

theorem fireTimeout_of_live {s : St} {q : Nat} {r : RQ} (hl : lookup q s.running = some r)
    (hlive : r.timerLive = true) (hroom : r.chanLen < chanCap) :
    ∃ b, (fireTimeout s q).1 = { s with running := put q (timedOut r) s.running,
                                        waiting := removeFirstWaiting q s.waiting, blocked := b } := by
  unfold fireTimeout
  rw [hl]
  dsimp only
  rw [hlive, if_neg (by decide), if_pos hroom, cancelQuery_of_running (lookup_put_self ..), put_put]
  exact ⟨_, rfl⟩

theorem selfSend_of_room {s : St} {q : Nat} {r : RQ} (msg : Nat) (hl : lookup q s.running = some r)
    (hroom : r.chanLen < chanCap) :
    (selfSend s q msg).1 = { s with running := put q (send r msg).1 s.running } := by
  unfold selfSend
  rw [hl]
  exact congrArg Prod.fst (if_pos hroom)

/-- `r'` is a later state of the object `r`: messages sent or the channel drained, cancelled, its timer fired on the
way to being cancelled -/
structure Later (r r' : RQ) : Prop where
  qid : r'.qid = r.qid
  obj : r'.obj = r.obj
  armed : r'.timeoutArmed = r.timeoutArmed
  live : r.timerLive = true ∨ r.cancelled = true → r'.timerLive = true ∨ r'.cancelled = true
  sent : r.sent <+: r'.sent

theorem later_send (r : RQ) (msg : Nat) : Later r (send r msg).1 :=
  ⟨send_qid r msg, send_obj r msg, send_timeoutArmed r msg,
    fun h => by rwa [send_timerLive, send_cancelled], send_sent_prefix r msg⟩

theorem later_cancel (r : RQ) : Later r (send { r with cancelled := true } 5).1 :=
  ⟨send_qid _ 5, send_obj _ 5, send_timeoutArmed _ 5, fun _ => .inr (send_cancelled _ 5),
    send_sent_prefix { r with cancelled := true } 5⟩

theorem later_timedOut (r : RQ) : Later r (timedOut r) :=
  ⟨by simp only [timedOut, send_qid], by simp only [timedOut, send_obj], by simp only [timedOut, send_timeoutArmed],
    fun _ => .inr (send_cancelled _ 5),
    (send_sent_prefix { r with timerLive := false } 6).trans
      (send_sent_prefix { (send { r with timerLive := false } 6).1 with cancelled := true } 5)⟩

/--
`Moves k s s'`: `s'` is reached from `s` by elementary changes of the tables, at most `k` of which admit a new object
without regard to the limit.  `blocked` is left free wherever a send happens.  `admitNew` erases the entry under `q`
first; its `d` bounds the growth of the table: 1 for a forced start, 0 for a forced restart, which erased the entry it
restarts.
-/
inductive Moves : Nat → St → St → Prop
  | trans {j k : Nat} {a b c : St} : Moves j a b → Moves k b c → Moves (j + k) a c
  | shrink {k : Nat} (s s' : St) : s'.maxRunning = s.maxRunning → s.next ≤ s'.next → s'.running = s.running →
      s'.waiting.Sublist s.waiting → Moves k s s'
  | erase {k : Nat} (s : St) (q : Nat) : Moves k s { s with running := erase q s.running }
  | update {k : Nat} (s : St) (q : Nat) (r r' : RQ) (b : Bool) : lookup q s.running = some r → Later r r' →
      Moves k s { s with running := put q r' s.running, blocked := b }
  | admitNew {k : Nat} (s : St) (q : Nat) (r : RQ) (d : Nat) (b : Bool) : r.obj = s.next →
      (erase q s.running).length + 1 ≤ s.running.length + d →
      Moves (k + d) s { s with next := s.next + 1, running := put r.qid (admitted r) (erase q s.running), blocked := b }
  | runHead {k : Nat} (s : St) (r : RQ) (rs : List RQ) (b : Bool) : s.waiting = r :: rs →
      s.running.length < s.maxRunning →
      Moves k s { s with running := put r.qid (admitted r) s.running, waiting := rs, blocked := b }
  | enqueue {k : Nat} (s : St) (r : RQ) : r.obj = s.next → r.timeoutArmed = false → r.timerLive = false →
      r.cancelled = false → s.waiting.length < maxWaiting →
      Moves k s { s with next := s.next + 1, waiting := s.waiting ++ [r] }

theorem Moves.refl {k : Nat} (s : St) : Moves k s s := .shrink s s rfl (Nat.le_refl _) rfl (List.Sublist.refl _)

theorem Moves.andThen {k : Nat} {a b c : St} (h1 : Moves 0 a b) (h2 : Moves k b c) : Moves k a c :=
  Nat.zero_add k ▸ h1.trans h2

theorem moves_update_unqueue {s : St} {q : Nat} {r r' : RQ} (hl : lookup q s.running = some r)
    (h : Later r r') (b : Bool) :
    Moves 0 s { s with running := put q r' s.running, waiting := removeFirstWaiting q s.waiting, blocked := b } :=
  (Moves.update s q r r' b hl h).andThen
    (.shrink _ _ rfl (Nat.le_refl _) rfl (removeFirstWaiting_sublist q s.waiting))

theorem enter_moves (s : St) (r : RQ) (force : Bool) (ho : r.obj = s.next)
    (hf : r.timeoutArmed = false ∧ r.timerLive = false ∧ r.cancelled = false) :
    Moves (if force then 1 else 0) s (enter s r force).1 := by
  rcases enter_cases s r force with e | ⟨hfo, e⟩ | e | ⟨hl, e⟩ <;> rw [e]
  · exact .refl s
  · -- `put` erases the key anyway: a forced start is an `admitNew` under the object's own qid
    rw [hfo, runQuery_admit _ hf.2.2, ← put_erase]
    exact .admitNew (k := 0) s r.qid r 1 _ ho (Nat.succ_le_succ (erase_sublist ..).length_le)
  · exact .shrink _ _ rfl (Nat.le_succ _) rfl (List.Sublist.refl _)
  · exact .enqueue s r ho hf.1 hf.2.1 hf.2.2 hl

theorem step_moves (s : St) (op : Op) : Moves (if op.forced then 1 else 0) s (step s op).1 := by
  cases op with
  | start q force => exact enter_moves s { obj := s.next, qid := q } force rfl ⟨rfl, rfl, rfl⟩
  | startc q force => exact enter_moves s { obj := s.next, qid := q, coord := true } force rfl ⟨rfl, rfl, rfl⟩
  | pull =>
    rcases pull_cases s with e | ⟨r, rs, hw, hlt, e⟩ <;> rw [e]
    · exact .refl s
    · cases hc : r.cancelled with
      | true =>
        rw [runQuery_cancelled _ hc]
        exact .shrink _ _ rfl (Nat.le_refl _) rfl (hw ▸ List.sublist_cons_self r rs)
      | false =>
        rw [runQuery_admit _ hc]
        exact .runHead s r rs _ hw hlt
  | cancel q =>
    show Moves 0 s (cancelQuery s q).1
    rcases cancelQuery_cases s q with ⟨_, ⟨e, _⟩ | ⟨b, e⟩⟩ | ⟨r, b, hl, e⟩ <;> rw [e]
    · exact .refl s
    · exact .shrink _ _ rfl (Nat.le_refl _) rfl (removeFirstWaiting_sublist q s.waiting)
    · exact moves_update_unqueue hl (later_cancel r) b
  | delete q =>
    rw [step]
    cases lookup q s.running with
    | none => exact .refl s
    | some _ => exact .erase s q
  | drain q =>
    rw [step]
    cases hl : lookup q s.running with
    | none => exact .refl s
    | some r => exact .update s q r _ _ hl ⟨rfl, rfl, rfl, id, List.prefix_refl _⟩
  | timeout q =>
    show Moves 0 s (fireTimeout s q).1
    unfold fireTimeout
    cases hl : lookup q s.running with
    | none => exact .refl s
    | some r =>
      dsimp only
      by_cases hlive : (!r.timerLive) = true
      · rw [if_pos hlive]
        exact .refl s
      by_cases hroom : r.chanLen < chanCap
      · rw [if_neg hlive, if_pos hroom, cancelQuery_of_running (lookup_put_self ..), put_put]
        exact moves_update_unqueue hl (later_timedOut r) _
      · rw [if_neg hlive, if_neg hroom]
        exact .refl s
  | restart q nq force =>
    show Moves 0 s (restartQuery s q nq force).1
    rw [restartQuery_eq]
    cases hl : lookup q s.running with
    | none => exact .refl s
    | some r =>
      dsimp only
      by_cases hc : r.cancelled = true
      · rw [if_pos hc]
        exact .refl s
      by_cases hco : (!r.coord) = true
      · rw [if_neg hc, if_pos hco]
        exact .erase s q
      rw [if_neg hc, if_neg hco]
      rcases enter_cases { s with running := erase q s.running }
        { obj := s.next, qid := nq, coord := true, chanLen := r.chanLen } force with
        e | ⟨_, e⟩ | e | ⟨hw, e⟩ <;> rw [e]
      · exact .erase s q
      · rw [runQuery_admit _ rfl]
        exact .admitNew (k := 0) s q _ 0 _ rfl (length_erase_lt hl)
      · exact (Moves.erase s q).andThen (.shrink _ _ rfl (Nat.le_succ _) rfl (List.Sublist.refl _))
      · exact (Moves.erase s q).andThen (.enqueue _ _ rfl rfl rfl rfl hw)
  | complete q | error q =>
    show Moves 0 s (selfSend s q _).1
    unfold selfSend
    cases hl : lookup q s.running with
    | none => exact .refl s
    | some r =>
      dsimp only
      by_cases hroom : r.chanLen < chanCap
      · rw [if_pos hroom]
        exact .update s q r _ _ hl (later_send r _)
      · rw [if_neg hroom]
        exact .refl s

theorem run_moves (ops : List Op) (s : St) : Moves (ops.filter Op.forced).length s (run s ops) := by
  induction ops generalizing s with
  | nil => exact .refl s
  | cons op ops ih =>
    have h := (step_moves s op).trans (ih (step s op).1)
    rw [List.filter_cons]
    cases hf : op.forced with
    | true => rwa [hf, if_pos rfl, Nat.add_comm] at h
    | false => rwa [hf, if_neg Bool.false_ne_true, Nat.zero_add] at h

theorem run_append (s : St) (a b : List Op) : run s (a ++ b) = run (run s a) b := by
  induction a generalizing s with
  | nil => rfl
  | cons op a ih => exact ih _

end SigModel.Lemmas.C17
