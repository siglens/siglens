/-
C04 statistics slice, the two string rules: FastParseFloat and strconv.ParseFloat compute the SAME value on every scanned
numeral under exact arithmetic (`valFast_exact`); the fixed FastParseFloat accepts the same strings
(`parseFast_eq_parseStd`), the old one also accepted the digit-less forms (`parse_differ_of_no_digit`).  Core Lean only.
-/
import SigModel.Lemmas.C04Sa

namespace SigModel.Stats

theorem natCast_ne_zero_pow10 (n : Nat) : ((10 ^ n : Nat) : Rat) ≠ 0 :=
  fun h => Nat.ne_of_gt (Nat.pow_pos (by decide)) (Rat.natCast_eq_zero_iff.mp h)

theorem acc_cast (ds : List Nat) (a : Nat) :
    ds.foldl (fun (a : Rat) (x : Nat) => exact (exact (a * 10) + (x : Rat))) (a : Rat) =
      ((ds.foldl (fun a d => a * 10 + d) a : Nat) : Rat) := by
  induction ds generalizing a with
  | nil => rfl
  | cons d r ih =>
    rw [List.foldl_cons, List.foldl_cons, ← ih (a * 10 + d), Rat.natCast_add, Rat.natCast_mul]
    rfl

theorem acc_digitsNat (ds : List Nat) :
    ds.foldl (fun (a : Rat) (x : Nat) => exact (exact (a * 10) + (x : Rat))) (0 : Rat) = ((digitsNat ds : Nat) : Rat) :=
  acc_cast ds 0

theorem divisor_pow (ds : List Nat) (c : Rat) :
    ds.foldl (fun (a : Rat) (_ : Nat) => exact (a * 10)) c = c * ((10 ^ ds.length : Nat) : Rat) := by
  induction ds generalizing c with
  | nil => exact (Rat.mul_one c).symm
  | cons d r ih =>
    rw [List.foldl_cons, ih, List.length_cons, Nat.pow_succ, Nat.mul_comm, Rat.natCast_mul, ← Rat.mul_assoc]
    rfl

theorem digits_append (fp : List Nat) (a : Nat) :
    fp.foldl (fun a d => a * 10 + d) a = a * 10 ^ fp.length + digitsNat fp := by
  induction fp generalizing a with
  | nil => exact (Nat.mul_one a).symm
  | cons d r ih =>
    unfold digitsNat
    rw [List.foldl_cons, List.foldl_cons, ih, ih (0 * 10 + d), List.length_cons, Nat.pow_succ, Nat.zero_mul, Nat.zero_add,
      Nat.add_mul, Nat.add_assoc, Nat.mul_assoc, Nat.mul_comm 10]

/-- this and the next: the two shapes of exponent the scanner produces -/
theorem pow10f_natCast (n : Nat) : pow10f exact (n : Int) = ((10 ^ n : Nat) : Rat) := by
  unfold pow10f
  rw [if_pos (Int.natCast_nonneg n), Int.toNat_natCast]
  rfl

theorem pow10f_neg_natCast (n : Nat) : pow10f exact (-(n : Int)) = (((10 ^ n : Nat) : Rat))⁻¹ := by
  unfold pow10f
  cases n with
  | zero =>
    -- `-0` takes the first branch: the claim evaluates to `1 = 1⁻¹`
    exact ((Rat.one_mul _).symm.trans (Rat.mul_inv_cancel 1 (by decide))).symm
  | succ k =>
    rw [if_neg (show ¬ (0 : Int) ≤ -((k + 1 : Nat) : Int) from Int.not_le.mpr (Int.negSucc_lt_zero k)), Int.neg_neg,
      Int.toNat_natCast, exact_apply, Rat.div_def, Rat.one_mul]

theorem scale_exact (r : Rat) (eneg : Bool) (ed : List Nat) :
    exact (r * pow10f exact (if eneg then -(digitsNat ed : Int) else (digitsNat ed : Int))) =
      if eneg then r / ((10 ^ digitsNat ed : Nat) : Rat) else r * ((10 ^ digitsNat ed : Nat) : Rat) := by
  by_cases h : eneg = true
  · rw [if_pos h, if_pos h, pow10f_neg_natCast]; rfl
  · rw [if_neg h, if_neg h, pow10f_natCast]; rfl

theorem valFast_exact (d : Dec) : valFast exact d = valExact d := by
  unfold valFast valExact
  have hcat : digitsNat (d.ip ++ d.fp) = digitsNat d.ip * 10 ^ d.fp.length + digitsNat d.fp := by
    unfold digitsNat; rw [List.foldl_append]; exact digits_append d.fp _
  have hm : ((digitsNat d.ip : Nat) : Rat) + ((digitsNat d.fp : Nat) : Rat) / ((10 ^ d.fp.length : Nat) : Rat)
      = ((digitsNat (d.ip ++ d.fp) : Nat) : Rat) / ((10 ^ d.fp.length : Nat) : Rat) := by
    rw [hcat, Rat.natCast_add, Rat.natCast_mul, Rat.div_def, Rat.div_def, Rat.add_mul, Rat.mul_assoc,
      Rat.mul_inv_cancel _ (natCast_ne_zero_pow10 d.fp.length), Rat.mul_one]
  simp only [acc_digitsNat, divisor_pow]
  simp only [exact_apply, Rat.one_mul, hm]
  cases d.exp with
  | none => rfl
  | some p => exact scale_exact _ p.1 p.2

theorem parseFastOld_exact (s : Str) : parseFastOld exact s = (scanDec s).map valExact := by
  unfold parseFastOld
  cases scanDec s with
  | none => rfl
  | some d => simp [valFast_exact]

theorem parseFast_eq_parseStd (s : Str) : parseFast exact s = parseStd exact s := by
  unfold parseFast parseStd
  cases scanDec s with
  | none => rfl
  | some d => simp [valFast_exact]

def HasMantissaDigit (s : Str) : Prop := ∀ d, scanDec s = some d → ¬ (d.ip = [] ∧ d.fp = [])

theorem parseFastOld_eq_parseStd (s : Str) (h : HasMantissaDigit s) : parseFastOld exact s = parseStd exact s := by
  rw [parseFastOld_exact]
  unfold parseStd
  cases hs : scanDec s with
  | none => rfl
  | some d =>
    have := h d hs
    simp [this]

theorem parse_differ_of_no_digit (s : Str) (d : Dec) (hs : scanDec s = some d) (h0 : d.ip = [] ∧ d.fp = []) :
    (parseFastOld exact s).isSome = true ∧ parseStd exact s = none ∧ parseFast exact s = none := by
  simp [parseFastOld, parseFast, parseStd, hs, h0]

end SigModel.Stats
