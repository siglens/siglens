/-
Relations between the aggregation functions over one member list (min ≤ avg ≤ max, avg = sum / count), and
`members_withFn`: a query has the same members under another function, so the relations hold between the answers.
-/
import SigModel.Lemmas.C09agg

namespace SigModel.Lemmas.C09
open SigModel.Promql

theorem foldl_pick {R c : Int → Int → Prop} [∀ a b, Decidable (c a b)] (refl : ∀ a, R a a)
    (trans : ∀ {a b d}, R a b → R b d → R a d) (hc : ∀ {r v}, c v r → R v r)
    (hn : ∀ {r v}, ¬c v r → R r v) (xs : List Int) (a : Int) :
    ∀ v ∈ a :: xs, R (xs.foldl (fun r v => if c v r then v else r) a) v := by
  fun_induction List.foldl with
  | case1 a => exact List.forall_mem_singleton.2 (refl a)
  | case2 a x xs ih =>
    have hf : R (if c x a then x else a) a ∧ R (if c x a then x else a) x :=
      if h : c x a then if_pos h ▸ ⟨hc h, refl x⟩ else if_neg h ▸ ⟨refl a, hn h⟩
    have h := List.forall_mem_cons.1 ih
    exact List.forall_mem_cons.2 ⟨trans h.1 hf.1, List.forall_mem_cons.2 ⟨trans h.1 hf.2, h.2⟩⟩

theorem minL_le {L : List Int} {v : Int} (h : v ∈ L) : minL L ≤ v := by
  cases L with
  | nil => exact (List.not_mem_nil h).elim
  | cons x xs =>
    exact foldl_pick (R := LE.le) (c := LT.lt) Int.le_refl Int.le_trans Int.le_of_lt Int.not_lt.1 xs x v h

theorem le_maxL {L : List Int} {v : Int} (h : v ∈ L) : v ≤ maxL L := by
  cases L with
  | nil => exact (List.not_mem_nil h).elim
  | cons x xs =>
    exact foldl_pick (R := GE.ge) (c := GT.gt) Int.le_refl (fun h1 h2 => Int.le_trans h2 h1) Int.le_of_lt Int.not_lt.1
      xs x v h

theorem sum_bounds {lo hi : Int} {L : List Int} (hL : ∀ v ∈ L, lo ≤ v ∧ v ≤ hi) :
    (List.replicate L.length lo).sum ≤ L.sum ∧ L.sum ≤ (List.replicate L.length hi).sum := by
  induction L with
  | nil => exact ⟨Int.le_refl _, Int.le_refl _⟩
  | cons x L ih =>
    have h := List.forall_mem_cons.1 hL
    simp only [List.length_cons, List.replicate_succ, List.sum_cons]
    exact ⟨Int.add_le_add h.1.1 (ih h.2).1, Int.add_le_add h.1.2 (ih h.2).2⟩

theorem sum_flatten_int (Ls : List (List Int)) : Ls.flatten.sum = (Ls.map List.sum).sum := by
  induction Ls with
  | nil => rfl
  | cons L Ls ih => simp only [List.flatten_cons, List.sum_append_int, ih, List.map_cons, List.sum_cons]

theorem min_avg_max_members (step t : Nat) (ms : List Series) (hne : ms ≠ [])
    (hs : ∀ s ∈ ms, samplesAt step t s.pts ≠ []) :
    specValue .min step t ms ≤ specValue .avg step t ms ∧ specValue .avg step t ms ≤ specValue .max step t ms := by
  -- some member has a sample, so the number of pooled samples is positive
  have hn := Rat.natCast_pos.2 ((List.exists_mem_of_ne_nil ms hne).elim fun s m =>
    List.sum_pos_iff_exists_pos_nat.2
      ⟨_, List.mem_map_of_mem (f := List.length) (List.mem_map_of_mem m), List.length_pos_iff.2 (hs s m)⟩)
  -- every pooled sample lies between the least member minimum and the greatest member maximum
  have b := sum_bounds (L := (ms.map fun s => samplesAt step t s.pts).flatten)
    (List.forall_mem_flatten.2 fun L hL v hv =>
      ⟨Int.le_trans (minL_le (List.mem_map_of_mem hL)) (minL_le hv),
        Int.le_trans (le_maxL hv) (le_maxL (List.mem_map_of_mem hL))⟩)
  simp only [List.sum_replicate_int, sum_flatten_int, List.length_flatten, ← Rat.intCast_le_intCast,
    Rat.intCast_mul] at b
  -- core states the division laws for `<` only
  exact ⟨Rat.not_lt.1 (mt (Rat.div_lt_iff' hn).1 (Rat.not_lt.2 b.1)),
    Rat.not_lt.1 (mt (Rat.lt_div_iff' hn).1 (Rat.not_lt.2 b.2))⟩

theorem avg_sum_count_members (step t : Nat) (ms : List Series)
    (hs : ∀ s ∈ ms, samplesAt step t s.pts ≠ [])
    (h1 : ∀ s ∈ ms, (s.pts.map (fun p => bucket p.1 step)).Nodup) :
    specValue .avg step t ms = specValue .sum step t ms / specValue .count step t ms := by
  -- at most one sample as the member's buckets are distinct, at least one by `hs`
  have one : ∀ L ∈ ms.map (fun s => samplesAt step t s.pts), L.length = 1 := List.forall_mem_map.2 fun s m => by
    have a := List.nodup_iff_count.1 (h1 s m) t
    simp only [List.count_eq_length_filter, List.filter_map, List.length_map] at a
    exact Nat.le_antisymm (Nat.le_trans (Nat.le_of_eq (List.length_map _)) a) (List.length_pos_iff.2 (hs s m))
  simp only [specValue, List.map_eq_replicate_iff.2 one, List.sum_replicate_nat, Nat.mul_one, List.length_map]

def withFn (q : Query) (fn : Fn) : Query := { q with fn := fn }

/-- the function matters to the grouping only through `count` without fields -/
theorem members_withFn {q : Query} {f1 f2 : Fn} (h : q.fields = [] → (f1 = .count ↔ f2 = .count))
    (ss : List Series) (g : Str) (t : Nat) :
    members (withFn q f1) ss g t = members (withFn q f2) ss g t :=
  List.filter_congr fun s _ =>
    congrArg (fun G : Str => decide (G = g) && !(samplesAt q.step t s.pts).isEmpty)
      (ite_cond_congr (propext (and_congr_left h)))

end SigModel.Lemmas.C09
