import SigModel.Model.OtsdbQuery
import SigModel.Lemmas.Split
/-!
C17, the request grammars of the OpenTSDB query route (Model/OtsdbQuery.lean): what `indexOf` / `lastIndexOf` /
`splitOn` / `hasSuffix` / `durationOk` compute, which items the tag-list parser accepts, and that the parsers before
the repairs (`parseMetricTagOld`, `agoOld`) panic on the texts described and agree with the repaired ones elsewhere.
-/
namespace SigModel.Lemmas.C17f
open SigModel.OtsdbQuery

theorem indexOf_none_iff {c : Nat} {s : Bytes} : indexOf c s = none ↔ c ∉ s := by
  induction s with
  | nil => simp [indexOf]
  | cons b r ih =>
    by_cases h : b = c
    · simp [indexOf, h]
    · have hc : ¬ c = b := fun e => h e.symm
      simp [indexOf, h, ih, hc]

theorem indexOf_append_cons {c : Nat} {pre : Bytes} (post : Bytes) (hn : c ∉ pre) :
    indexOf c (pre ++ c :: post) = some pre.length := by
  induction pre with
  | nil => exact if_pos rfl
  | cons b r ih =>
    rw [List.cons_append, indexOf, if_neg (Ne.symm (List.ne_of_not_mem_cons hn)), ih (List.not_mem_of_not_mem_cons hn)]
    rfl

theorem indexOf_some_iff {c : Nat} {s : Bytes} {i : Nat} :
    indexOf c s = some i ↔ ∃ pre post, s = pre ++ c :: post ∧ c ∉ pre ∧ pre.length = i := by
  constructor
  · intro h
    have hm : c ∈ s := Classical.not_not.mp fun hn => nomatch (indexOf_none_iff.mpr hn).symm.trans h
    obtain ⟨pre, post, rfl, hn⟩ := List.eq_append_cons_of_mem hm
    exact ⟨pre, post, rfl, hn, Option.some.inj ((indexOf_append_cons post hn).symm.trans h)⟩
  · rintro ⟨pre, post, rfl, hn, rfl⟩
    exact indexOf_append_cons post hn

theorem indexOf_ne {c d : Nat} {s : Bytes} {i j : Nat} (hcd : c ≠ d) (hi : indexOf c s = some i)
    (hj : indexOf d s = some j) : i ≠ j := by
  obtain ⟨p, q, rfl, -, rfl⟩ := indexOf_some_iff.mp hi
  obtain ⟨p', q', e, -, rfl⟩ := indexOf_some_iff.mp hj
  exact fun hl => hcd (List.head_eq_of_cons_eq (List.append_inj e hl).2)

theorem lastIndexOf_none_iff {c : Nat} {s : Bytes} : lastIndexOf c s = none ↔ c ∉ s := by
  induction s with
  | nil => exact ⟨fun _ => List.not_mem_nil, fun _ => rfl⟩
  | cons b r ih =>
    unfold lastIndexOf
    rw [List.mem_cons, not_or, ← ih]
    cases lastIndexOf c r with
    | some j => exact ⟨fun e => (nomatch e), fun e => (nomatch e.2)⟩
    | none =>
      by_cases h : b = c
      · exact ⟨fun e => (nomatch (if_pos h).symm.trans e), fun e => absurd h.symm e.1⟩
      · exact ⟨fun _ => ⟨Ne.symm h, rfl⟩, fun _ => if_neg h⟩

theorem lastIndexOf_append_cons {c : Nat} (pre : Bytes) {post : Bytes} (hn : c ∉ post) :
    lastIndexOf c (pre ++ c :: post) = some pre.length := by
  induction pre with
  | nil =>
    rw [List.nil_append, lastIndexOf, lastIndexOf_none_iff.mpr hn]
    exact if_pos rfl
  | cons b r ih =>
    rw [List.cons_append, lastIndexOf, ih]
    rfl

theorem lastIndexOf_some_iff {c : Nat} {s : Bytes} {i : Nat} :
    lastIndexOf c s = some i ↔ ∃ pre post, s = pre ++ c :: post ∧ c ∉ post ∧ pre.length = i := by
  constructor
  · intro h
    -- the last `c` of `s` is the first `c` of `s.reverse`, which core's `eq_append_cons_of_mem` finds
    have hm : c ∈ s.reverse :=
      List.mem_reverse.mpr (Classical.not_not.mp fun hn => nomatch (lastIndexOf_none_iff.mpr hn).symm.trans h)
    obtain ⟨a, b, e, hn⟩ := List.eq_append_cons_of_mem hm
    have hn' : c ∉ a.reverse := fun h => hn (List.mem_reverse.mp h)
    have e' : s = b.reverse ++ c :: a.reverse := by
      rw [← List.reverse_reverse s, e, List.reverse_append, List.reverse_cons, List.append_assoc, List.singleton_append]
    exact ⟨_, _, e', hn', Option.some.inj ((lastIndexOf_append_cons _ hn').symm.trans (e' ▸ h))⟩
  · rintro ⟨pre, post, rfl, hn, rfl⟩
    exact lastIndexOf_append_cons pre hn

theorem lastIndexOf_lt {c : Nat} {s : Bytes} {i : Nat} (h : lastIndexOf c s = some i) : i < s.length := by
  obtain ⟨p, q, rfl, -, rfl⟩ := lastIndexOf_some_iff.mp h
  rw [List.length_append, List.length_cons]
  exact Nat.lt_add_of_pos_right (Nat.succ_pos _)

theorem lastIndexOf_take {c : Nat} {m : Bytes} {n : Nat} (h : ∀ i, lastIndexOf c m = some i → i < n) :
    lastIndexOf c (m.take n) = lastIndexOf c m := by
  cases hl : lastIndexOf c m with
  | none => exact lastIndexOf_none_iff.mpr fun hm => lastIndexOf_none_iff.mp hl (List.mem_of_mem_take hm)
  | some i =>
    obtain ⟨p, q, rfl, hq, rfl⟩ := lastIndexOf_some_iff.mp hl
    rw [List.append_cons, List.take_append, List.take_of_length_le (List.length_append ▸ h _ hl),
      ← List.append_cons]
    exact lastIndexOf_append_cons p fun hm => hq (List.mem_of_mem_take hm)

theorem splitOn_eq (c : Nat) (s : Bytes) : splitOn c s = List.splitOn c s :=
  Split.eq_splitOn rfl (fun _ _ _ h => by simp [splitOn, h]) (fun _ _ _ _ hc h => by simp [splitOn, hc, h]) s

theorem parseTag_isSome_iff (op : LogOp) (item : Bytes) :
    (parseTag op item).isSome = true ↔ item.count 61 = 1 := by
  -- one '=' in `item`: `splitOn 61 item` has two pieces
  rw [← Nat.add_right_cancel_iff (n := 1), ← Split.length_splitOn, ← splitOn_eq, parseTag]
  rcases splitOn 61 item with _ | ⟨a, _ | ⟨b, _ | ⟨d, r⟩⟩⟩
  · exact ⟨fun e => absurd e Bool.false_ne_true, fun e => (nomatch e)⟩
  · exact ⟨fun e => absurd e Bool.false_ne_true, fun e => (nomatch e)⟩
  · exact ⟨fun _ => rfl, fun _ => rfl⟩
  · exact ⟨fun e => absurd e Bool.false_ne_true, fun e => (nomatch Nat.succ.inj (Nat.succ.inj e))⟩

theorem parseTags_isSome_iff (op : LogOp) (items : List Bytes) :
    (parseTags op items).isSome = true ↔ ∀ item ∈ items, item.count 61 = 1 := by
  induction items generalizing op with
  | nil => exact ⟨fun _ _ h => (nomatch h), fun _ => rfl⟩
  | cons item rest ih =>
    unfold parseTags
    rw [List.forall_mem_cons, ← parseTag_isSome_iff op]
    cases parseTag op item with
    | none => exact ⟨fun e => absurd e Bool.false_ne_true, fun e => absurd e.1 Bool.false_ne_true⟩
    | some p =>
      dsimp only
      rw [Option.isSome_map, ih p.1]
      exact ⟨fun h => ⟨rfl, h⟩, (·.2)⟩

/-- the text between the first '{' (at `ts`) and the first '}' (at `te`) -/
def inner (m : Bytes) (ts te : Nat) : Bytes := (m.drop (ts + 1)).take (te - (ts + 1))

theorem parseMetricTag_of_braces {m : Bytes} {ts te : Nat} (hs : indexOf 123 m = some ts) (he : indexOf 125 m = some te) :
    parseMetricTag m = if te < ts then .err else
      match parseTags .and (splitOn 44 (inner m ts te)) with
      | some fs => .ok (metricOf (m.take ts), fs)
      | none => .err := by
  unfold parseMetricTag inner
  rw [hs, he]
  rfl

theorem parseMetricTag_ok {m : Bytes} {ts te : Nat} (hs : indexOf 123 m = some ts) (he : indexOf 125 m = some te)
    (hlt : ts < te) (hall : ∀ item ∈ splitOn 44 (inner m ts te), item.count 61 = 1) :
    ∃ fs, parseMetricTag m = .ok (metricOf (m.take ts), fs) := by
  obtain ⟨fs, hfs⟩ := Option.isSome_iff_exists.mp ((parseTags_isSome_iff .and _).mpr hall)
  rw [parseMetricTag_of_braces hs he, if_neg (Nat.lt_asymm hlt), hfs]
  exact ⟨fs, rfl⟩

theorem metricOf_no_colon (pre : Bytes) : 58 ∉ metricOf pre := by
  unfold metricOf
  cases h : lastIndexOf 58 pre with
  | none => exact lastIndexOf_none_iff.mp h
  | some i =>
    obtain ⟨p, q, rfl, hn, rfl⟩ := lastIndexOf_some_iff.mp h
    dsimp only
    rw [List.drop_append, List.drop_of_length_le (Nat.le_succ _), Nat.add_sub_cancel_left]
    exact hn

/-- where the metric name started before the repair: behind the last ':' of the WHOLE text -/
def startOf (m : Bytes) : Nat :=
  match lastIndexOf 58 m with
  | some i => i + 1
  | none => 0

theorem startOf_le {m : Bytes} {n : Nat} (h : ∀ i, lastIndexOf 58 m = some i → i < n) : startOf m ≤ n := by
  unfold startOf
  cases hi : lastIndexOf 58 m with
  | none => exact Nat.zero_le n
  | some i => exact h i hi

theorem metricOf_take {m : Bytes} {n : Nat} (h : ∀ i, lastIndexOf 58 m = some i → i < n) :
    metricOf (m.take n) = (m.take n).drop (startOf m) := by
  unfold metricOf startOf
  rw [lastIndexOf_take h]
  cases lastIndexOf 58 m with
  | none => rfl
  | some i => rfl

/-- a ':' at or behind the first '{', or the first '}' in front of the first '{' -/
def OldPanics (m : Bytes) : Prop :=
  (∃ i ts, lastIndexOf 58 m = some i ∧ indexOf 123 m = some ts ∧ ts ≤ i) ∨
  (∃ ts te, indexOf 123 m = some ts ∧ indexOf 125 m = some te ∧ te < ts)

theorem old_panics {m : Bytes} (h : OldPanics m) : parseMetricTagOld m = .panic := by
  unfold parseMetricTagOld
  rcases h with ⟨i, ts, hi, hs, hle⟩ | ⟨ts, te, hs, he, hlt⟩
  · rw [hs, hi]
    exact if_pos (Nat.lt_succ_of_le hle)
  · rw [hs, he]
    -- if the test of the name's bounds does not panic already, the test of the braces does
    exact iteInduction (motive := (· = Outcome.panic)) (fun _ => rfl) fun _ => if_pos (Nat.lt_succ_of_lt hlt)

theorem old_eq_new {m : Bytes} (h : ¬ OldPanics m) : parseMetricTagOld m = parseMetricTag m := by
  unfold parseMetricTagOld parseMetricTag
  cases hs : indexOf 123 m with
  | none => exact if_neg (Nat.not_lt.mpr (startOf_le fun _ => lastIndexOf_lt))
  | some ts =>
    have h1 : ∀ i, lastIndexOf 58 m = some i → i < ts := fun i hi =>
      Nat.lt_of_not_le fun hle => h (.inl ⟨i, ts, hi, hs, hle⟩)
    refine (if_neg (Nat.not_lt.mpr (startOf_le h1))).trans ?_
    cases he : indexOf 125 m with
    | none => rfl
    | some te =>
      have hlt : ¬ te < ts := fun hlt => h (.inr ⟨ts, te, hs, he, hlt⟩)
      have hne : ts ≠ te := indexOf_ne (by decide) hs he
      dsimp only
      rw [if_neg hlt, if_neg fun h' => hlt (Nat.lt_of_le_of_ne (Nat.le_of_lt_succ h') hne.symm), metricOf_take h1]
      rfl

theorem hasSuffix_iff (s suf : Bytes) : hasSuffix s suf = true ↔ ∃ d, s = d ++ suf := by
  unfold hasSuffix
  rw [decide_eq_true_iff]
  constructor
  · exact fun h => ⟨s.take (s.length - suf.length), (List.take_append_drop _ s).symm.trans (congrArg _ h.2)⟩
  · rintro ⟨d, rfl⟩
    rw [List.length_append, Nat.add_sub_cancel]
    exact ⟨Nat.le_add_left _ _, List.drop_left⟩

theorem take_append_agoSuffix (d : Bytes) : (d ++ agoSuffix).take ((d ++ agoSuffix).length - 4) = d :=
  List.take_left' (List.length_append ▸ (Nat.add_sub_cancel ..).symm)

theorem ago_append (d : Bytes) :
    ago (d ++ agoSuffix) = if d = [] then .relErr else if durationOk d then .relOk else .relErr := by
  unfold ago
  rw [if_pos ((hasSuffix_iff _ _).mpr ⟨d, rfl⟩)]
  dsimp only
  rw [take_append_agoSuffix]

theorem agoOld_eq (s : Bytes) : agoOld s = if s = agoSuffix then .panic else ago s := by
  by_cases hs : hasSuffix s agoSuffix = true
  · obtain ⟨d, rfl⟩ := (hasSuffix_iff _ _).mp hs
    unfold agoOld
    rw [ago_append, if_pos hs]
    dsimp only
    rw [take_append_agoSuffix]
    by_cases hd : d = []
    · rw [hd]
      rfl
    · rw [if_neg hd, if_neg hd, if_neg fun e => hd (List.append_left_eq_self.mp e)]
  · unfold agoOld ago
    rw [if_neg hs, if_neg hs, if_neg]
    rintro rfl
    exact hs rfl

theorem durationOk_iff (d : Bytes) :
    durationOk d = true ↔ ∃ n u, d = n ++ [u] ∧ u ∈ timeUnits ∧ atoiOk n = true := by
  unfold durationOk
  constructor
  · intro h
    cases hl : d.getLast? with
    | none =>
      rw [hl] at h
      exact absurd h Bool.false_ne_true
    | some u =>
      obtain ⟨n, rfl⟩ := List.getLast?_eq_some_iff.mp hl
      rw [hl, List.dropLast_concat] at h
      have h := of_decide_eq_true h
      exact ⟨n, u, rfl, List.contains_iff_mem.mp h.1, h.2⟩
  · intro h
    obtain ⟨n, u, rfl, hu, hn⟩ := h
    rw [List.getLast?_concat, List.dropLast_concat]
    exact decide_eq_true ⟨List.contains_iff_mem.mpr hu, hn⟩

end SigModel.Lemmas.C17f
