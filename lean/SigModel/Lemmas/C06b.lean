/-
Helper lemmas for C06, dedup: the seen-map of the code (key ↦ count) against the history of earlier keys of
the specification; the Fetch loop over dedup; transfer between key functions that agree up to an injection; the two
collisions of the xor key the code had before the repair.  Core Lean only.
-/
import SigModel.Lemmas.C06
import SigModel.Lemmas.Assoc

namespace SigModel.Lemmas.C06
open SigModel.Pipe SigModel.Assoc

/-- the count `c` of `dedupSpecFrom`; `cons` = `o.consecutive` -/
def cnt [DecidableEq κ] (cons : Bool) (pre : List κ) (k : κ) : Nat :=
  if cons then (pre.takeWhile (fun x => decide (x = k))).length else pre.count k

theorem cnt_cons [DecidableEq κ] (cons : Bool) (pre : List κ) (k k' : κ) :
    cnt cons (k :: pre) k' = if k' = k then cnt cons pre k + 1 else (if cons then 0 else cnt cons pre k') := by
  refine iteInduction (fun h => ?_) fun h => ?_
  · subst h
    cases cons
    · exact List.count_cons_self
    · exact congrArg List.length (List.takeWhile_cons_of_pos (p := (decide <| · = k')) (decide_eq_true rfl))
  · cases cons
    · exact List.count_cons_of_ne (Ne.symm h)
    · exact congrArg List.length
        (List.takeWhile_cons_of_neg (p := (decide <| · = k')) fun e => h (of_decide_eq_true e).symm)

theorem lookup_seenSet (s : Seen) (k v k' : Nat) :
    (seenSet s k v).lookup k' = if k' = k then some v else s.lookup k' := by
  refine iteInduction (fun h => ?_) fun h => ?_
  · rw [h]
    exact isGet_listLookup.hit k v _
  · exact (isGet_listLookup.skip k' k v _ (Ne.symm h)).trans
      ((isGet_listLookup.get_filter (· != k) k' s).trans (if_pos (bne_iff_ne.2 h)))

def Rel (cons : Bool) (seen : Seen) (pre : List Nat) : Prop :=
  ∀ k, seen.lookup k = if cnt cons pre k = 0 then none else some (cnt cons pre k)

theorem seenBump_rel (limit : Nat) (seen : Seen) (k c : Nat) (h : seen.lookup k = if c = 0 then none else some c) :
    seenBump limit seen k = (decide (c ≥ max limit 1), seenSet seen k (c + 1)) := by
  dsimp only [seenBump]
  rw [h]
  cases c with
  | zero => exact congrArg (·, _) (decide_eq_false (Nat.not_le_of_lt (Nat.le_max_right limit 1))).symm
  -- a count in the map is at least 1, so it reaches `limit` exactly when it reaches `max limit 1`
  | succ n => exact congrArg (·, _) (decide_eq_decide.2 (Nat.max_le.trans (and_iff_left (Nat.succ_pos n))).symm)

theorem dedupRow_some (kf : List Val → Nat) (o : DedupOpts) (seen : Seen) (pre : List Nat) (r : Row) (k : Nat)
    (hk : rowKey kf o.fields r = some k) (hR : Rel o.consecutive seen pre) :
    Rel o.consecutive (dedupRow kf o seen r).1 (k :: pre) ∧
      (dedupRow kf o seen r).2 = decide (cnt o.consecutive pre k ≥ max o.limit 1) := by
  simp only [dedupRow, hk, seenBump_rel o.limit seen k _ (hR k), and_true]
  intro k'
  rw [cnt_cons]
  generalize o.consecutive = cons at hR ⊢
  -- consecutive: only the entry of `k` survives the filter, as `k` in front of the history ends the run of every other key
  by_cases h : k' = k
  · rw [if_pos h, h]
    cases cons
    · exact (lookup_seenSet ..).trans (if_pos rfl)
    · exact (isGet_listLookup.get_filter (· == k) ..).trans
        ((if_pos (beq_iff_eq.2 rfl)).trans ((lookup_seenSet ..).trans (if_pos rfl)))
  · rw [if_neg h]
    cases cons
    · exact (lookup_seenSet ..).trans ((if_neg h).trans (hR k'))
    · exact (isGet_listLookup.get_filter (· == k) ..).trans (if_neg fun e => h (beq_iff_eq.1 e))

theorem dedupRows_spec (kf : List Val → Nat) (o : DedupOpts) (t : Table) : ∀ (seen : Seen) (pre : List Nat),
    Rel o.consecutive seen pre →
    (dedupRows kf o seen t).2 = dedupSpecFrom (rowKey kf o.fields) o pre t := by
  intro seen pre hR
  fun_induction dedupSpecFrom (rowKey kf o.fields) o pre t generalizing seen with
  | case1 => rfl
  | case2 pre r t hk ih =>
    dsimp only [dedupRows, dedupRow]
    rw [hk]
    exact congrArg (_ ++ ·) (ih seen hR)
  | case3 pre r t k hk c ih =>
    obtain ⟨hR', hf⟩ := dedupRow_some kf o seen pre r k hk hR
    exact congr (congrArg (emitRow o · r ++ ·) hf) (ih _ hR')

theorem dedupRows_append (kf : List Val → Nat) (o : DedupOpts) (a b : Table) (seen : Seen) :
    (dedupRows kf o seen (a ++ b)).2 = (dedupRows kf o seen a).2 ++ (dedupRows kf o (dedupRows kf o seen a).1 b).2 := by
  induction a generalizing seen with
  | nil => rfl
  | cons r t ih => exact (congrArg (_ ++ ·) (ih _)).trans (List.append_assoc ..).symm

theorem dedup_pass (kf : List Val → Nat) (o : DedupOpts) (hf : o.fields ≠ []) (parts : List Table) (seen : Seen) :
    ((pass (dedupProc kf o) true seen parts).2).flatten = (dedupRows kf o seen parts.flatten).2 := by
  obtain ⟨fields, limit, cons, ke, kv⟩ := o
  cases fields with
  | nil => exact absurd rfl hf
  | cons f fs =>
    exact pass_flatten _ (fun s t => (dedupRows kf _ s t).2) (fun _ => ⟨rfl, rfl⟩)
      (fun s b t => ⟨dedupRows_append kf _ b t s, Bool.noConfusion⟩) parts seen

/-- the histories are related through the counts of corresponding keys only (`hpre`): that is what the induction carries -/
theorem spec_congr [DecidableEq κ] [DecidableEq κ'] (g : κ → κ') (key : Row → Option κ) (key' : Row → Option κ')
    (o : DedupOpts) (P : κ → Prop) (hkey : ∀ r, key' r = (key r).map g)
    (hinj : ∀ x y, P x → P y → g x = g y → x = y) (t : Table) (pre : List κ) (pre' : List κ')
    (hpre : ∀ x, P x → cnt o.consecutive pre' (g x) = cnt o.consecutive pre x)
    (hP : ∀ r, r ∈ t → ∀ x, key r = some x → P x) :
    dedupSpecFrom key' o pre' t = dedupSpecFrom key o pre t := by
  induction t generalizing pre pre' with
  | nil => rfl
  | cons r t ih =>
    obtain ⟨hr, ht⟩ := List.forall_mem_cons.1 hP
    dsimp only [dedupSpecFrom]
    rw [hkey]
    cases hk : key r with
    | none => exact congrArg (_ ++ ·) (ih pre pre' hpre ht)
    | some k =>
      have Pk := hr k hk
      refine congr (congrArg (fun c s => emitRow o (decide (c ≥ max o.limit 1)) r ++ s) (hpre k Pk))
        (ih _ _ (fun x Px => ?_) ht)
      rw [cnt_cons, cnt_cons, hpre k Pk, hpre x Px]
      exact ite_cond_congr (propext ⟨hinj x k Px Pk, congrArg g⟩)

theorem rowKey_map (g : List Val → κ) (fs : List String) (r : Row) :
    rowKey g fs r = (rowKey (fun vs => vs) fs r).map g := by
  dsimp only [rowKey]
  symm
  exact apply_ite (Option.map g) ..

theorem rowKey_length (fs : List String) (r : Row) (vs : List Val)
    (h : rowKey (fun vs => vs) fs r = some vs) : vs.length = fs.length := by
  dsimp only [rowKey] at h
  split at h
  · cases h
  · cases h
    exact List.length_map ..

/-- the code's key is a hash `kf` of the tuple of field values, the documented one the tuple itself; that `kf` has no
collision among the tuples at hand is assumed (`hinj`), not proved -/
theorem dedup_key_congr (kf : List Val → Nat) (o : DedupOpts) (t : Table) (P : List Val → Prop)
    (hinj : ∀ x y, P x → P y → kf x = kf y → x = y)
    (hPt : ∀ r, r ∈ t → ∀ x, rowKey (fun vs => vs) o.fields r = some x → P x) :
    dedupSpec (rowKey kf o.fields) o t = dedupSpec (rowKey (fun vs => vs) o.fields) o t :=
  spec_congr kf _ _ o P (rowKey_map kf o.fields) hinj t [] [] (fun _ _ => by cases o.consecutive <;> rfl) hPt

theorem xorKeyOld_swap (h : Val → Nat) (a b : Val) : xorKeyOld h [a, b] = xorKeyOld h [b, a] := by
  dsimp only [xorKeyOld, List.foldl]
  rw [Nat.zero_xor, Nat.zero_xor, Nat.xor_comm]

theorem xorKeyOld_pair_self (h : Val → Nat) (a : Val) : xorKeyOld h [a, a] = 0 := by
  dsimp only [xorKeyOld, List.foldl]
  rw [Nat.zero_xor, Nat.xor_self]

end SigModel.Lemmas.C06
