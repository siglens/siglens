/-
Every run reaches EOF within `fuelBound` Fetch calls, in both modes and for every input (no well-formedness, no
unique block ids): a Fetch that does not report EOF lowers the measure `mu`.  This is `fetchRRCs` with the
`lastBlocks` repair (the last round hands out everything kept back); the one input condition is what the Go types
give: timestamps are uint64 (needed in oldest-first mode only, where the last round's end time is math.MaxUint64).
At the end, for the scheduler before the repair: a Fetch that changes nothing repeats for ever.  Core Lean only.
-/
import SigModel.Lemmas.C05c

namespace SigModel.Lemmas.C05
open SigModel.Sched

-- as in C05c
attribute [local irreducible] getFilteredBlocks

/-- `≤` where `pending_split` (C05d) has a permutation: with repeated block ids or blocks outside their segment's
range some blocks are lost, never gained -/
theorem pending_refillTo_le (m : Mode) (st : St) (c : Nat) (ga : Bool) :
    (newBlocks m st c).1.length + (pending (refillTo m st c ga)).length ≤ (pending st).length :=
  have h1 : (newBlocks m st c).1.Sublist ((pending st).filter fun b => (newBlocks m st c).2.contains b.id) :=
    sublist_filter (newBlocks_sublist m st c) fun b hb => List.contains_iff_mem.mpr (gf_ids m _ _ _ b hb)
  have h2 : (pending (refillTo m st c ga)).Sublist
      ((pending st).filter fun b => !(newBlocks m st c).2.contains b.id) :=
    sublist_filter (pending_refillTo_sublist m st c ga) fun _ hb => (List.mem_filter.mp hb).2
  Nat.le_trans (Nat.add_le_add h1.length_le h2.length_le)
    (Nat.le_of_eq (List.length_append ▸ (List.filter_append_perm _ _).length_eq))

def load (st : St) : Nat := st.unproc.length + st.remaining.length + (pending st).length

def kept (st : St) : Nat := if st.unsent.isEmpty then 0 else 1

def mu (st : St) : Nat := 2 * load st + kept st

theorem kept_le_one (st : St) : kept st ≤ 1 := by
  unfold kept
  cases st.unsent.isEmpty
  · exact Nat.le_refl 1
  · exact Nat.zero_le 1

theorem load_refillTo (m : Mode) (st : St) (c : Nat) (ga : Bool) {k : Nat}
    (hu : (refillTo m st c ga).unproc.length + k ≤ st.unproc.length) : load (refillTo m st c ga) + k ≤ load st := by
  have hlen : (refillTo m st c ga).remaining.length = st.remaining.length + (newBlocks m st c).1.length :=
    (sortBy_perm m _ _).length_eq.trans (List.length_append.trans (Nat.add_comm _ _))
  unfold load
  -- regroup the left side as (unproc' + k) + (remaining + (new + pending'))
  rw [hlen, Nat.add_right_comm _ _ k, Nat.add_right_comm _ _ k, Nat.add_assoc _ _ (pending _).length,
    Nat.add_assoc st.remaining.length, Nat.add_assoc st.unproc.length]
  exact Nat.add_le_add hu (Nat.add_le_add_left (pending_refillTo_le m st c ga) _)

theorem load_refill (m : Mode) (st : St) : load (refill m st) ≤ load st ∧
    (st.gotBlocks = false → st.unproc ≠ [] → load (refill m st) + 1 ≤ load st) := by
  refine refill_cases (fun s => load s ≤ load st ∧ (st.gotBlocks = false → st.unproc ≠ [] → load s + 1 ≤ load st))
    m st (fun hgb => ⟨Nat.le_refl _, fun h => absurd (h.symm.trans hgb) Bool.false_ne_true⟩) fun _ =>
    ⟨Nat.le_trans (Nat.le_add_right _ 0) (load_refillTo m st _ _ (List.length_filter_le _ _)),
      fun _ hne => load_refillTo m st _ _ ?_⟩
  -- the front request is processed completely: it leaves the list
  obtain ⟨front, tl, hun⟩ := List.exists_cons_of_ne_nil hne
  exact List.length_filter_lt_length_iff_exists.mpr ⟨front, hun ▸ List.mem_cons_self, by
    rw [nextCutoff, hun, willProcessQSRCompletely, before_irrefl]; exact Bool.false_ne_true⟩

theorem load_fNext (m : Mode) (mb : Nat) (st : St) :
    load (fNext m mb st) + (getNextBlocks m st.remaining mb).1.length = load st := by
  have := next_length_le m st.remaining mb
  show st.unproc.length + (st.remaining.drop _).length + (pending st).length + _ = _
  rw [List.length_drop, Nat.add_right_comm, Nat.add_assoc st.unproc.length, Nat.sub_add_cancel this]
  rfl

/-- holds between Fetch calls: a round that leaves no block resets gotBlocks -/
def GbRem (st : St) : Prop := st.gotBlocks = true → st.remaining ≠ []

theorem gbRem_init (m : Mode) (segs : List Seg) : GbRem (init m segs) := nofun

theorem gbRem_fNext (m : Mode) (mb : Nat) (st : St) : GbRem (fNext m mb st) := fun hg hnil =>
  have hc : ((fNext m mb st).remaining.isEmpty || fEnd m mb st == st.cutoff) = true :=
    congrArg (fun l : List Block => l.isEmpty || fEnd m mb st == st.cutoff) hnil
  Bool.noConfusion (hg.symm.trans (if_pos hc))

theorem flush_keeps (m : Mode) (x : Rec) (hfit : m = .recentLast → x.2 ≤ maxU64) :
    (!m.before (flushEnd m) x.2) = true := by
  rw [Bool.not_eq_true']
  cases m with
  | recentFirst => exact (rf_false _ _).mpr (Nat.zero_le _)
  | recentLast => exact (rl_false _ _).mpr (hfit rfl)

theorem fNext_flush (m : Mode) (mb : Nat) (st : St) (hrem : st.remaining = []) (hga : st.gotAll = true)
    (hfit : m = .recentLast → ∀ r ∈ st.unsent, r.2 ≤ maxU64) : (fNext m mb st).unsent = [] := by
  have hmerged : fMerged m mb st = st.unsent := by
    unfold fMerged
    rw [hrem]
    rfl
  rw [fNext_unsent, ← drop_takeWhile_length, hmerged, fEnd_last m mb st (fLast_of_nil m mb st hrem hga),
    takeWhile_all _ _ (fun x hx => flush_keeps m x (fun hm => hfit hm x hx))]
  exact List.drop_length

theorem mu_lt {l₂ l₀ f₂ f₀ : Nat} (hk : f₂ ≤ 1) (h : l₂ + 1 ≤ l₀ ∨ l₂ ≤ l₀ ∧ f₂ = 0 ∧ f₀ = 1) :
    2 * l₂ + f₂ < 2 * l₀ + f₀ :=
  h.elim
    -- 2·l₂ + f₂ < 2·l₂ + 2 = 2·(l₂ + 1) ≤ 2·l₀
    (fun h => Nat.lt_of_lt_of_le (Nat.add_lt_add_left (Nat.lt_succ_of_le hk) _)
      (Nat.le_trans (Nat.mul_le_mul_left 2 h) (Nat.le_add_right _ _)))
    fun ⟨h, h2, h0⟩ => h2 ▸ h0 ▸ Nat.lt_succ_of_le (Nat.mul_le_mul_left 2 h)

theorem fetch_mu (m : Mode) (segs : List Seg) (hfit : m = .recentLast → ∀ r ∈ allRecs segs, r.2 ≤ maxU64)
    (mb : Nat) (st : St) (h : Inv m segs st) (hg : GbRem st) (hne : atEOF (refill m st) = false) :
    mu (fNext m mb (refill m st)) < mu st := by
  have hr := load_refill m st
  have hn := load_fNext m mb (refill m st)
  have take : 1 ≤ (getNextBlocks m (refill m st).remaining mb).1.length →
      load (fNext m mb (refill m st)) + 1 ≤ load st :=
    fun hpos => Nat.le_trans (Nat.add_le_add_left hpos _) (Nat.le_trans (Nat.le_of_eq hn) hr.1)
  -- the round takes a block, or the refill removed a segment request, or the last round hands out what was kept back
  refine mu_lt (kept_le_one _) ?_
  cases hgb : st.gotBlocks with
  | true => exact .inl (take (next_pos m _ mb (by rw [refill_eq, if_pos hgb]; exact hg hgb)))
  | false =>
    by_cases hun : st.unproc = []
    · by_cases hrem : (refill m st).remaining = []
      · -- no request is listed: the refill has set gotAllSegments
        have hga : (refill m st).gotAll = true := by
          rw [refill_eq, hgb, hun]
          rfl
        have hflush := fNext_flush m mb (refill m st) hrem hga
          (fun hm r hr' => hfit hm r ((refill_inv m segs st h).unsent_sub r hr'))
        rw [atEOF, hrem, hga, refill_unsent] at hne
        have hu : st.unsent.isEmpty = false := (Bool.and_true _).symm.trans ((Bool.true_and _).symm.trans hne)
        exact .inr ⟨Nat.le_trans (Nat.le.intro hn) hr.1, by rw [kept, hflush]; rfl, by rw [kept, hu]; rfl⟩
      · exact .inl (take (next_pos m _ mb hrem))
    · exact .inl (Nat.le_trans (Nat.succ_le_succ (Nat.le.intro hn)) (hr.2 hgb hun))

theorem run_eof (m : Mode) (segs : List Seg) (hfit : m = .recentLast → ∀ r ∈ allRecs segs, r.2 ≤ maxU64)
    (mb : Nat) (fuel : Nat) (st : St) (h : Inv m segs st) (hg : GbRem st) (hlt : mu st < fuel) :
    (runFetch m mb fuel st).2 = true := by
  induction fuel generalizing st with
  | zero => exact absurd hlt (Nat.not_lt_zero _)
  | succ fuel ih =>
    rw [runFetch_succ]
    cases hne : atEOF (refill m st) with
    | true => rfl
    | false =>
      exact ih _ (fNext_inv m mb segs _ (refill_inv m segs st h)) (gbRem_fNext m mb _)
        (Nat.lt_of_lt_of_le (fetch_mu m segs hfit mb st h hg hne) (Nat.le_of_lt_succ hlt))

theorem mu_init (m : Mode) (segs : List Seg) : mu (init m segs) = 2 * (segs.length + (allBlocks segs).length) := by
  have h1 : (sortSegs m segs).length = segs.length := (sortBy_perm m _ segs).length_eq
  have h2 : ((sortSegs m segs).flatMap (·.blocks)).length = (allBlocks segs).length :=
    ((sortBy_perm m _ segs).flatMap_right _).length_eq
  show 2 * ((sortSegs m segs).length + 0 + (pending (init m segs)).length) + 0 = _
  rw [pending_init, h1, h2]
  rfl

theorem init_eof (m : Mode) (segs : List Seg) (hfit : m = .recentLast → ∀ r ∈ allRecs segs, r.2 ≤ maxU64)
    (mb : Nat) : (runFetch m mb (fuelBound segs) (init m segs)).2 = true :=
  run_eof m segs hfit mb _ _ (inv_init m segs) (gbRem_init m segs)
    (mu_init m segs ▸ Nat.lt_add_of_pos_right (by decide))

theorem stuck_forever_old (m : Mode) (mb : Nat) (st : St) (h : fetchOld m mb st = some ([], st)) (fuel : Nat) :
    (runFetchOld m mb fuel st).2 = false ∧ (runFetchOld m mb fuel st).1.flatten = [] := by
  induction fuel with
  | zero => exact ⟨rfl, rfl⟩
  | succ fuel ih =>
    rw [runFetchOld, h]
    exact ih

theorem runOld_step {m : Mode} {mb : Nat} {st st' : St} {out : List Rec} {x : Rec}
    (h : fetchOld m mb st = some (out, st')) (hx : x ∉ out)
    (hst : ∀ fuel, (runFetchOld m mb fuel st').2 = false ∧ x ∉ (runFetchOld m mb fuel st').1.flatten) (fuel : Nat) :
    (runFetchOld m mb fuel st).2 = false ∧ x ∉ (runFetchOld m mb fuel st).1.flatten := by
  cases fuel with
  | zero => exact ⟨rfl, List.not_mem_nil⟩
  | succ fuel =>
    rw [runFetchOld, h]
    exact ⟨(hst fuel).1, fun hm => (List.mem_append.mp hm).elim hx (hst fuel).2⟩

end SigModel.Lemmas.C05
