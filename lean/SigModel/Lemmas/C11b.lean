/-
The list functions of the machine (`dedup`, `blocksOf`, `snapOf`, `dedupKey`) by membership and distinctness, and what
a query knows: the invariant `QInv` of one query of the interleaving machine (`Cfg.of d`).  It speaks of the query's
own entry and of the flush history and the rotated map, which only grow under the steps of the other threads
(`QInv.mono`): no loss (snapshots and result), the shape of the result, keys of each snapshot pairwise distinct.
-/
import SigModel.Lemmas.C11
namespace SigModel.Lemmas.C11
open SigModel.Conc

variable {d : Bool}

theorem mem_dedup {α : Type} [DecidableEq α] (a : α) (l : List α) : a ∈ dedup l ↔ a ∈ l := by
  induction l with
  | nil => rfl
  | cons b l ih =>
    rw [dedup, List.mem_cons, ← ih]
    split
    · next hb => exact ⟨.inr, fun h => h.elim (fun e => e ▸ hb) id⟩
    · exact List.mem_cons

theorem nodup_dedup {α : Type} [DecidableEq α] (l : List α) : (dedup l).Nodup := by
  induction l with
  | nil => exact List.nodup_nil
  | cons b l ih =>
    rw [dedup]
    split
    · exact ih
    · next hb => exact List.nodup_cons.mpr ⟨hb, ih⟩

theorem mem_blocksOf (g g' : Seg) (n k : Nat) : (g', k) ∈ blocksOf g n ↔ g' = g ∧ k < n := by
  simp only [blocksOf, List.mem_map, List.mem_range, Prod.mk.injEq]
  constructor
  · rintro ⟨a, ha, h1, h2⟩; subst h1; subst h2; exact ⟨rfl, ha⟩
  · rintro ⟨h1, h2⟩; exact ⟨k, h2, h1.symm, rfl⟩

theorem nodup_blocksOf (g : Seg) (n : Nat) : (blocksOf g n).Nodup :=
  List.Pairwise.map _ (fun _ _ h e => h (congrArg Prod.snd e)) List.nodup_range

theorem mem_snapOf (s : St) (f : Seg → Nat) (g : Seg) (n : Nat) :
    (g, n) ∈ snapOf s f ↔ g ∈ s.segs ∧ f g ≠ 0 ∧ n = f g :=
  List.mem_map.trans
    ⟨fun ⟨_, hx, e⟩ => by
      obtain ⟨h1, h2⟩ := List.mem_filter.mp hx
      cases e
      exact ⟨h1, of_decide_eq_true h2, rfl⟩,
     fun ⟨h1, h2, e⟩ => ⟨g, List.mem_filter.mpr ⟨h1, decide_eq_true h2⟩, e ▸ rfl⟩⟩

theorem nodup_snapOf_keys (s : St) (f : Seg → Nat) (h : s.segs.Nodup) :
    ((snapOf s f).map Prod.fst).Nodup := by
  rw [snapOf, List.map_map, show Prod.fst ∘ (fun g => (g, f g)) = id from rfl, List.map_id]
  exact List.Nodup.sublist List.filter_sublist h

theorem nodup_flatMap_blocksOf (l : List (Seg × Nat)) (h : (l.map Prod.fst).Nodup) :
    (l.flatMap (fun r => blocksOf r.1 r.2)).Nodup :=
  List.pairwise_flatMap.mpr ⟨fun r _ => nodup_blocksOf r.1 r.2,
    (List.pairwise_map.mp h).imp fun hne x hx y hy e =>
      hne (((mem_blocksOf _ x.1 _ x.2).mp hx).1.symm.trans
        ((congrArg Prod.fst e).trans ((mem_blocksOf _ y.1 _ y.2).mp hy).1))⟩

theorem dedupKey_keys (l : List (Seg × Nat)) : (dedupKey l).map Prod.fst = dedup (l.map Prod.fst) := by
  induction l with
  | nil => rfl
  | cons r l ih =>
    rw [dedupKey, List.map_cons, dedup, ← ih]
    by_cases hr : r.1 ∈ (dedupKey l).map Prod.fst
    · rw [if_pos hr, if_pos]
      obtain ⟨r', h1, h2⟩ := List.mem_map.mp hr
      exact List.any_eq_true.mpr ⟨r', h1, decide_eq_true h2⟩
    · rw [if_neg hr, if_neg, List.map_cons]
      intro c
      obtain ⟨r', h1, h2⟩ := List.any_eq_true.mp c
      exact hr (List.mem_map.mpr ⟨r', h1, of_decide_eq_true h2⟩)

theorem key_mem_dedupKey (l : List (Seg × Nat)) (g : Seg) (h : ∃ r ∈ l, r.1 = g) :
    ∃ r ∈ dedupKey l, r.1 = g :=
  List.mem_map.mp (dedupKey_keys l ▸ (mem_dedup g _).mpr (List.mem_map.mpr h))

theorem nodup_dedupKey_keys (l : List (Seg × Nat)) : ((dedupKey l).map Prod.fst).Nodup :=
  dedupKey_keys l ▸ nodup_dedup _

theorem dedupKey_of_nodup (l : List (Seg × Nat)) (h : (l.map Prod.fst).Nodup) : dedupKey l = l := by
  induction l with
  | nil => rfl
  | cons r l ih =>
    rw [List.map_cons, List.nodup_cons] at h
    rw [dedupKey, ih h.2, if_neg]
    intro ha
    obtain ⟨x, hx, hxr⟩ := List.any_eq_true.mp ha
    exact h.1 (List.mem_map.mpr ⟨x, hx, of_decide_eq_true hxr⟩)

/-- `dedupKey` in the words of the source (`removeQSRsAlsoRotated`, then the append), for lists with distinct keys -/
theorem dedupKey_append (U R : List (Seg × Nat)) (hU : (U.map Prod.fst).Nodup) (hR : (R.map Prod.fst).Nodup) :
    dedupKey (U ++ R) = U.filter (fun r => !R.any fun r' => r'.1 = r.1) ++ R := by
  induction U with
  | nil => exact dedupKey_of_nodup R hR
  | cons r U ih =>
    obtain ⟨h1, h2⟩ := List.nodup_cons.mp hU
    have hr : ((U.filter fun r => !R.any fun r' => r'.1 = r.1).any fun r' => r'.1 = r.1) = false :=
      List.any_eq_false.mpr fun x hx e =>
        h1 (List.mem_map.mpr ⟨x, (List.mem_filter.mp hx).1, of_decide_eq_true e⟩)
    rw [List.cons_append, dedupKey, ih h2, List.any_append, hr, Bool.false_or, List.filter_cons]
    cases R.any fun r' => r'.1 = r.1 <;> rfl

/-- the `qsrs` of `readResult` -/
def qsrsOf (d : Bool) (q : Query) : List (Seg × Nat) :=
  if d then dedupKey (q.snapU ++ q.snapR) else q.snapU ++ q.snapR

theorem readResult_eq (d : Bool) (s : St) (q : Query) :
    readResult (Cfg.of d) s q =
      match q.kind with
      | .rrc => dedup ((qsrsOf d q).flatMap (fun r => blocksOf r.1 (nowCount s r.1)))
      | .stats => (qsrsOf d q).flatMap (fun r => blocksOf r.1 r.2) :=
  rfl

/-- `seenU` is why the second snapshot suffices: a block the unrotated snapshot has missed is in the rotated map,
which only grows -/
structure QStarted (d : Bool) (q : Query) (total rot : Seg → Nat) : Prop where
  todoOk : q.todo = [.snapR] ∨ q.todo = []
  pre_le : ∀ g, q.pre g ≤ total g
  seenU : ∀ g k, k < q.pre g → (∃ n, (g, n) ∈ q.snapU ∧ k < n) ∨ k < rot g
  seenR : q.todo = [] → ∀ g k, k < q.pre g → ∃ n, (g, n) ∈ qsrsOf d q ∧ k < n

structure QFinished (d : Bool) (q : Query) : Prop where
  started : q.started = true
  res : ∀ g k, k < q.pre g → (g, k) ∈ q.result
  resRrc : q.kind = .rrc → q.result.Nodup
  resStats : q.kind = .stats → q.result = (qsrsOf d q).flatMap (fun r => blocksOf r.1 r.2)

structure QInv (d : Bool) (q : Query) (total rot : Seg → Nat) : Prop where
  started : q.started = true → QStarted d q total rot
  finished : q.finished = true → QFinished d q
  keysU : (q.snapU.map Prod.fst).Nodup
  keysR : (q.snapR.map Prod.fst).Nodup
  posU : ∀ r ∈ q.snapU, r.2 ≠ 0
  posR : ∀ r ∈ q.snapR, r.2 ≠ 0

theorem qinv_init (total rot : Seg → Nat) : QInv d {} total rot :=
  ⟨Bool.noConfusion, Bool.noConfusion, List.nodup_nil, List.nodup_nil, List.forall_mem_nil _, List.forall_mem_nil _⟩

theorem QInv.not_finished {q : Query} {total rot : Seg → Nat} (hq : QInv d q total rot)
    (h : q.started = false) : q.finished = false :=
  Bool.eq_false_iff.mpr fun hf => absurd ((hq.finished hf).started.symm.trans h) Bool.noConfusion

theorem QInv.mono {q : Query} {total rot total' rot' : Seg → Nat} (hq : QInv d q total rot)
    (ht : ∀ g, total g ≤ total' g) (hr : ∀ g, rot g ≤ rot' g) : QInv d q total' rot' :=
  { hq with
    started := fun h =>
      have hs := hq.started h
      ⟨hs.todoOk, fun g => Nat.le_trans (hs.pre_le g) (ht g),
        fun g k hk => (hs.seenU g k hk).imp_right fun h2 => Nat.lt_of_lt_of_le h2 (hr g), hs.seenR⟩ }

theorem visible (s : St) (hs : Inv s) (g : Seg) (k : Nat) (hk : k < s.total g) :
    (s.unrot g ≠ 0 ∧ k < s.unrot g) ∨ k < s.rot g := by
  rcases hs.key g with ⟨hu, _⟩ | ⟨hu, _⟩ | ⟨_, hr⟩
  · exact .inl ⟨hu ▸ Nat.ne_zero_of_lt hk, hu ▸ hk⟩
  · exact .inl ⟨hu ▸ Nat.ne_zero_of_lt hk, hu ▸ hk⟩
  · exact .inr (hr ▸ hk)

theorem rot_le_total (s : St) (hs : Inv s) (g : Seg) : s.rot g ≤ s.total g :=
  (hs.rot_all_or_none g).elim Nat.le_of_eq fun h => h ▸ Nat.zero_le _

theorem mem_snapOf_of_ne_zero (s : St) (hs : Inv s) (f : Seg → Nat) (g : Seg) (k : Nat) (hk : k < s.total g)
    (hf : f g ≠ 0) : (g, f g) ∈ snapOf s f :=
  (mem_snapOf s f g (f g)).mpr ⟨(hs.segs_mem g).mpr (Nat.ne_of_gt (Nat.zero_lt_of_lt hk)), hf, rfl⟩

theorem snapOf_pos (s : St) (f : Seg → Nat) : ∀ r ∈ snapOf s f, r.2 ≠ 0 := by
  intro ⟨g, n⟩ hr
  rw [mem_snapOf] at hr
  exact hr.2.2 ▸ hr.2.1

theorem qinv_own (s : St) (hs : Inv s) (j : Nat) (k : Bool) (hq : QInv d (s.query j) s.total s.rot) :
    QInv d (qStep (Cfg.of d) s j k |>.query j) s.total s.rot := by
  cases h1 : (s.query j).finished
  case true => rw [qStep_finished h1]; exact hq
  have nf : ∀ {p : Prop}, (s.query j).finished = true → p := fun h => absurd (h1.symm.trans h) Bool.noConfusion
  cases h2 : (s.query j).started
  case false =>
    rw [qStep_first h1 h2, query_upd]
    refine { hq with
      started := fun _ =>
        ⟨.inl rfl, fun _ => Nat.le_refl _, fun g n hn => ?_, fun c => absurd c (List.cons_ne_nil _ _)⟩
      finished := nf
      keysU := nodup_snapOf_keys s s.unrot hs.segs_nodup
      posU := snapOf_pos s s.unrot }
    exact (visible s hs g n hn).imp_left fun h4 => ⟨s.unrot g, mem_snapOf_of_ne_zero s hs _ g n hn h4.1, h4.2⟩
  have hst := hq.started h2
  rcases hst.todoOk with h3 | h3
  · rw [qStep_snap h1 h2 h3, query_upd]
    have hkR := nodup_snapOf_keys s s.rot hs.segs_nodup
    refine { hq with
      started := fun _ => { hst with todoOk := .inr rfl, seenR := fun _ g n hn => ?_ }
      finished := nf
      keysR := hkR
      posR := snapOf_pos s s.rot }
    have hnt := Nat.lt_of_lt_of_le hn (hst.pre_le g)
    -- the rotated request wins; the unrotated one counts when the rotated snapshot has none for the key
    have hd := dedupKey_append (s.query j).snapU (snapOf s s.rot) hq.keysU hkR
    by_cases hr0 : s.rot g = 0
    · obtain ⟨m, hm, hlt⟩ := (hst.seenU g n hn).resolve_right (hr0 ▸ Nat.not_lt_zero n)
      refine ⟨m, ?_, hlt⟩
      cases d
      · exact List.mem_append_left _ hm
      · show _ ∈ dedupKey ((s.query j).snapU ++ snapOf s s.rot)
        rw [hd]
        refine List.mem_append_left _ (List.mem_filter.mpr ⟨hm, ?_⟩)
        rw [Bool.not_eq_true', List.any_eq_false]
        intro r hr c
        exact ((mem_snapOf s s.rot r.1 r.2).mp hr).2.1 (of_decide_eq_true c ▸ hr0)
    · have hrt : s.rot g = s.total g := (hs.rot_all_or_none g).resolve_right hr0
      have hm := mem_snapOf_of_ne_zero s hs _ g n hnt hr0
      refine ⟨s.rot g, ?_, hrt ▸ hnt⟩
      cases d
      · exact List.mem_append_right _ hm
      · show _ ∈ dedupKey ((s.query j).snapU ++ snapOf s s.rot)
        rw [hd]
        exact List.mem_append_right _ hm
  · rw [qStep_read h1 h2 h3, query_upd, readResult_eq]
    refine { hq with started := fun _ => { hst with }, finished := fun _ => ⟨h2, fun g n hn => ?_, ?_, ?_⟩ }
    · obtain ⟨m, hm, hlt⟩ := hst.seenR h3 g n hn
      show (g, n) ∈ (match (s.query j).kind with | .rrc => _ | .stats => _)
      cases (s.query j).kind
      · have hvis : n < nowCount s g := nowCount_eq_total s hs g ▸ Nat.lt_of_lt_of_le hn (hst.pre_le g)
        exact (mem_dedup ..).mpr (List.mem_flatMap.mpr ⟨(g, m), hm, (mem_blocksOf ..).mpr ⟨rfl, hvis⟩⟩)
      · exact List.mem_flatMap.mpr ⟨(g, m), hm, (mem_blocksOf ..).mpr ⟨rfl, hlt⟩⟩
    · intro (hk : (s.query j).kind = .rrc)
      rw [hk]; exact nodup_dedup _
    · intro (hk : (s.query j).kind = .stats)
      rw [hk]; rfl

theorem qinv_step (s : St) (hs : Inv s) (l : Label) (j : Nat) (hq : QInv d (s.query j) s.total s.rot) :
    QInv d ((step (Cfg.of d) s l).query j) (step (Cfg.of d) s l).total (step (Cfg.of d) s l).rot := by
  refine QInv.mono ?_ (fun g => (step_mono s hs l g).1) fun g => (step_mono s hs l g).2
  by_cases h : ∃ k, l = .q j k
  · obtain ⟨k, rfl⟩ := h
    exact qinv_own s hs j k hq
  · rw [query_frame s l j fun k hk => h ⟨k, hk⟩]
    exact hq

theorem qinv_run (ls : List Label) (j : Nat) :
    QInv d ((run (Cfg.of d) init ls).query j) (run (Cfg.of d) init ls).total (run (Cfg.of d) init ls).rot :=
  run_induction (fun s => QInv d (s.query j) s.total s.rot) init ls inv_init (qinv_init _ _)
    (fun s l hs hq => qinv_step s hs l j hq)

end SigModel.Lemmas.C11
