/- C12: the float64 index `float64(p·(n−1)) / float64(100)` of `FindPercentileData` (`pctIndex`) never exceeds `n−1`, so
   that ⌈k⌉ is a valid index (arrays of fewer than 2^52/100 elements: below 2^52 `Dy.ofNat` is exact). -/
import SigModel.Model.Trace

namespace SigModel.Lemmas.C12
open SigModel.Trace

theorem lg2_eq_min : ∀ f n : Nat, lg2 f n = min f n.log2
  | 0, _ => (Nat.zero_min _).symm
  | f + 1, n => by
    rw [lg2, Nat.log2_def]
    split
    · rw [lg2_eq_min f, Nat.succ_min_succ]
    · exact (Nat.min_zero _).symm

theorem lg2_lt {f n k : Nat} (h0 : n ≠ 0) (h : n < 2 ^ k) : lg2 f n < k :=
  lg2_eq_min f n ▸ Nat.lt_of_le_of_lt (Nat.min_le_right _ _) ((Nat.log2_lt h0).2 h)

theorem le_lg2 {f n k : Nat} (h0 : n ≠ 0) (hk : k ≤ f) (h : 2 ^ k ≤ n) : k ≤ lg2 f n :=
  lg2_eq_min f n ▸ Nat.le_min.2 ⟨hk, (Nat.le_log2 h0).2 h⟩

/-- round-to-nearest-even of n/d -/
def roundDiv (n d : Nat) : Nat :=
  if 2 * (n % d) > d || (2 * (n % d) == d && (n / d) % 2 == 1) then n / d + 1 else n / d

theorem roundDiv_le {n d M : Nat} (hd : 0 < d) (h : n ≤ M * d) : roundDiv n d ≤ M := by
  have hq : n / d ≤ M := Nat.div_le_of_le_mul (Nat.mul_comm M d ▸ h)
  unfold roundDiv
  split
  · rename_i hr
    simp only [Bool.or_eq_true, decide_eq_true_eq, Bool.and_eq_true, beq_iff_eq] at hr
    have := Nat.div_add_mod n d
    rw [Nat.mul_comm] at this
    -- rounding up needs a remainder `n % d > 0`, so `n / d · d < n ≤ M · d`
    exact Nat.lt_of_mul_lt_mul_right (a := d) (by omega)
  · exact hq

theorem roundDiv_one (n : Nat) : roundDiv n 1 = n := by
  simp [roundDiv, Nat.mod_one]

/-- of the shift of `rnd` only this is used: it is the first guess ± 1 -/
theorem exists_shift_rnd (num den : Nat) (e : Int) (hn : num ≠ 0) (hd : den ≠ 0) :
    ∃ s : Int, 52 - ((lg2 4096 num : Int) - (lg2 4096 den : Int)) - 1 ≤ s ∧
      s ≤ 52 - ((lg2 4096 num : Int) - (lg2 4096 den : Int)) + 1 ∧
      Dy.rnd num den e = ⟨roundDiv (num * 2 ^ s.toNat) (den * 2 ^ (-s).toNat), e - s⟩ := by
  have corr (s0 : Int) (c₁ c₂ : Prop) [Decidable c₁] [Decidable c₂] :
      s0 - 1 ≤ (if c₁ then s0 - 1 else if c₂ then s0 + 1 else s0) ∧
      (if c₁ then s0 - 1 else if c₂ then s0 + 1 else s0) ≤ s0 + 1 :=
    have h1 : s0 - 1 ≤ s0 := Int.sub_le_self s0 (by decide)
    have h2 : s0 ≤ s0 + 1 := Int.le_add_of_nonneg_right (by decide)
    if p₁ : c₁ then if_pos p₁ ▸ ⟨Int.le_refl _, Int.le_trans h1 h2⟩
    else if p₂ : c₂ then if_neg p₁ ▸ if_pos p₂ ▸ ⟨Int.le_trans h1 h2, Int.le_refl _⟩
    else if_neg p₁ ▸ if_neg p₂ ▸ ⟨h1, h2⟩
  unfold Dy.rnd
  rw [if_neg (by simp [hn, hd])]
  exact ⟨_, (corr _ _ _).1, (corr _ _ _).2, rfl⟩

theorem ofNat_exact (x : Nat) (h0 : x ≠ 0) (hx : x < 2 ^ 52) :
    ∃ s : Nat, s ≤ 53 ∧ Dy.ofNat x = ⟨x * 2 ^ s, -(s : Int)⟩ := by
  obtain ⟨s, hs1, hs2, heq⟩ := exists_shift_rnd x 1 0 h0 (by decide)
  have hl : lg2 4096 x < 52 := lg2_lt h0 hx
  rw [show lg2 4096 1 = 0 from rfl] at hs1 hs2
  obtain ⟨u, rfl⟩ := Int.eq_ofNat_of_zero_le (by omega : 0 ≤ s)
  refine ⟨u, by omega, ?_⟩
  rw [Dy.ofNat, heq, Int.toNat_natCast, Int.toNat_neg_natCast, Nat.pow_zero, Nat.mul_one, roundDiv_one, Int.zero_sub]

theorem Dy.ceil_le {m N : Nat} {e : Int} (he : e < 0) (h : m ≤ N * 2 ^ (-e).toNat) : (⟨m, e⟩ : Dy).ceil ≤ N := by
  refine Nat.le_trans (Nat.le_of_eq (if_neg (Int.not_le.2 he))) (Nat.lt_succ_iff.1 (Nat.div_lt_of_lt_mul ?_))
  show m + 2 ^ (-e).toNat - 1 < 2 ^ (-e).toNat * (N + 1)
  rw [Nat.mul_succ, Nat.mul_comm]
  exact Nat.lt_of_lt_of_le (Nat.sub_lt (Nat.add_pos_right _ (Nat.two_pow_pos _)) Nat.one_pos) (Nat.add_le_add_right h _)

/-- the operands are in the form `ofNat_exact` gives, the shift `u` is ANY above `t − s` (the exponent is then negative):
the powers of two balance (`hbal`), and rounding does not pass the integer `N·2^k` (`roundDiv_le`) -/
theorem ceil_quot_le {x c N s t : Nat} {u : Int} (hc : 0 < c) (hle : x ≤ c * N) (hu : (t : Int) - s < u) :
    (⟨roundDiv (x * 2 ^ s * 2 ^ u.toNat) (c * 2 ^ t * 2 ^ (-u).toNat), -(s : Int) - -(t : Int) - u⟩ : Dy).ceil ≤ N := by
  have ⟨hE, hbal⟩ : -(s : Int) - -(t : Int) - u < 0 ∧
      t + ((-(-(s : Int) - -(t : Int) - u)).toNat + (-u).toNat) = s + u.toNat := by
    have hu' := Int.toNat_sub_toNat_neg u
    generalize u.toNat = a at hu' ⊢
    generalize (-u).toNat = b at hu' ⊢
    omega
  refine Dy.ceil_le hE (roundDiv_le (Nat.mul_pos (Nat.mul_pos hc (Nat.two_pow_pos t)) (Nat.two_pow_pos _)) ?_)
  -- both sides to the form `_ * 2 ^ (s + u.toNat)`
  rw [Nat.mul_assoc x, ← Nat.pow_add, Nat.mul_mul_mul_comm, ← Nat.mul_assoc N, Nat.mul_assoc (N * c), ← Nat.pow_add,
    ← Nat.pow_add, hbal, Nat.mul_comm N c]
  exact Nat.mul_le_mul_right _ hle

theorem div_ceil_le {x c N : Nat} (hx : x < 2 ^ 52) (hc : 2 ≤ c) (hc' : c < 2 ^ 52) (hle : x ≤ c * N) :
    (Dy.div (Dy.ofNat x) (Dy.ofNat c)).ceil ≤ N := by
  by_cases h0 : x = 0
  · subst h0
    exact Nat.zero_le N  -- `0/c` evaluates to `Dy.zero`
  · have hc0 : 0 < c := Nat.lt_of_lt_of_le Nat.two_pos hc
    obtain ⟨s, hs, ha⟩ := ofNat_exact x h0 hx
    obtain ⟨t, ht, hb⟩ := ofNat_exact c (Nat.ne_of_gt hc0) hc'
    have hn0 : x * 2 ^ s ≠ 0 := Nat.mul_ne_zero h0 (Nat.ne_of_gt (Nat.two_pow_pos s))
    have hd0 : c * 2 ^ t ≠ 0 := Nat.mul_ne_zero (Nat.ne_of_gt hc0) (Nat.ne_of_gt (Nat.two_pow_pos t))
    -- two crude bounds on the logarithms put the shift of the division above `t − s`
    have hlgn : lg2 4096 (x * 2 ^ s) < 52 + s :=
      lg2_lt hn0 (by rw [Nat.pow_add]; exact Nat.mul_lt_mul_of_pos_right hx (Nat.two_pow_pos s))
    have hlgd : 1 + t ≤ lg2 4096 (c * 2 ^ t) :=
      le_lg2 hd0 (Nat.le_trans (Nat.add_le_add_left ht 1) (by decide)) (by rw [Nat.pow_add]; exact Nat.mul_le_mul_right _ hc)
    obtain ⟨u, hu, _, heq⟩ := exists_shift_rnd (x * 2 ^ s) (c * 2 ^ t) (-(s : Int) - -(t : Int)) hn0 hd0
    rw [ha, hb, Dy.div, heq]
    exact ceil_quot_le hc0 hle (by omega)

theorem Dy.floor_le_ceil (a : Dy) : a.floor ≤ a.ceil := by
  unfold Dy.floor Dy.ceil
  split
  · exact Nat.le_refl _
  · exact Nat.div_le_div_right (Nat.le_sub_one_of_lt (Nat.lt_add_of_pos_right (Nat.two_pow_pos _)))

def pctIndex (p n : Nat) : Dy := Dy.div (Dy.ofNat (p * (n - 1))) (Dy.ofNat 100)

theorem pctIndex_ceil_lt (p n : Nat) (hp : p ≤ 100) (hn : 0 < n) (hbig : 100 * n < 2 ^ 52) :
    (pctIndex p n).ceil < n := by
  have h1 : p * (n - 1) ≤ 100 * (n - 1) := Nat.mul_le_mul_right _ hp
  have h2 := Nat.lt_of_le_of_lt (Nat.le_trans h1 (Nat.mul_le_mul_left 100 (Nat.sub_le n 1))) hbig
  exact Nat.lt_of_le_of_lt (div_ceil_le h2 (by decide) (by decide) h1) (Nat.sub_lt hn Nat.one_pos)

end SigModel.Lemmas.C12
