import SigModel.Model.Wal
/-
Lemmas for C10 (write-ahead log framing): the little-endian readers invert the writers, the reader takes one intact
frame per step, and what is left of a frame that is cut anywhere yields no block.
-/
namespace SigModel.Lemmas.C10
open SigModel.Wal

theorem digits4 (b n : Nat) :
    n % b + b * (n / b % b) + b * b * (n / (b * b) % b) + b * b * b * (n / (b * b * b)) = n := by
  rw [← Nat.div_div_eq_div_mul, ← Nat.div_div_eq_div_mul, ← Nat.div_div_eq_div_mul, Nat.add_assoc, Nat.add_assoc,
    Nat.mul_assoc (b * b) b, ← Nat.mul_add, Nat.mod_add_div, Nat.mul_assoc b b, ← Nat.mul_add, Nat.mod_add_div,
    Nat.mod_add_div]

theorem le32_length (n : Nat) : (le32 n).length = 4 := rfl

theorem rd32_le32 (n : Nat) (r : Bytes) (h : n < 4294967296) :
    rd32 (le32 n ++ r) = some (n, r) := by
  -- by evaluation the left side holds the four base-256 digits of `n`; below 2^32 the top one is `n / 2^24` itself
  show some (_ + 16777216 * (n / 16777216 % 256), r) = _
  rw [Nat.mod_eq_of_lt (Nat.div_lt_of_lt_mul (n := 16777216) (k := 256) h)]
  exact congrArg (fun x => some (x, r)) (digits4 256 n)

theorem rd64_le64 (n : Nat) (r : Bytes) (h : n < 18446744073709551616) :
    rd64 (le64 n ++ r) = some (n, r) := by
  unfold rd64 le64
  rw [List.append_assoc, rd32_le32 _ _ (Nat.mod_lt _ (by decide))]
  simp only
  rw [rd32_le32 _ _ (Nat.div_lt_of_lt_mul h)]
  exact congrArg (fun x => some (x, r)) (Nat.mod_add_div n 4294967296)

theorem rdMany_flatMap {α : Type} (rd : Bytes → Option (Nat × Bytes)) (g : α → Nat)
    (enc : Nat → Bytes) (ds : List α) (r : Bytes)
    (h : ∀ d ∈ ds, ∀ r, rd (enc (g d) ++ r) = some (g d, r)) :
    rdMany rd ds.length (ds.flatMap (fun d => enc (g d)) ++ r) = some (ds.map g, r) := by
  induction ds with
  | nil => rfl
  | cons d ds ih =>
    simp only [List.flatMap_cons, List.length_cons, List.append_assoc, rdMany, List.map_cons]
    rw [h d List.mem_cons_self]
    simp only
    rw [ih (fun d' hd' => h d' (List.mem_cons_of_mem _ hd'))]

theorem zip3_map (dps : List Dp) :
    ((dps.map Dp.ts).zip ((dps.map Dp.val).zip (dps.map Dp.tsid))).map
      (fun (t, v, i) => ({ ts := t, val := v, tsid := i } : Dp)) = dps := by
  induction dps with
  | nil => rfl
  | cons d ds ih => simp only [List.map_cons, List.zip_cons_cons, ih]

theorem decBlock_encBlock (dps : List Dp)
    (h : ∀ d ∈ dps, d.ts < 4294967296 ∧ d.val < 18446744073709551616 ∧ d.tsid < 18446744073709551616)
    (hn : dps.length < 4294967296) :
    decBlock (encBlock dps) = some dps := by
  unfold decBlock encBlock
  rw [List.append_assoc, List.append_assoc, rd32_le32 _ _ hn]
  simp only
  rw [rdMany_flatMap rd32 Dp.ts le32 dps _ (fun d hd r => rd32_le32 _ _ (h d hd).1)]
  simp only
  rw [rdMany_flatMap rd64 Dp.val le64 dps _ (fun d hd r => rd64_le64 _ _ (h d hd).2.1)]
  simp only
  have := rdMany_flatMap rd64 Dp.tsid le64 dps [] (fun d hd r => rd64_le64 _ _ (h d hd).2.2)
  rw [List.append_nil] at this
  rw [this]
  simp only
  rw [zip3_map]

theorem frame_length (crc : Bytes → Nat) (p : Bytes) : (frame crc p).length = 8 + p.length := by
  rw [frame, List.length_append]
  rfl

theorem flatMap_frame_length (crc : Bytes → Nat) (ps : List Bytes) :
    (ps.flatMap (frame crc)).length = (ps.map (fun p => 8 + p.length)).sum := by
  induction ps with
  | nil => rfl
  | cons p ps ih => rw [List.flatMap_cons, List.length_append, frame_length, ih]; rfl

theorem length_lt_of_frame_append (crc : Bytes → Nat) (p x : Bytes) {f : Nat}
    (h : (frame crc p ++ x).length < f + 1) : x.length < f := by
  rw [List.length_append, frame_length] at h
  omega

theorem readBlocks_step (crc : Bytes → Nat) (ok : Bytes → Bool) (fuel : Nat) (bs : Bytes)
    (hne : bs ≠ []) :
    readBlocks crc ok (fuel + 1) bs =
      match rd32 bs with
      | none => ([], .err)
      | some (size, r1) =>
        if size < 4 then ([], .err)
        else match rd32 r1 with
          | none => ([], .err)
          | some (sum, r2) =>
            if r2.length < size - 4 then ([], .err)
            else
              let p := r2.take (size - 4)
              if crc p ≠ sum then ([], .err)
              else if !ok p then ([], .err)
              else
                let (rest, st) := readBlocks crc ok fuel (r2.drop (size - 4))
                (p :: rest, st) :=
  match bs, hne with
  | _ :: _, _ => rfl

theorem readBlocks_nil (crc : Bytes → Nat) (ok : Bytes → Bool) :
    ∀ fuel, 0 < fuel → readBlocks crc ok fuel [] = ([], .clean)
  | _ + 1, _ => rfl

theorem readBlocks_cons8 (crc : Bytes → Nat) (ok : Bytes → Bool) (fuel : Nat) {a b c d e f g h size sum : Nat}
    {r : Bytes} (h1 : rd32 (a :: b :: c :: d :: e :: f :: g :: h :: r) = some (size, e :: f :: g :: h :: r))
    (h2 : rd32 (e :: f :: g :: h :: r) = some (sum, r)) :
    readBlocks crc ok (fuel + 1) (a :: b :: c :: d :: e :: f :: g :: h :: r) =
      if size < 4 then ([], .err)
      else if r.length < size - 4 then ([], .err)
      else if crc (r.take (size - 4)) ≠ sum then ([], .err)
      else if !ok (r.take (size - 4)) then ([], .err)
      else (r.take (size - 4) :: (readBlocks crc ok fuel (r.drop (size - 4))).1,
          (readBlocks crc ok fuel (r.drop (size - 4))).2) := by
  cases h1
  cases h2
  rfl

theorem readBlocks_frame (crc : Bytes → Nat) (ok : Bytes → Bool) (fuel : Nat) (p rest : Bytes)
    (hlen : p.length + 4 < 4294967296) (hcrc : crc p < 4294967296) (hok : ok p = true) :
    readBlocks crc ok (fuel + 1) (frame crc p ++ rest) =
      (p :: (readBlocks crc ok fuel rest).1, (readBlocks crc ok fuel rest).2) := by
  -- `le32` is a literal list: `frame crc p ++ rest` is eight bytes in front of `p ++ rest`
  refine (readBlocks_cons8 crc ok fuel (r := p ++ rest) (rd32_le32 _ _ hlen) (rd32_le32 _ _ hcrc)).trans ?_
  rw [Nat.add_sub_cancel, List.take_left, List.drop_left, if_neg (Nat.not_lt.2 (Nat.le_add_left 4 _)),
    if_neg (Nat.not_lt.2 (List.length_append ▸ Nat.le_add_right _ _)), if_neg (not_not_intro rfl), hok]
  rfl

/-- Stated for every fuel above the length of the input: that is what `readFile` supplies and what taking a frame keeps. -/
theorem readBlocks_frames_append (crc : Bytes → Nat) (ok : Bytes → Bool) (qs : List Bytes)
    (tail : Bytes) (R : List Bytes × St)
    (hwf : ∀ p ∈ qs, p.length + 4 < 4294967296 ∧ crc p < 4294967296 ∧ (∀ b ∈ p, b < 256))
    (hok : ∀ p ∈ qs, ok p = true)
    (htail : ∀ fuel, tail.length < fuel → readBlocks crc ok fuel tail = R) :
    ∀ fuel, (qs.flatMap (frame crc) ++ tail).length < fuel →
      readBlocks crc ok fuel (qs.flatMap (frame crc) ++ tail) = (qs ++ R.1, R.2) := by
  induction qs with
  | nil => exact htail
  | cons q qs ih =>
    intro fuel hf
    obtain ⟨f, rfl⟩ := Nat.exists_eq_add_one.mpr (Nat.zero_lt_of_lt hf)
    have hq := hwf q List.mem_cons_self
    rw [List.flatMap_cons, List.append_assoc] at hf ⊢
    rw [readBlocks_frame crc ok f q _ hq.1 hq.2.1 (hok q List.mem_cons_self),
      ih (fun p hp => hwf p (List.mem_cons_of_mem _ hp)) (fun p hp => hok p (List.mem_cons_of_mem _ hp)) f
        (length_lt_of_frame_append crc q _ hf)]
    rfl

theorem readBlocks_frame_take (crc : Bytes → Nat) (ok : Bytes → Bool) (fuel : Nat) (p : Bytes)
    (k : Nat) (hlen : p.length + 4 < 4294967296) (hcrc : crc p < 4294967296)
    (hk : k < 8 + p.length) :
    ∃ st, readBlocks crc ok (fuel + 1) ((frame crc p).take k) = ([], st) :=
  -- up to seven bytes there is no header; from eight on the size field asks for more bytes than follow
  match k, hk with
  | 0, _ => ⟨.clean, rfl⟩
  | 1, _ | 2, _ | 3, _ => ⟨.err, rfl⟩
  | 4, _ | 5, _ | 6, _ | 7, _ => ⟨.err, ite_self _⟩
  | k + 8, hk =>
    ⟨.err, (readBlocks_cons8 crc ok fuel (r := p.take k) (rd32_le32 _ _ hlen) (rd32_le32 _ _ hcrc)).trans
      ((if_neg (Nat.not_lt.2 (Nat.le_add_left 4 _))).trans (if_pos (by
        rw [Nat.add_sub_cancel]
        exact Nat.lt_of_le_of_lt (List.length_take_le k p)
          (Nat.lt_of_add_lt_add_right (Nat.add_comm 8 _ ▸ hk)))))⟩

/-- `c = j / 3 + 1` happens: a frame whose checksum write was the last one is complete if its payload is empty (its
third write has no bytes). -/
theorem readBlocks_writes_take (crc : Bytes → Nat) (ok : Bytes → Bool) (ps : List Bytes)
    (j fuel : Nat)
    (hwf : ∀ p ∈ ps, p.length + 4 < 4294967296 ∧ crc p < 4294967296 ∧ (∀ b ∈ p, b < 256))
    (hok : ∀ p ∈ ps, ok p = true)
    (hf : ((ps.flatMap (frameWrites crc)).take j).flatten.length < fuel) :
    ∃ c st, readBlocks crc ok fuel ((ps.flatMap (frameWrites crc)).take j).flatten = (ps.take c, st)
      ∧ j / 3 ≤ c ∧ c ≤ j / 3 + 1 ∧ ((∀ p ∈ ps, p ≠ []) → c = j / 3) := by
  induction ps generalizing j fuel with
  | nil =>
    rw [List.flatMap_nil, List.take_nil, List.flatten_nil] at hf ⊢
    exact ⟨j / 3, .clean, by rw [readBlocks_nil crc ok fuel hf, List.take_nil], Nat.le_refl _, Nat.le_succ _,
      fun _ => rfl⟩
  | cons p ps ih =>
    obtain ⟨f, rfl⟩ := Nat.exists_eq_add_one.mpr (Nat.zero_lt_of_lt hf)
    have hp := hwf p List.mem_cons_self
    have e : (p :: ps).flatMap (frameWrites crc)
        = le32 (p.length + 4) :: le32 (crc p) :: p :: ps.flatMap (frameWrites crc) := rfl
    rw [e] at hf ⊢
    obtain _ | _ | _ | j := j
    · exact ⟨0, .clean, rfl, Nat.le_refl _, Nat.le_succ _, fun _ => rfl⟩
    · obtain ⟨st, hst⟩ := readBlocks_frame_take crc ok f p 4 hp.1 hp.2.1 (Nat.lt_add_right _ (by decide))
      exact ⟨0, st, hst, Nat.le_refl _, Nat.le_succ _, fun _ => rfl⟩
    · by_cases hpe : p = []
      · subst hpe
        have h := readBlocks_frame crc ok f [] [] hp.1 hp.2.1 (hok [] List.mem_cons_self)
        rw [show (readBlocks crc ok f []).1 = [] by cases f <;> rfl] at h
        exact ⟨1, _, h, Nat.le_succ _, Nat.le_refl _, fun hne => absurd rfl (hne [] List.mem_cons_self)⟩
      · obtain ⟨st, hst⟩ := readBlocks_frame_take crc ok f p 8 hp.1 hp.2.1
          (Nat.lt_add_of_pos_right (List.length_pos_iff.mpr hpe))
        exact ⟨0, st, hst, Nat.le_refl _, Nat.le_succ _, fun _ => rfl⟩
    · have e3 : ((le32 (p.length + 4) :: le32 (crc p) :: p :: ps.flatMap (frameWrites crc)).take (j + 3)).flatten
          = frame crc p ++ ((ps.flatMap (frameWrites crc)).take j).flatten := by
        simp only [List.take_succ_cons, List.flatten_cons, frame, List.append_assoc]
      rw [e3] at hf ⊢
      rw [readBlocks_frame crc ok f p _ hp.1 hp.2.1 (hok p List.mem_cons_self)]
      obtain ⟨c, st, hst, h1, h2, h3⟩ := ih j f (fun q hq => hwf q (List.mem_cons_of_mem _ hq))
        (fun q hq => hok q (List.mem_cons_of_mem _ hq))
        (length_lt_of_frame_append crc p _ hf)
      rw [Nat.add_div_right j (Nat.succ_pos 2)]
      exact ⟨c + 1, st, by rw [hst, List.take_succ_cons], Nat.succ_le_succ h1, Nat.succ_le_succ h2,
        fun hne => congrArg (· + 1) (h3 (fun q hq => hne q (List.mem_cons_of_mem _ hq)))⟩

/-- the reader's size and checksum tests on the bytes at the head of `bs` -/
def acceptsHead (crc : Bytes → Nat) (bs : Bytes) : Bool :=
  match rd32 bs with
  | none => false
  | some (size, r1) =>
    decide (4 ≤ size) &&
    match rd32 r1 with
    | none => false
    | some (sum, r2) => decide (size - 4 ≤ r2.length) && decide (crc (r2.take (size - 4)) = sum)

theorem readBlocks_reject (crc : Bytes → Nat) (ok : Bytes → Bool) (fuel : Nat) (bs : Bytes)
    (hne : bs ≠ []) (hacc : acceptsHead crc bs = false) :
    readBlocks crc ok fuel bs = ([], .err) := by
  cases fuel with
  | zero => rfl
  | succ f =>
    rw [readBlocks_step _ _ _ _ hne]
    unfold acceptsHead at hacc
    cases h1 : rd32 bs with
    | none => rfl
    | some x =>
      obtain ⟨size, r1⟩ := x
      rw [h1] at hacc
      simp only at hacc ⊢
      by_cases hs : size < 4
      · rw [if_pos hs]
      · rw [if_neg hs]
        cases h2 : rd32 r1 with
        | none => rfl
        | some y =>
          obtain ⟨sum, r2⟩ := y
          rw [h2] at hacc
          simp only at hacc ⊢
          by_cases hl : r2.length < size - 4
          · rw [if_pos hl]
          · rw [if_neg hl]
            have hc : crc (r2.take (size - 4)) ≠ sum := fun hc => by
              simp [hc, Nat.le_of_not_lt hs, Nat.le_of_not_lt hl] at hacc
            rw [if_pos hc]

theorem readFile_cons (crc : Bytes → Nat) (ok : Bytes → Bool) (r : Bytes) :
    readFile crc ok (walVersion :: r) = some (readBlocks crc ok (r.length + 1) r) := by
  rw [readFile, if_pos rfl]

theorem file_take (crc : Bytes → Nat) (ps : List Bytes) (k : Nat) (hk : 1 ≤ k) :
    (file crc ps).take k = walVersion :: (ps.flatMap (frame crc)).take (k - 1) :=
  List.take_cons hk

theorem writes_take_flatten (crc : Bytes → Nat) (ps : List Bytes) (n : Nat) (hn : 1 ≤ n) :
    ((writes crc ps).take n).flatten
      = walVersion :: ((ps.flatMap (frameWrites crc)).take (n - 1)).flatten :=
  congrArg List.flatten (List.take_cons hn)

theorem readFile_frames_reject (crc : Bytes → Nat) (ok : Bytes → Bool) (qs : List Bytes) (tail : Bytes)
    (hwf : ∀ p ∈ qs, p.length + 4 < 4294967296 ∧ crc p < 4294967296 ∧ (∀ b ∈ p, b < 256))
    (hok : ∀ p ∈ qs, ok p = true) (hne : tail ≠ []) (hacc : acceptsHead crc tail = false) :
    readFile crc ok (walVersion :: (qs.flatMap (frame crc) ++ tail)) = some (qs, St.err) := by
  rw [readFile_cons, readBlocks_frames_append crc ok qs tail ([], .err) hwf hok
    (fun fuel _ => readBlocks_reject crc ok fuel tail hne hacc) _ (Nat.lt_succ_self _), List.append_nil]

theorem readFile_corrupt (crc : Bytes → Nat) (ok : Bytes → Bool) (ps : List Bytes) (m i b : Nat)
    (hwf : ∀ p ∈ ps, p.length + 4 < 4294967296 ∧ crc p < 4294967296 ∧ (∀ b ∈ p, b < 256))
    (hok : ∀ p ∈ ps, ok p = true) (hm : m < ps.length)
    (hi : ((ps.take m).flatMap (frame crc)).length + 1 ≤ i)
    (hacc : acceptsHead crc (((file crc ps).set i b).drop (((ps.take m).flatMap (frame crc)).length + 1)) = false) :
    readFile crc ok ((file crc ps).set i b) = some (ps.take m, St.err) := by
  obtain ⟨i, rfl⟩ := Nat.exists_eq_add_one.mpr (Nat.lt_of_lt_of_le (Nat.succ_pos _) hi)
  have hfile : (file crc ps).set (i + 1) b = walVersion ::
      ((ps.take m).flatMap (frame crc) ++ ((ps.drop m).flatMap (frame crc)).set
        (i - ((ps.take m).flatMap (frame crc)).length) b) := by
    rw [file, List.set_cons_succ, ← List.set_append_right _ _ (Nat.le_of_succ_le_succ hi), ← List.flatMap_append,
      List.take_append_drop]
  rw [hfile, List.drop_succ_cons, List.drop_left] at hacc
  rw [hfile]
  refine readFile_frames_reject crc ok _ _ (fun p hp => hwf p (List.mem_of_mem_take hp))
    (fun p hp => hok p (List.mem_of_mem_take hp)) (fun h => ?_) hacc
  -- frame `m` exists, and a frame starts with its size bytes
  rw [List.set_eq_nil_iff, List.drop_eq_getElem_cons hm] at h
  exact List.cons_ne_nil _ _ h

end SigModel.Lemmas.C10
