/-
C10 slice "walrecover": crash points INSIDE an operation (Model/WalRecover.lean, last section), for any recovery
procedure: what a crash inside rotateBlock leaves is recovered to a prefix-correct disk as soon as the procedure replays
the complete WAL directory into the open block and nothing from what the interrupted deletion left behind.  Then
RecoverWALData itself, before the repairs, run to its end; `hx` is the history of two counterexamples in Props/C10.
-/
import SigModel.Lemmas.C10R
namespace SigModel.Lemmas.C10R
open SigModel.Wal (Dp)
open SigModel.WalRecover

theorem addFile_files (Q : RawFile → Prop) (i : Info) (f : RawFile) (hf : Q f) (acc : List Group)
    (h : ∀ g ∈ acc, ∀ x ∈ g.files, Q x) : ∀ g ∈ addFile i f acc, ∀ x ∈ g.files, Q x := by
  induction acc with
  | nil => exact List.forall_mem_cons.mpr ⟨List.forall_mem_cons.mpr ⟨hf, List.forall_mem_nil _⟩, List.forall_mem_nil _⟩
  | cons g gs ih =>
    rw [List.forall_mem_cons] at h
    rw [addFile]
    by_cases hk : g.info.key = i.key
    · rw [if_pos hk]
      exact List.forall_mem_cons.mpr
        ⟨fun x hx => (List.mem_append.mp hx).elim (h.1 x) fun e => List.mem_singleton.mp e ▸ hf, h.2⟩
    · rw [if_neg hk]
      exact List.forall_mem_cons.mpr ⟨h.1, ih h.2⟩

theorem groupsOfSorted_files (Q : RawFile → Prop) (l : RawDir) (hl : ∀ f ∈ l, Q f) : ∀ acc : List Group,
    (∀ g ∈ acc, ∀ x ∈ g.files, Q x) → ∀ g ∈ groupsOfSorted l acc, ∀ x ∈ g.files, Q x := by
  induction l with
  | nil => exact fun _ h => h
  | cons f fs ih =>
    rw [List.forall_mem_cons] at hl
    intro acc h
    rw [groupsOfSorted]
    cases parseName f.1 with
    | none => exact ih hl.2 acc h
    | some i => exact ih hl.2 _ (addFile_files Q i f hl.1 acc h)

theorem groups_files (Q : RawFile → Prop) (d : RawDir) (hd : ∀ f ∈ d, Q f) : ∀ g ∈ groupsOld d, ∀ x ∈ g.files, Q x :=
  groupsOfSorted_files Q _ (fun f hf => hd f ((perm_readDir d).mem_iff.mp hf)) [] (List.forall_mem_nil _)

theorem recover_no_dps (d : RawDir) (hd : ∀ f ∈ d, fileDps f = []) : recoverOld d = [] :=
  List.filterMap_eq_nil_iff.mpr fun g hg =>
    if_pos (List.isEmpty_iff.mpr (List.flatMap_eq_nil_iff.mpr (groups_files _ d hd g hg)))

theorem recover_nil : recoverOld [] = [] := rfl

theorem blockRotateCrash_cases (P : Disk → List (WalName × List Block) → Prop) (m : Nat) (st : WState)
    (h0 : P st.durable st.files) (h1 : P (flushTo (curKey st) st.cur st.durable) st.files)
    (hd : 1 < m → P (flushTo (curKey st) st.cur st.durable) (st.files.drop (m - 1)))
    (hn : P (flushTo (curKey st) st.cur st.durable) (rotateBlock st).files) :
    P (blockRotateCrash m st).durable (blockRotateCrash m st).files := by
  unfold blockRotateCrash
  by_cases hc : st.cur.isEmpty = true
  · rw [if_pos hc]
    exact h0
  · rw [if_neg hc]
    unfold rotateBlockCrashed
    by_cases hm : m = 0
    · rw [if_pos hm]
      exact h0
    · rw [if_neg hm]
      by_cases hl : m ≤ st.files.length + 1
      · rw [if_pos hl]
        by_cases h : 1 < m
        · exact hd h
        · rw [Nat.le_antisymm (Nat.le_of_not_lt h) (Nat.pos_of_ne_zero hm)]
          exact h1
      · rw [if_neg hl]
        exact hn

theorem prefix_after_flush {st : WState} {sp : Spec} (h : R st sp) (k : Key) :
    blockOf sp.done k <+: lookup k (flushTo (curKey st) st.cur st.durable) := by
  by_cases hk : k = curKey st
  · rw [hk, lookup_flushTo_self, h.doneCur]
    -- a prefix only: the flushed block holds the buffer too
    exact h.cur ▸ List.prefix_append _ _
  · rw [lookup_flushTo_ne _ _ _ _ hk, h.doneOld k hk]
    exact List.prefix_refl _

theorem flushIfAny_over (k : Key) (v X : List Dp) (D : Disk) (hx : ¬ X.isEmpty = true) :
    applyFlushes (flushTo k v D) (flushIfAny k X) = applyFlushes D (flushIfAny k X) := by
  rw [flushIfAny, if_neg hx]
  exact isPut_flushTo.put_put k X v D

theorem rotateBlock_files_empty (st : WState) : ∀ f ∈ rawOf (rotateBlock st).files, fileDps f = [] :=
  fun _ hf => List.mem_singleton.mp hf ▸ rfl

theorem rotate_crash_prefix (rec : RawDir → List (Key × List Dp)) {st : WState} {sp : Spec} (hr : R st sp) (m : Nat)
    (hfull : rec (rawOf st.files) = flushIfAny (curKey st) (logged st))
    (hdrop : 1 < m → rec (rawOf (st.files.drop (m - 1))) = [])
    (hnew : rec (rawOf (rotateBlock st).files) = []) (k : Key) :
    blockOf sp.done k <+:
      lookup k (applyFlushes (blockRotateCrash m st).durable (rec (rawOf (blockRotateCrash m st).files))) := by
  refine blockRotateCrash_cases (fun D fs => blockOf sp.done k <+: lookup k (applyFlushes D (rec (rawOf fs)))) m st
    ?_ ?_ (fun h1 => ?_) ?_
  · rw [hfull, lookup_recovered hr]
    exact List.prefix_refl _
  · rw [hfull]
    by_cases hx : (logged st).isEmpty = true
    · rw [flushIfAny, if_pos hx]
      exact prefix_after_flush hr k
    · rw [flushIfAny_over _ _ _ _ hx, lookup_recovered hr]
      exact List.prefix_refl _
  · rw [hdrop h1]
    exact prefix_after_flush hr k
  · rw [hnew]
    exact prefix_after_flush hr k

theorem foldl_deletes (l : RawDir) : ∀ s : RawDir × Disk,
    ((l.map (fun f => RecAction.delete f.1)).foldl applyRecAction s).2 = s.2 ∧
    ∀ f ∈ ((l.map (fun f => RecAction.delete f.1)).foldl applyRecAction s).1, f ∈ s.1 ∧ ∀ g ∈ l, f.1 ≠ g.1 := by
  induction l with
  | nil => exact fun s => ⟨rfl, fun f hf => ⟨hf, List.forall_mem_nil _⟩⟩
  | cons x xs ih =>
    intro s
    obtain ⟨h1, h2⟩ := ih (applyRecAction s (.delete x.1))
    refine ⟨h1, fun f hf => ?_⟩
    obtain ⟨hm, hn⟩ := h2 f hf
    obtain ⟨hm1, hm2⟩ := List.mem_filter.mp hm
    exact ⟨hm1, List.forall_mem_cons.mpr ⟨bne_iff_ne.mp hm2, hn⟩⟩

theorem foldl_deletes_all (disk : Disk) {l d : RawDir} (h : ∀ f ∈ d, f ∈ l) :
    (l.map (fun f => RecAction.delete f.1)).foldl applyRecAction (d, disk) = ([], disk) := by
  obtain ⟨h1, h2⟩ := foldl_deletes l (d, disk)
  exact Prod.ext (List.eq_nil_iff_forall_not_mem.mpr fun f hf => (h2 f hf).2 f (h f (h2 f hf).1) rfl) h1

theorem recoverCrashedOld_all_steps {s : Nat} (st : WState) (hinv : Inv s st) (hs : st.seg < 18446744073709551616)
    (hb : st.blkNum < 18446744073709551616) (disk : Disk) (m : Nat)
    (hm : (recoverActionsOld (rawOf st.files)).length ≤ m) :
    recoverCrashedOld m (rawOf st.files) disk = ([], applyFlushes disk (recoverOld (rawOf st.files))) := by
  -- one group: its files are deleted (in directory order), then its block is flushed if it has a datapoint
  rw [recoverCrashedOld, List.take_of_length_le hm, recoverActionsOld, recoverOld, groups_writer st hinv hs hb,
    List.flatMap_singleton, List.foldl_append, foldl_deletes_all disk fun f hf => (perm_readDir _).mem_iff.mpr hf,
    List.filterMap_cons]
  dsimp only
  cases (groupDps ⟨infoOf st, readDir (rawOf st.files)⟩).isEmpty <;> rfl

/-- the open block has two WAL files, each with one datapoint -/
def hx : List Op := [.ingest 0 ⟨100, 1, 7⟩ false, .walFlush true, .ingest 0 ⟨110, 2, 7⟩ false, .walFlush false]

end SigModel.Lemmas.C10R
