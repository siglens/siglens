/-
C07, part 1: frame reasoning for the crash model (Model/Crash.lean) — what a restart serves when every segment but
one open one is sealed (`Frame`), and the steps that write into that segment only (`SameBut`, `run_onSeg`).
-/
import SigModel.Model.Crash

namespace SigModel.Lemmas.C07
open SigModel.Crash

theorem run_cons (fs : FS) (s : Step) (l : List Step) : run fs (s :: l) = run (apply fs s) l := rfl
theorem run_append (fs : FS) (a b : List Step) : run fs (a ++ b) = run (run fs a) b :=
  List.foldl_append

theorem whole_mono {st st' : SegSt} (hc : ∀ c ∈ st.chunks, c ∈ st'.chunks) (b : Nat × List Nat)
    (h : whole st b = true) : whole st' b = true :=
  List.all_eq_true.2 fun w hw =>
    List.contains_iff_mem.2 (hc _ (List.contains_iff_mem.1 (List.all_eq_true.1 h w hw)))

def SegOK (st : SegSt) (fl : List Nat) : Prop :=
  (∀ b ∈ st.bsu, whole st b = true) ∧ st.bsu.map (·.1) = fl

theorem segOK_default : SegOK ({} : SegSt) [] := ⟨List.forall_mem_nil _, rfl⟩

namespace SegOK

theorem visible {st : SegSt} {fl : List Nat} (h : SegOK st fl) : segVisible st = fl :=
  (congrArg (List.map Prod.fst) (List.filter_eq_self.2 h.1)).trans h.2

theorem torn {st : SegSt} {fl : List Nat} (h : SegOK st fl) : segTorn st = [] :=
  congrArg (List.map Prod.fst) (List.filter_eq_nil_iff.2 fun b hb => ne_true_of_eq_false (congrArg not (h.1 b hb)))

theorem mono {st st' : SegSt} {fl : List Nat} (h : SegOK st fl) (hc : ∀ c ∈ st.chunks, c ∈ st'.chunks)
    (hb : st'.bsu = st.bsu) : SegOK st' fl :=
  ⟨fun b hb' => whole_mono hc b (h.1 b (hb ▸ hb')), hb ▸ h.2⟩

theorem flush {st st' : SegSt} {fl ws : List Nat} {nf : Nat} (h : SegOK st fl)
    (hc : st'.chunks = st.chunks ++ ws.map (fun c => (nf, c))) (hb : st'.bsu = st.bsu ++ [(nf, ws)]) :
    SegOK st' (fl ++ [nf]) := by
  refine ⟨hb ▸ List.forall_mem_append.2 ⟨?_, List.forall_mem_singleton.2 ?_⟩,
    (congrArg (List.map Prod.fst) hb).trans (List.map_append.trans (h.2 ▸ rfl))⟩
  · exact fun b hb' => whole_mono (fun c hm => hc ▸ List.mem_append_left _ hm) b (h.1 b hb')
  · exact List.all_eq_true.2 fun c hcw =>
      List.contains_iff_mem.2 (hc ▸ List.mem_append_right _ (List.mem_map_of_mem hcw))

end SegOK

structure SameBut (cur : Nat) (fs fs' : FS) : Prop where
  segmeta : fs'.segmeta = fs.segmeta
  dirs : fs'.dirs = fs.dirs
  suffix : fs'.suffix = fs.suffix
  suffixTmp : fs'.suffixTmp = fs.suffixTmp
  seg : ∀ s, s ≠ cur → fs'.seg s = fs.seg s

namespace SameBut

theorem refl (cur : Nat) (fs : FS) : SameBut cur fs fs := ⟨rfl, rfl, rfl, rfl, fun _ _ => rfl⟩

theorem trans {cur : Nat} {a b c : FS} (h1 : SameBut cur a b) (h2 : SameBut cur b c) : SameBut cur a c :=
  ⟨h2.segmeta.trans h1.segmeta, h2.dirs.trans h1.dirs, h2.suffix.trans h1.suffix, h2.suffixTmp.trans h1.suffixTmp,
   fun s hs => (h2.seg s hs).trans (h1.seg s hs)⟩

end SameBut

theorem sameBut_setSeg (cur : Nat) (fs : FS) (f : SegSt → SegSt) : SameBut cur fs (fs.setSeg cur f) :=
  ⟨rfl, rfl, rfl, rfl, fun _ hs => if_neg hs⟩

/-- `apply` seen from the one segment directory a step writes into: for the eight kinds listed,
`apply fs s = fs.setSeg c (applySeg · s)` by `rfl` (the hypothesis of `run_onSeg`) -/
def applySeg (st : SegSt) : Step → SegSt
  | .chunk _ f w => { st with chunks := st.chunks ++ [(f, w)] }
  | .bsu _ f ws => { st with bsu := st.bsu ++ [(f, ws)] }
  | .sstTmp _ fls => { st with sstTmp := some fls }
  | .sstRename _ => { st with sst := (st.sstTmp <|> st.sst), sstTmp := none }
  | .sfmTmp _ fls => { st with sfmTmp := some fls }
  | .sfmRename _ => { st with sfm := (st.sfmTmp.map Sfm.json).getD st.sfm, sfmTmp := none }
  | .sfmTrunc _ => { st with sfm := .empty }
  | .sfmWrite _ fls => { st with sfm := .json fls }
  | _ => st

theorem run_onSeg {cur : Nat} (l : List Step) : ∀ (fs : FS),
    (∀ s ∈ l, ∀ fs, apply fs s = fs.setSeg cur (applySeg · s)) →
    SameBut cur fs (run fs l) ∧ (run fs l).seg cur = l.foldl applySeg (fs.seg cur) := by
  induction l with
  | nil => exact fun fs _ => ⟨SameBut.refl _ _, rfl⟩
  | cons a l ih =>
    intro fs h
    rw [run_cons, h a List.mem_cons_self fs]
    obtain ⟨S, hseg⟩ := ih (fs.setSeg cur (applySeg · a)) fun s hs => h s (List.mem_cons_of_mem _ hs)
    exact ⟨(sameBut_setSeg cur fs _).trans S, hseg.trans (congrArg (List.foldl applySeg · l) (if_pos rfl))⟩

/-- `sl`: the sealed (rotated) segments, as segmeta.json lists them; `cur`: the open segment -/
structure Frame (sl : List (Nat × List Nat)) (cur : Nat) (fs : FS) : Prop where
  segmeta_eq : fs.segmeta = sl
  dirs_nodup : fs.dirs.Nodup
  dirs_mem : ∀ s ∈ fs.dirs, s ∈ sl.map (·.1) ∨ s = cur
  sealed_lt : ∀ p ∈ sl, p.1 < cur
  sealed_ok : ∀ p ∈ sl, SegOK (fs.seg p.1) p.2
  untouched : ∀ s, s ∉ fs.dirs → fs.seg s = {}
  suffix_ok : ∀ s ∈ fs.dirs, s < nextSuffix fs

namespace Frame

theorem sealed_lt_cur {sl cur fs s} (F : Frame sl cur fs) (h : s ∈ sl.map (·.1)) : s < cur :=
  (List.mem_map.1 h).elim fun p hp => hp.2 ▸ F.sealed_lt p hp.1

theorem dirs_le {sl cur fs} (F : Frame sl cur fs) (s : Nat) (hs : s ∈ fs.dirs) : s ≤ cur :=
  (F.dirs_mem s hs).elim (fun h => Nat.le_of_lt (F.sealed_lt_cur h)) Nat.le_of_eq

theorem transfer {sl cur fs fs'} (F : Frame sl cur fs) (h1 : fs'.segmeta = fs.segmeta) (h2 : fs'.dirs = fs.dirs)
    (h3 : ∀ s, s ≠ cur ∨ s ∉ fs.dirs → fs'.seg s = fs.seg s) (h4 : ∀ s ∈ fs.dirs, s < nextSuffix fs') :
    Frame sl cur fs' :=
  ⟨h1.trans F.segmeta_eq, h2 ▸ F.dirs_nodup, h2 ▸ F.dirs_mem, F.sealed_lt,
    fun p hp => h3 _ (Or.inl (Nat.ne_of_lt (F.sealed_lt p hp))) ▸ F.sealed_ok p hp,
    fun s hs => (h3 s (Or.inr (h2 ▸ hs))).trans (F.untouched s (h2 ▸ hs)), h2 ▸ h4⟩

theorem sameBut {sl cur fs fs'} (F : Frame sl cur fs) (S : SameBut cur fs fs') (hc : cur ∈ fs.dirs) :
    Frame sl cur fs' :=
  F.transfer S.segmeta S.dirs (fun s h => S.seg s (h.elim id fun hs e => hs (e ▸ hc)))
    (by rw [nextSuffix, S.suffix]; exact F.suffix_ok)

end Frame

theorem sfmAdopted_frame {sl cur fs} (F : Frame sl cur fs) :
    sfmAdopted fs = if (fs.seg cur).sfm.parsable = true then [cur] else [] := by
  have hseg {s} : (segIds fs).contains s = true ↔ s ∈ sl.map (·.1) := F.segmeta_eq ▸ List.contains_iff_mem
  have hf : ∀ s ∈ fs.dirs, (!(segIds fs).contains s && (fs.seg s).sfm.parsable)
      = ((fs.seg cur).sfm.parsable && s == cur) := by
    intro s hs
    rcases F.dirs_mem s hs with h | rfl
    · -- a listed segment is not the open one: both sides are `false`
      exact hseg.2 h ▸ beq_false_of_ne (Nat.ne_of_lt (F.sealed_lt_cur h)) ▸ (Bool.and_false _).symm
    · -- the open segment is not listed: every listed segment lies below it
      have hno := Bool.eq_false_iff.2 fun h => Nat.lt_irrefl s (F.sealed_lt_cur (hseg.1 h))
      have hb : (s == s) = true := decide_eq_true rfl
      exact hno ▸ hb ▸ (Bool.and_true _).symm
  refine (List.filter_congr hf).trans ?_
  cases hp : (fs.seg cur).sfm.parsable
  · exact List.filter_eq_nil_iff.2 fun _ _ => Bool.false_ne_true
  · have hcur : cur ∈ fs.dirs := Decidable.by_contra fun hn =>
      Bool.false_ne_true ((congrArg (·.sfm.parsable) (F.untouched cur hn)).symm.trans hp)
    exact (List.filter_beq cur).trans (congrArg (List.replicate · cur) (F.dirs_nodup.count.trans (if_pos hcur)))

theorem adopted_eq_metas (fs : FS) : adopted fs = (metas fs).map (·.1) :=
  (congrArg (segIds fs ++ ·) ((List.map_map ..).trans (List.map_id' _)).symm).trans List.map_append.symm

theorem visible_eq_metas (fs : FS) : visible fs = (metas fs).flatMap (fun p => segVisible (fs.seg p.1)) := by
  rw [visible, adopted_eq_metas, List.flatMap_map]

theorem visible_frame {sl cur fs} (F : Frame sl cur fs) :
    visible fs = sl.flatMap (·.2) ++ (if (fs.seg cur).sfm.parsable = true then segVisible (fs.seg cur) else []) := by
  refine List.flatMap_append.trans (congr (congrArg _ ?_) ?_)
  · rw [segIds, F.segmeta_eq, List.flatMap_map, List.flatMap_def,
      List.map_congr_left fun p hp => (F.sealed_ok p hp).visible, ← List.flatMap_def]
  · rw [sfmAdopted_frame F, apply_ite (List.flatMap _), List.flatMap_singleton, List.flatMap_nil]

theorem Frame.torn {sl cur fs} {X : List Nat} (F : Frame sl cur fs) (hok : SegOK (fs.seg cur) X) : torn fs = [] := by
  refine List.flatMap_eq_nil_iff.2 fun s _ => ?_
  by_cases hs : s ∈ fs.dirs
  · rcases F.dirs_mem s hs with h | rfl
    · obtain ⟨p, hp, rfl⟩ := List.mem_map.1 h
      exact (F.sealed_ok p hp).torn
    · exact hok.torn
  · exact congrArg segTorn (F.untouched s hs)

end SigModel.Lemmas.C07
