/-
C08, the value field of a point: leading/trailing zero counts, the XOR window `compressValue` writes and what
`decompressValue` makes of it.
-/
import SigModel.Lemmas.C08

namespace SigModel.Lemmas.C08
open SigModel SigModel.Gorilla

theorem lzFrom_le (v n : Nat) : lzFrom v n ≤ n := by
  induction n with
  | zero => exact Nat.le_refl 0
  | succ n ih =>
    rw [lzFrom]
    split
    · exact Nat.zero_le _
    · rw [Nat.add_comm]
      exact Nat.succ_le_succ ih

theorem lt_of_lzFrom (v n : Nat) (h : v < 2 ^ n) : v < 2 ^ (n - lzFrom v n) := by
  induction n with
  | zero => exact h
  | succ n ih =>
    rw [lzFrom]
    split
    · exact h
    · rename_i hb
      rw [Nat.add_comm 1, Nat.add_sub_add_right]
      exact ih (Nat.lt_of_not_le fun hle => hb (Nat.testBit_of_two_pow_le_and_two_pow_add_one_gt hle h))

theorem tzFrom_dvd (f : Nat) : ∀ v : Nat, 2 ^ tzFrom v f ∣ v := by
  induction f with
  | zero => exact Nat.one_dvd
  | succ f ih =>
    intro v
    rw [tzFrom]
    split
    · exact Nat.one_dvd v
    · rename_i h
      have := Nat.mul_dvd_mul_left 2 (ih (v / 2))
      rw [Nat.mul_div_cancel' (Nat.dvd_of_mod_eq_zero (Nat.mod_two_ne_one.1 h))] at this
      rw [Nat.add_comm, Nat.pow_succ']
      exact this

/-- the `lz` of `compressValue` -/
def clz (x : Nat) : Nat := if leadingZeros x ≥ 32 then 31 else leadingZeros x

theorem tz_dvd (x : Nat) : 2 ^ trailingZeros x ∣ x := tzFrom_dvd 64 x

/-- the lead fits its 5 bits, the window is not empty, no set bit of `x` lies outside it -/
theorem clz_tz (x : Nat) (hx : x < P64) (h0 : x ≠ 0) :
    clz x ≤ 31 ∧ clz x + trailingZeros x < 64 ∧ x < 2 ^ (64 - clz x) ∧ 2 ^ trailingZeros x ∣ x := by
  have hc : clz x ≤ 31 ∧ clz x ≤ leadingZeros x := by
    rw [clz]
    split
    · rename_i h
      exact ⟨Nat.le_refl 31, Nat.le_of_succ_le h⟩
    · rename_i h
      exact ⟨Nat.le_of_lt_succ (Nat.not_le.1 h), Nat.le_refl _⟩
  have hdvd := tz_dvd x
  have hlt := Nat.lt_of_lt_of_le (lt_of_lzFrom x 64 hx) (Nat.pow_le_pow_right (by decide) (Nat.sub_le_sub_left hc.2 64))
  -- `2 ^ trailingZeros x ≤ x < 2 ^ (64 - clz x)` compares the exponents
  exact ⟨hc.1, Nat.add_lt_of_lt_sub' ((Nat.pow_lt_pow_iff_right (by decide)).1
    (Nat.lt_of_le_of_lt (Nat.le_of_dvd (Nat.pos_of_ne_zero h0) hdvd) hlt)), hlt, hdvd⟩

theorem u8sub_of_le (a b : Nat) (ha : a < 256) (h : b ≤ a) : u8sub a b = a - b := by
  rw [u8sub, Nat.mod_eq_of_lt ha, Nat.mod_eq_of_lt (Nat.lt_of_le_of_lt h ha), Nat.sub_add_comm h, Nat.add_mod_right,
    Nat.mod_eq_of_lt (Nat.lt_of_le_of_lt (Nat.sub_le a b) ha)]

/-- the width `decompressValue` computes in uint8 -/
theorem u8sub_window (a b : Nat) (h : a + b ≤ 64) : u8sub (u8sub 64 a) b = 64 - a - b := by
  rw [u8sub_of_le 64 a (by decide) (Nat.le_trans (Nat.le_add_right a b) h),
    u8sub_of_le _ b (Nat.lt_of_le_of_lt (Nat.sub_le 64 a) (by decide)) (Nat.le_sub_of_add_le' h)]

/-- the `shifted` of `decompressValue`, for a window `l`, `tr` that holds all of `x` -/
theorem window_back (x l tr : Nat) (h : l + tr ≤ 64) (hlt : x < 2 ^ (64 - l)) (hdvd : 2 ^ tr ∣ x) :
    (((x >>> tr) % 2 ^ (64 - l - tr) % P64) <<< tr) % P64 = x := by
  have hx : x < P64 := Nat.lt_of_lt_of_le hlt (Nat.pow_le_pow_right (by decide) (Nat.sub_le 64 l))
  have hw : x / 2 ^ tr < 2 ^ (64 - l - tr) := by
    refine Nat.div_lt_of_lt_mul ?_
    rw [← Nat.pow_add, Nat.add_sub_cancel' (Nat.le_sub_of_add_le' h)]
    exact hlt
  rw [Nat.shiftRight_eq_div_pow, Nat.mod_eq_of_lt hw, Nat.mod_eq_of_lt (Nat.lt_of_le_of_lt (Nat.div_le_self _ _) hx),
    Nat.shiftLeft_eq, Nat.div_mul_cancel hdvd, Nat.mod_eq_of_lt hx]

/-- the 6-bit width field: 64 is written as 0 -/
theorem width_field (s : Nat) (h0 : s ≠ 0) (h : s ≤ 64) : (if s % 2 ^ 6 = 0 then 64 else s % 2 ^ 6) = s := by
  rcases Nat.lt_or_eq_of_le h with h | rfl
  · rw [Nat.mod_eq_of_lt h, if_neg h0]
  · rfl

theorem decompressValue_zero (d : Dec) (r : Bits) : decompressValue d (false :: r) = some (d, r) := rfl

theorem decompressValue_header (d : Dec) (lz tz : Nat) (rest : Bits) (hlz : lz ≤ 31) (hsum : lz + tz < 64) :
    decompressValue d (true :: true :: (writeBits lz 5 ++ (writeBits (64 - lz - tz) 6 ++ rest))) =
      decompressValue { d with lead := lz, trail := tz } (true :: false :: rest) := by
  rw [Nat.sub_sub]
  have htr : u8sub (u8sub 64 (64 - (lz + tz))) lz = tz := by
    rw [u8sub_of_le 64 _ (by decide) (Nat.sub_le 64 _), Nat.sub_sub_self (Nat.le_of_lt hsum),
      u8sub_of_le _ lz (Nat.lt_trans hsum (by decide)) (Nat.le_add_right lz tz), Nat.add_sub_cancel_left]
  rw [decompressValue, decompressValue]
  simp only [if_true, readBits_writeBits, Bool.false_eq_true, if_false, Nat.mod_eq_of_lt (Nat.lt_succ_of_le hlz),
    width_field _ (Nat.sub_ne_zero_of_lt hsum) (Nat.sub_le 64 (lz + tz)), htr]

theorem decompressValue_window (d : Dec) (x l tr : Nat) (r : Bits) (hl : d.lead = l) (htr : d.trail = tr)
    (h64 : l + tr < 64) (hlt : x < 2 ^ (64 - l)) (hdvd : 2 ^ tr ∣ x) :
    decompressValue d (true :: false :: (writeBits (x >>> tr) (64 - l - tr) ++ r)) =
      some ({ d with value := d.value ^^^ x }, r) := by
  subst hl htr
  simp only [decompressValue, Bool.false_eq_true, if_false, u8sub_window d.lead d.trail (Nat.le_of_lt h64),
    readBits_writeBits]
  rw [if_neg (Nat.not_le.2 (Nat.lt_of_le_of_lt (Nat.le_add_left _ _) h64)), window_back x _ _ (Nat.le_of_lt h64) hlt hdvd]

/- NOTE: never let the kernel check `(A, B).1 ≡ A` when `A` is itself `(f x).1` with `f` a big unfoldable function: it
compares the arguments of the two `Prod.fst` first and unfolds `f`.  Take the components through this lemma. -/
theorem pair_eq {α β : Type} {p : α × β} {a : α} {b : β} (h : p = (a, b)) : p.1 = a ∧ p.2 = b := by
  subst h
  exact ⟨rfl, rfl⟩

theorem xor_cancel (a v : Nat) : a ^^^ (a ^^^ v) = v := by
  rw [← Nat.xor_assoc, Nat.xor_self, Nat.zero_xor]

theorem compressValue_zero (c : Enc) (v : Nat) (h : c.value ^^^ v = 0) :
    compressValue c v = ({ c with value := v }, [false]) := by
  simp only [compressValue, h, if_true]

theorem compressValue_ne (c : Enc) (v x : Nat) (hx : c.value ^^^ v = x) (h : x ≠ 0) :
    compressValue c v =
      if c.lead ≤ clz x ∧ c.trail ≤ trailingZeros x then
        ({ c with value := v }, true :: false :: writeBits (x >>> c.trail) (64 - c.lead - c.trail))
      else
        ({ c with value := v, lead := clz x, trail := trailingZeros x },
          true :: true :: (writeBits (clz x) 5 ++ (writeBits (64 - clz x - trailingZeros x) 6 ++
            writeBits (x >>> trailingZeros x) (64 - clz x - trailingZeros x)))) := by
  simp only [compressValue, hx, h, if_false, clz, List.append_assoc, ge_iff_le]

theorem compressValue_fst (c : Enc) (v : Nat) :
    ∃ l tr, (compressValue c v).1 = { c with value := v, lead := l, trail := tr } := by
  by_cases h0 : c.value ^^^ v = 0
  · exact ⟨_, _, congrArg Prod.fst (compressValue_zero c v h0)⟩
  · rw [compressValue_ne c v _ rfl h0]
    split
    · exact ⟨_, _, rfl⟩
    · exact ⟨_, _, rfl⟩

/-- the decoder's window is the encoder's; an encoder without one (`lead = 255`, `NewCompressor`) writes a header first -/
def Win (c : Enc) (d : Dec) : Prop :=
  c.lead = 255 ∨ (d.lead = c.lead ∧ d.trail = c.trail)

theorem value_step (c : Enc) (d : Dec) (v : Nat) (r : Bits) (hv : v < P64)
    (hval : d.value = c.value) (hcv : c.value < P64) (hwin : Win c d) :
    ∃ d2, decompressValue d ((compressValue c v).2 ++ r) = some (d2, r) ∧
      d2.t = d.t ∧ d2.delta = d.delta ∧ d2.value = v ∧ Win (compressValue c v).1 d2 ∧
      (compressValue c v).1.value = v ∧ (compressValue c v).1.t = c.t ∧
      (compressValue c v).1.tDelta = c.tDelta := by
  by_cases h0 : c.value ^^^ v = 0
  · rw [compressValue_zero c v h0]
    refine ⟨d, decompressValue_zero d r, rfl, rfl, ?_, hwin, rfl, rfl, rfl⟩
    rw [hval, ← xor_cancel c.value v, h0, Nat.xor_zero]
  · generalize hX : c.value ^^^ v = x at h0
    have hx : x < P64 := hX ▸ Nat.xor_lt_two_pow (n := 64) hcv hv
    obtain ⟨hlz, hsum, hlt, hdvd⟩ := clz_tz x hx h0
    have hxv : d.value ^^^ x = v := by rw [hval, ← hX, xor_cancel]
    have hc := compressValue_ne c v x hX h0
    -- as variables: the unifier is slow on the steps below while `clz x` and `trailingZeros x` stand in the terms
    generalize clz x = lz at hlz hsum hlt hc
    generalize trailingZeros x = tz at hsum hdvd hc
    split at hc
    · rename_i hw
      obtain ⟨e1, e2⟩ := hwin.resolve_left (fun h => absurd (h ▸ Nat.le_trans hw.1 hlz) (by decide))
      rw [hc]
      -- the window kept, `c.lead`, `c.trail`, contains the window `lz`, `tz` of `x`
      exact ⟨_, decompressValue_window d x c.lead c.trail r e1 e2 (Nat.lt_of_le_of_lt (Nat.add_le_add hw.1 hw.2) hsum)
        (Nat.lt_of_lt_of_le hlt (Nat.pow_le_pow_right (by decide) (Nat.sub_le_sub_left hw.1 64)))
        (Nat.dvd_trans (Nat.pow_dvd_pow 2 hw.2) hdvd), rfl, rfl, hxv, Or.inr ⟨e1, e2⟩, rfl, rfl, rfl⟩
    · obtain ⟨hc1, hc2⟩ := pair_eq hc
      rw [hc1, hc2, List.cons_append, List.cons_append, List.append_assoc, List.append_assoc,
        decompressValue_header d _ _ _ hlz hsum, decompressValue_window _ x lz tz r rfl rfl hsum hlt hdvd]
      exact ⟨_, rfl, rfl, rfl, hxv, Or.inr ⟨rfl, rfl⟩, rfl, rfl, rfl⟩

end SigModel.Lemmas.C08
