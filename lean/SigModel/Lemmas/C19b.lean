/-
Lemmas for Props/C19, second part: the depth walk of a name against the Clean loop, Join against a base, the shape
shared by all path builders (fixed directories around ONE client-controlled element), and `within` read off the printed
strings.
-/
import SigModel.Lemmas.C19
import SigModel.Model.PathFlow
namespace SigModel.Lemmas.C19
open SigModel.Path

theorem walk_skip {n : Nat} {s : Seg} {r : List Seg} (h : s = [] ∨ s = dot) : walk n (s :: r) = walk n r :=
  if_pos h

theorem walk_down {n : Nat} {s : Seg} {r : List Seg} (h1 : ¬(s = [] ∨ s = dot)) (h2 : s ≠ dd) :
    walk n (s :: r) = walk (n + 1) r :=
  (if_neg h1).trans (if_neg h2)

theorem walk_plain {n : Nat} {s : Seg} {r : List Seg} (h : Plain s) : walk n (s :: r) = walk (n + 1) r :=
  walk_down (not_skip h) h.2.2.1

theorem walk_dd_succ {n : Nat} {r : List Seg} : walk (n + 1) (dd :: r) = walk n r :=
  (if_neg dd_not_skip).trans (if_pos rfl)

theorem step_lost {b st : List Seg} {s : Seg} (hs : s ∉ b) (h : ¬ b <:+ st) : ¬ b <:+ step true st s := by
  have hpush : ¬ b <:+ s :: st := fun hc =>
    (List.suffix_cons_iff.mp hc).elim (fun he => hs (he ▸ List.mem_cons_self)) h
  -- the cases of `step`: skipped; ".." on the empty stack (rooted, not rooted); ".." on top of ".."; ".." pops; push
  fun_cases step true st s with
  | case1 | case2 => exact h
  | case3 _ _ hr => exact absurd rfl hr
  | case4 _ hdd => exact hdd ▸ hpush
  | case5 _ _ t r => exact fun hc => h (hc.trans (List.suffix_cons t r))
  | case6 => exact hpush

/-- The Clean loop from a stack `top ++ b`, `top` holding what the walk has descended into.  When the walk fails, the
    ".." met at depth 0 is applied to `b` itself; if that leaves `b`, elements that are no directory names of `b` never
    bring it back (`step_lost`). -/
theorem foldl_walk {b : List Seg} (segs : List Seg) (n : Nat) : ∀ top : List Seg, top.length = n → (∀ y ∈ top, y ≠ dd) →
    ((walk n segs).isSome → b <:+ segs.foldl (step true) (top ++ b)) ∧
    (walk n segs = none → ¬ b <:+ step true b dd → (∀ s ∈ segs, s ∉ b) → ¬ b <:+ segs.foldl (step true) (top ++ b)) := by
  -- the cases of `walk`: end of the list; a skipped element; ".." at depth 0; ".." deeper down; any other element
  fun_induction walk n segs with
  | case1 n => exact fun top _ _ => ⟨fun _ => List.suffix_append top b, fun hw => absurd hw (Option.some_ne_none n)⟩
  | case2 n s t h ih =>
    intro top hn ht
    rw [List.foldl_cons, step_skip h]
    exact ⟨(ih top hn ht).1, fun hw hb hf => (ih top hn ht).2 hw hb (List.forall_mem_cons.mp hf).2⟩
  | case3 t h =>
    intro top hn _
    rw [List.length_eq_zero_iff.mp hn, List.nil_append, List.foldl_cons]
    exact ⟨fun hw => absurd hw Bool.false_ne_true, fun _ hb hf =>
      List.foldlRecOn (motive := fun st => ¬ b <:+ st) t (step true) hb fun _ h s hs =>
        step_lost ((List.forall_mem_cons.mp hf).2 s hs) h⟩
  | case4 t k h ih =>
    intro top hn ht
    obtain ⟨y, top', rfl⟩ := List.exists_cons_of_length_eq_add_one hn
    rw [List.foldl_cons, List.cons_append, step_dd_cons (ht y List.mem_cons_self)]
    have ih' := ih top' (Nat.succ.inj hn) (List.forall_mem_cons.mp ht).2
    exact ⟨ih'.1, fun hw hb hf => ih'.2 hw hb (List.forall_mem_cons.mp hf).2⟩
  | case5 n s t h h2 ih =>
    intro top hn ht
    rw [List.foldl_cons, step_push h h2]
    have ih' := ih (s :: top) (congrArg Nat.succ hn) (List.forall_mem_cons.mpr ⟨h2, ht⟩)
    exact ⟨ih'.1, fun hw hb hf => ih'.2 hw hb (List.forall_mem_cons.mp hf).2⟩

theorem dataPath_append (d : List Seg) (rest : Str) : dataPath d ++ rest = '/' :: (joinSegs d ++ '/' :: rest) :=
  congrArg ('/' :: ·) (List.append_assoc (joinSegs d) ['/'] rest)

theorem cleanN_dataPath {d : List Seg} (hd : ∀ s ∈ d, Plain s) (rest : Str) :
    cleanN (dataPath d ++ rest) = ⟨true, ((splitSlash rest).foldl (step true) d.reverse).reverse⟩ := by
  have hfold : (splitSlash (joinSegs d)).foldl (step true) [] = d.reverse := by
    cases d with
    | nil => rfl
    | cons s r =>
      rw [splitSlash_joinSegs _ (List.cons_ne_nil s r) (fun x hx => (hd x hx).2.2.2), foldl_plain _ _ hd,
        List.append_nil]
  rw [dataPath_append, cleanN_slash, splitSlash_append_slash, normSegs, List.foldl_append, hfold]

theorem within_dataDir_reverse {d st : List Seg} : within (dataDir d) ⟨true, st.reverse⟩ ↔ d.reverse <:+ st := by
  rw [← List.reverse_prefix, List.reverse_reverse]
  exact and_iff_right rfl

theorem within_dataPath {d : List Seg} (hd : ∀ s ∈ d, Plain s) (rest : Str) (h : depthOK rest) :
    within (dataDir d) (cleanN (dataPath d ++ rest)) := by
  rw [cleanN_dataPath hd, within_dataDir_reverse]
  exact (foldl_walk _ 0 [] rfl (List.forall_mem_nil _)).1 h

/-- `hfresh` excludes names that leave the data dir and come back by spelling out its own directory names; `hne`: the root
    cannot be left. -/
theorem within_dataPath_iff {d : List Seg} (hd : ∀ s ∈ d, Plain s) (hne : d ≠ []) (rest : Str)
    (hfresh : ∀ s ∈ splitSlash rest, s ∉ d) : within (dataDir d) (cleanN (dataPath d ++ rest)) ↔ depthOK rest := by
  refine ⟨fun hin => Decidable.byContradiction fun hnd => ?_, within_dataPath hd rest⟩
  rw [cleanN_dataPath hd, within_dataDir_reverse] at hin
  -- ".." at depth 0 pops the last directory of the data path
  obtain ⟨x, t, hx⟩ := List.exists_cons_of_ne_nil (mt List.reverse_eq_nil_iff.mp hne)
  have hpop : ¬ d.reverse <:+ step true d.reverse dd := by
    rw [hx, step_dd_cons (hd x (List.mem_reverse.mp (hx ▸ List.mem_cons_self))).2.2.1]
    exact fun hc => Nat.not_succ_le_self _ hc.length_le
  exact (foldl_walk _ 0 [] rfl (List.forall_mem_nil _)).2 (Option.not_isSome_iff_eq_none.mp hnd) hpop
    (fun s hs hm => hfresh s hs (List.mem_reverse.mp hm)) hin

/-- an absolute, cleaned base directory -/
def AbsBase (b : NPath) : Prop := b.rooted = true ∧ ∀ s ∈ b.segs, Plain s

theorem absBase_normal {b : NPath} (h : AbsBase b) : Normal b :=
  ⟨b.segs, 0, rfl, fun _ => rfl, h.2⟩

theorem within_absBase {b : NPath} (h : AbsBase b) (p : NPath) : within b p = within (dataDir b.segs) p := by
  rw [within, within, h.1]; rfl

theorem cleanN_join_base {b : NPath} (hb : AbsBase b) (name : Str) :
    cleanN (join (render b) name) = cleanN (dataPath b.segs ++ name) := by
  obtain ⟨_, segs⟩ := b
  cases hb.1
  have hne : render ⟨true, segs⟩ ≠ [] := List.cons_ne_nil '/' (joinSegs segs)
  rw [join, if_neg hne]
  by_cases hn : name = []
  · -- an empty name is ignored: Clean(base) = base
    rw [if_pos hn, hn, clean, cleanN_render (cleanN_normal _), cleanN_render (absBase_normal hb), cleanN_dataPath hb.2]
    exact congrArg (NPath.mk true) (List.reverse_reverse segs).symm
  · rw [if_neg hn, clean, cleanN_render (cleanN_normal _), dataPath_append]
    rfl

/-- appended below a directory `n` levels inside the data dir, the path elements `l` never climb above the data dir -/
inductive Safe : Nat → List Seg → Prop
  | nil {n} : Safe n []
  | skip {n r} : Safe n r → Safe n ([] :: r)
  | dir {n s r} : Plain s → Safe (n + 1) r → Safe n (s :: r)
  /-- the client's element: it may be "..", so it needs a directory above it -/
  | name {n v r} : '/' ∉ v → Safe n r → Safe (n + 1) (v :: r)

theorem Safe.noSlash {n : Nat} {l : List Seg} (h : Safe n l) : ∀ s ∈ l, '/' ∉ s := by
  induction h with
  | nil => exact List.forall_mem_nil _
  | skip _ ih => exact List.forall_mem_cons.mpr ⟨List.not_mem_nil, ih⟩
  | dir hs _ ih => exact List.forall_mem_cons.mpr ⟨hs.2.2.2, ih⟩
  | name hv _ ih => exact List.forall_mem_cons.mpr ⟨hv, ih⟩

/-- Stated for every deeper start: the client's element may leave the walk at its depth, one below or one above. -/
theorem Safe.walk_isSome {n : Nat} {l : List Seg} (h : Safe n l) : ∀ m, n ≤ m → (walk m l).isSome := by
  induction h with
  | nil => exact fun _ _ => rfl
  | skip _ ih => exact fun m hm => (walk_skip (.inl rfl)).symm ▸ ih m hm
  | dir hs _ ih => exact fun m hm => (walk_plain hs).symm ▸ ih (m + 1) (Nat.succ_le_succ hm)
  | @name n v r hv _ ih =>
    intro m hm
    obtain ⟨k, rfl⟩ := Nat.exists_eq_add_one_of_ne_zero (Nat.ne_zero_of_lt hm)
    have hk : n ≤ k := Nat.le_of_succ_le_succ hm
    rcases seg_cases v hv with h | rfl | h
    · rw [walk_skip h]; exact ih _ (Nat.le_succ_of_le hk)
    · rw [walk_dd_succ]; exact ih k hk
    · rw [walk_plain h]; exact ih _ (Nat.le_succ_of_le (Nat.le_succ_of_le hk))

theorem within_of_safe {d : List Seg} (hd : ∀ s ∈ d, Plain s) {l : List Seg} (h : Safe 0 l) :
    within (dataDir d) (cleanN (dataPath d ++ joinSegs l)) := by
  refine within_dataPath hd _ ?_
  cases l with
  | nil => decide
  | cons s r =>
    rw [depthOK, splitSlash_joinSegs _ (List.cons_ne_nil s r) h.noSlash]
    exact h.walk_isSome 0 (Nat.le_refl 0)

theorem plain_final : Plain "final".toList := by decide_chars
theorem plain_ingestnodes : Plain "ingestnodes".toList := by decide_chars
theorem plain_vtabledata : Plain "vtabledata".toList := by decide_chars
theorem plain_SID : Plain SID := by unfold SID; decide_chars
theorem plain_IDX : Plain IDX := by unfold IDX; decide_chars
theorem plain_zero : Plain ['0'] := by decide
theorem noSlash_json : '/' ∉ ".json".toList := by decide_chars
theorem noSlash_csv : '/' ∉ csvExt := by unfold csvExt; decide_chars

theorem uploadName_noSlash {v : Str} (h : '/' ∉ v) : '/' ∉ uploadName v := by
  unfold uploadName
  exact iteInduction (motive := ('/' ∉ ·)) (fun _ => h) fun _ => List.not_mem_append h noSlash_csv

theorem of_guarded {c : Prop} [Decidable c] {q p : NPath} {P : NPath → Prop} (hq : c → P q)
    (h : (if c then some q else none) = some p) : P p :=
  have h' := Option.ite_none_right_eq_some.mp h
  Option.some.inj h'.2 ▸ hq h'.1

theorem routeParamOK_noSlash {v : Str} (h : routeParamOK v = true) : '/' ∉ v :=
  (of_decide_eq_true h).2

theorem within_lookupJoin {d : List Seg} (hd : ∀ s ∈ d, Plain s) {name : Str} (h : '/' ∉ name) :
    within (dataDir d) (lookupJoin d name) :=
  within_of_safe hd (.dir (by decide_chars) (.skip (.name h .nil)))

theorem joinSegs_append (s : Seg) (a : List Seg) (t : Seg) (b : List Seg) :
    joinSegs (s :: a ++ t :: b) = joinSegs (s :: a) ++ '/' :: joinSegs (t :: b) := by
  induction a generalizing s with
  | nil => rfl
  | cons s2 a ih =>
    exact (congrArg (fun x => s ++ '/' :: x) (ih s2)).trans (List.append_assoc s ('/' :: joinSegs (s2 :: a)) _).symm

theorem splitSlash_render_abs {segs : List Seg} (hne : segs ≠ []) (hp : ∀ s ∈ segs, Plain s) :
    splitSlash (render ⟨true, segs⟩) = [] :: segs := by
  rw [render, if_pos rfl, splitSlash, if_pos rfl, splitSlash_joinSegs segs hne (fun x hx => (hp x hx).2.2.2)]

end SigModel.Lemmas.C19
