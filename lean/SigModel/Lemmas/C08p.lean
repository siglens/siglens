/-
C08, the input of the TSID hash (Spec/Metrics.lean `preimageB`): a concatenation of fields, each behind its 4-byte
length, determines the fields.
-/
import SigModel.Spec.Metrics

namespace SigModel.Lemmas.C08p
open SigModel.Spec.Metrics

theorem le32_length (n : Nat) : (le32 n).length = 4 := rfl

/-- the length `n` survives `writeFieldLen`'s cast `uint32(n)` -/
def fits (n : Nat) : Prop := n < 2 ^ 32

theorem le32_value {n : Nat} (hn : fits n) : (le32 n).foldr (fun d acc : Nat => d + 256 * acc) 0 = n := by
  dsimp only [le32, List.foldr]
  -- the `0` is `n / 2 ^ 32 = n / 16777216 / 256`; then digit and rest recombine from the top, four times
  rw [← Nat.div_eq_of_lt hn, ← Nat.div_div_eq_div_mul n 16777216 256, Nat.mod_add_div,
    ← Nat.div_div_eq_div_mul n 65536 256, Nat.mod_add_div,
    ← Nat.div_div_eq_div_mul n 256 256, Nat.mod_add_div, Nat.mod_add_div]

theorem fieldB_append_inj {a b x y : List Nat} (ha : fits a.length) (hb : fits b.length)
    (h : fieldB a ++ x = fieldB b ++ y) : a = b ∧ x = y := by
  simp only [fieldB, List.append_assoc] at h
  obtain ⟨hl, h⟩ := List.append_inj h ((le32_length _).trans (le32_length _).symm)
  exact List.append_inj h (by rw [← le32_value ha, hl, le32_value hb])

theorem encTag_append_inj {a b : List Nat × List Nat} {x y : List Nat} (ha : fits a.1.length ∧ fits a.2.length)
    (hb : fits b.1.length ∧ fits b.2.length) (h : encTag a ++ x = encTag b ++ y) : a = b ∧ x = y := by
  simp only [encTag, List.append_assoc] at h
  obtain ⟨h1, h⟩ := fieldB_append_inj ha.1 hb.1 h
  obtain ⟨h2, h⟩ := fieldB_append_inj ha.2 hb.2 (List.append_cancel_left h)
  exact ⟨Prod.ext h1 h2, h⟩

theorem tags_inj {t1 t2 : List (List Nat × List Nat)} (f1 : ∀ kv ∈ t1, fits kv.1.length ∧ fits kv.2.length)
    (f2 : ∀ kv ∈ t2, fits kv.1.length ∧ fits kv.2.length)
    (h : (t1.map encTag).flatten = (t2.map encTag).flatten) : t1 = t2 := by
  induction t1 generalizing t2 with
  | nil =>
    cases t2 with
    | nil => rfl
    -- an encoded tag starts with four length bytes: it is not empty
    | cons => cases h
  | cons a r1 ih =>
    cases t2 with
    | nil => cases h
    | cons b r2 =>
      rw [List.forall_mem_cons] at f1 f2
      obtain ⟨hab, h⟩ := encTag_append_inj f1.1 f2.1 h
      rw [hab, ih f1.2 f2.2 h]

theorem preimageB_inj (n1 n2 : List Nat) (t1 t2 : List (List Nat × List Nat))
    (hn1 : fits n1.length) (hn2 : fits n2.length) (f1 : ∀ kv ∈ t1, fits kv.1.length ∧ fits kv.2.length)
    (f2 : ∀ kv ∈ t2, fits kv.1.length ∧ fits kv.2.length) (h : preimageB n1 t1 = preimageB n2 t2) :
    n1 = n2 ∧ t1 = t2 := by
  simp only [preimageB, List.append_assoc] at h
  obtain ⟨hn, h⟩ := fieldB_append_inj hn1 hn2 h
  exact ⟨hn, tags_inj f1 f2 (List.append_cancel_left h)⟩

end SigModel.Lemmas.C08p
