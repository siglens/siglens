/-
C08, tags tree data chunk at block level (Model/TagsTree.lean): the chunks of a TSID list concatenate to the list and
fit the 16-bit count field; the readers collect, for every value, exactly the TSIDs of its entry however many blocks
it was written in (of the exact-match reader the two halves, `readEqual_skip` over the blocks of other values and
`readEqual_run` over its own; the induction over the entries is `tagstree_exact_complete` in Props/C08).
-/
import SigModel.Model.TagsTree

namespace SigModel.Lemmas.C08t
open SigModel.TagsTree

theorem chunksAux_of_le (fuel : Nat) (l : List Nat) (h : l.length ≤ maxPerBlock) : chunksAux (fuel + 1) l = [l] :=
  if_pos h

theorem chunksAux_of_gt (fuel : Nat) (l : List Nat) (h : maxPerBlock < l.length) :
    chunksAux (fuel + 1) l = l.take maxPerBlock :: chunksAux fuel (l.drop maxPerBlock) :=
  if_neg (Nat.not_le.mpr h)

theorem chunksAux_flatten (fuel : Nat) (l : List Nat) (h : l.length < fuel) : (chunksAux fuel l).flatten = l := by
  fun_induction chunksAux fuel l with
  | case1 => exact absurd h (Nat.not_lt_zero _)
  | case2 fuel l hl => exact List.flatten_singleton
  | case3 fuel l hl ih =>
    have hd : l.length - maxPerBlock < fuel :=
      Nat.lt_of_lt_of_le (Nat.sub_lt (Nat.zero_lt_of_lt (Nat.not_le.mp hl)) (by decide)) (Nat.le_of_lt_succ h)
    rw [List.flatten_cons, ih (List.length_drop ▸ hd), List.take_append_drop]

theorem chunks_flatten (l : List Nat) : (chunks l).flatten = l :=
  chunksAux_flatten _ l (Nat.lt_succ_self _)

theorem chunksAux_fit (fuel : Nat) (l : List Nat) : ∀ c ∈ chunksAux fuel l, c.length ≤ maxPerBlock := by
  fun_induction chunksAux fuel l with
  | case1 => exact List.forall_mem_nil _
  | case2 fuel l hl => exact List.forall_mem_singleton.mpr hl
  | case3 fuel l hl ih => exact List.forall_mem_cons.mpr ⟨List.length_take_le _ _, ih⟩

theorem chunks_fit (l : List Nat) : ∀ c ∈ chunks l, c.length ≤ maxPerBlock := chunksAux_fit _ l

theorem blocksOf_hash (e : Entry) : ∀ b ∈ blocksOf e, b.hash = e.hash :=
  List.forall_mem_map.mpr fun _ _ => rfl

theorem blocksOf_tsids (e : Entry) : (blocksOf e).flatMap (·.tsids) = e.tsids := by
  unfold blocksOf
  rw [List.flatMap_map, List.flatMap_id']
  exact chunks_flatten e.tsids

theorem wellFramed_iff (b : Block) : wellFramed b ↔ b.tsids.length ≤ maxPerBlock :=
  (Nat.mod_eq_iff_lt (by decide)).trans Nat.lt_succ_iff

theorem encodeBlocks_wellFramed (es : List Entry) : ∀ b ∈ encodeBlocks es, wellFramed b :=
  List.forall_mem_flatMap.mpr fun _ _ => List.forall_mem_map.mpr fun c hc => (wellFramed_iff _).2 (chunks_fit _ c hc)

theorem encodeBlocks_hash_ne (h : Nat) (es : List Entry) (hn : h ∉ es.map (·.hash)) : ∀ b ∈ encodeBlocks es, b.hash ≠ h :=
  List.forall_mem_flatMap.mpr fun e he b hb hbh => hn (List.mem_map.mpr ⟨e, he, (blocksOf_hash e b hb).symm.trans hbh⟩)

theorem readEqual_none (h : Nat) (m : Bool) (bs : List Block) (hb : ∀ b ∈ bs, b.hash ≠ h) : readEqual h m bs = [] := by
  fun_induction readEqual h m bs with
  | case1 => rfl
  | case2 m b r hh ih => exact absurd hh (hb b (List.mem_cons_self ..))
  | case3 b r hh => rfl
  | case4 m b r hh hm ih => exact ih (fun b hm => hb b (List.mem_cons_of_mem _ hm))

theorem readEqual_skip (h : Nat) (bs rest : List Block) (hb : ∀ b ∈ bs, b.hash ≠ h) :
    readEqual h false (bs ++ rest) = readEqual h false rest := by
  induction bs with
  | nil => rfl
  | cons b bs ih =>
    obtain ⟨hb1, hb2⟩ := List.forall_mem_cons.mp hb
    -- `readEqual` on a `cons` unfolds to its two `if`s
    exact (if_neg hb1).trans ((if_neg Bool.false_ne_true).trans (ih hb2))

theorem readEqual_run (h : Nat) (m : Bool) (bs rest : List Block) (hb : ∀ b ∈ bs, b.hash = h)
    (hr : ∀ b ∈ rest, b.hash ≠ h) : readEqual h m (bs ++ rest) = bs.flatMap (·.tsids) := by
  induction bs generalizing m with
  | nil => exact readEqual_none h m rest hr
  | cons b bs ih =>
    obtain ⟨hb1, hb2⟩ := List.forall_mem_cons.mp hb
    exact (if_pos hb1).trans (congrArg _ (ih true hb2))

theorem filter_hash_tsids (q : Nat → Bool) (es : List Entry) :
    ((encodeBlocks es).filter (fun b => q b.hash)).flatMap (·.tsids) = (es.filter (fun e => q e.hash)).flatMap (·.tsids) := by
  unfold encodeBlocks
  induction es with
  | nil => rfl
  | cons x xs ih =>
    rw [List.flatMap_cons, List.filter_append, List.flatMap_append, ih, List.filter_cons]
    cases hq : q x.hash with
    | true =>
      rw [List.filter_eq_self.mpr fun b hb => blocksOf_hash x b hb ▸ hq, blocksOf_tsids, if_pos rfl, List.flatMap_cons]
    | false =>
      rw [List.filter_eq_nil_iff.mpr fun b hb => blocksOf_hash x b hb ▸ hq ▸ Bool.false_ne_true,
        if_neg Bool.false_ne_true, List.flatMap_nil, List.nil_append]

theorem readNotEqual_complete (h : Nat) (es : List Entry) :
    readNotEqual h (encodeBlocks es) = (es.filter (fun e => e.hash != h)).flatMap (·.tsids) :=
  filter_hash_tsids (fun x => x != h) es

theorem flatMap_filter_nonempty (bs : List Block) :
    (bs.filter (fun b => !b.tsids.isEmpty)).flatMap (·.tsids) = bs.flatMap (·.tsids) := by
  rw [List.flatMap_def, List.flatMap_def, ← List.flatten_filter_not_isEmpty (L := bs.map _), List.filter_map]
  rfl

theorem iterFor_complete (h : Nat) (es : List Entry) :
    iterFor h (encodeBlocks es) = (es.filter (fun e => e.hash == h)).flatMap (·.tsids) := by
  rw [← filter_hash_tsids (fun x => x == h) es, ← flatMap_filter_nonempty]
  simp only [iterFor, iterate, List.filter_map, List.flatMap_map, List.filter_filter, Function.comp_def, Bool.and_comm]

end SigModel.Lemmas.C08t
