/-
C08, one point: what `compress` writes for it, the invariant that ties the decoder state to the encoder state, and
`next` on the bits of a point and on the finish marker.  At the end: timestamps below 2^31 that do not decrease never
produce the delta-of-delta the decoder takes for the finish marker.
-/
import SigModel.Lemmas.C08b
import SigModel.Lemmas.C08c
import SigModel.Lemmas.C08e

namespace SigModel.Lemmas.C08
open SigModel SigModel.Gorilla

theorem compress_later (c : Enc) (t v : Nat) (h : c.t ≠ 0) :
    (compress c t v).1 = (compressValue (tsEnc c t) v).1 ∧
      (compress c t v).2 = tsBits (dodOf c t) ++ (compressValue (tsEnc c t) v).2 := by
  refine pair_eq ?_
  rw [compress]
  refine (if_neg h).trans ?_
  rw [compressTimestamp_eq]

theorem wrapSub (a b : Nat) (hb : b ≤ a) (ha : a < P32) : (a % P32 + P32 - b) % P32 = a - b := by
  rw [Nat.mod_eq_of_lt ha, Nat.add_comm, Nat.add_sub_assoc hb, Nat.add_mod_left,
    Nat.mod_eq_of_lt (Nat.lt_of_le_of_lt (Nat.sub_le _ _) ha)]

theorem compress_first (header t v : Nat) (h1 : header < P32) (h2 : t < P32) (h4 : header ≤ t)
    (h5 : t - header < 2147483648) :
    compress (Enc.new header).1 t v =
      ({ header := header, t := t, tDelta := t - header, lead := 255, trail := 0, value := v },
       writeBits (t - header) 14 ++ writeBits v 64) := by
  rw [compress]
  refine (if_pos rfl).trans ?_
  simp only [Enc.new, firstDeltaBits, Nat.mod_eq_of_lt h1, wrapSub t header h4 h2]
  rw [toS32_of_lt _ h5, if_neg (Int.not_lt.2 (Int.natCast_nonneg _)), Nat.mod_eq_of_lt h2]

/-- a point costs at least one bit: the fuel of `decodeAll` suffices -/
theorem length_le_encodeFrom (pts : List (Nat × Nat)) (c : Enc) : pts.length ≤ (encodeFrom c pts).length := by
  induction pts generalizing c with
  | nil => exact Nat.zero_le _
  | cons p ps ih =>
    have hne : (compress c p.1 p.2).2 ≠ [] := by
      by_cases h : c.t = 0
      · rw [compress, if_pos h]
        exact List.cons_ne_nil _ _
      · rw [(compress_later c p.1 p.2 h).2]
        exact fun he => tsBits_ne_nil _ (List.append_eq_nil_iff.mp he).1
    rw [encodeFrom_cons, List.length_append, List.length_cons, Nat.add_comm]
    exact Nat.add_le_add (List.length_pos_iff.mpr hne) (ih _)

structure Inv (c : Enc) (d : Dec) : Prop where
  t_ne : c.t ≠ 0
  t_lt : c.t < P32
  t_eq : d.t = c.t
  delta_eq : d.delta = c.tDelta
  delta_lt : c.tDelta < P32
  value_eq : d.value = c.value
  value_lt : c.value < P64
  win : Win c d

theorem first_step (header t v : Nat) (r : Bits)
    (hf : header < P32 ∧ t < P32 ∧ t ≠ 0 ∧ header ≤ t ∧ t - header < 2 ^ 14 - 1) (hv : v < P64) :
    ∃ d1, next (dec0 header) ((compress (Enc.new header).1 t v).2 ++ r) = .ok (d1, r) ∧
      d1.t = t ∧ d1.value = v ∧ Inv (compress (Enc.new header).1 t v).1 d1 := by
  obtain ⟨h1, h2, h3, h4, h5⟩ := hf
  rw [compress_first header t v h1 h2 h4 (Nat.lt_trans h5 (by decide))]
  refine ⟨{ header := header, t := t, delta := t - header, lead := 0, trail := 0, value := v },
    ?_, rfl, rfl, h3, h2, rfl, rfl, Nat.lt_of_le_of_lt (Nat.sub_le _ _) h2, rfl, hv, Or.inl rfl⟩
  rw [next]
  refine (if_pos rfl).trans ?_
  rw [decompressFirst]
  simp only [List.append_assoc, firstDeltaBits, dec0, Nat.add_sub_cancel' h4, Nat.mod_eq_of_lt h2,
    readBits_writeBits_lt (t - header) 14 _ (Nat.lt_of_lt_of_le h5 (Nat.sub_le _ _)), readBits_writeBits_lt v 64 _ hv]
  rw [if_neg (Nat.ne_of_lt h5)]

theorem next_step (c : Enc) (d : Dec) (t v : Nat) (r : Bits) (inv : Inv c d)
    (ht : t < P32) (ht0 : t ≠ 0) (hv : v < P64)
    (hg : (-2047 ≤ dodOf c t ∧ dodOf c t ≤ 2048) ∨ dodOf c t % (P32 : Int) ≠ (P32 : Int) - 1) :
    ∃ d1, next d ((compress c t v).2 ++ r) = .ok (d1, r) ∧ d1.t = t ∧ d1.value = v ∧
      Inv (compress c t v).1 d1 := by
  have hdt : d.t ≠ 0 := inv.t_eq ▸ inv.t_ne
  have hts := ts_step d (dodOf c t) ((compressValue (tsEnc c t) v).2 ++ r) (inv.delta_eq ▸ inv.delta_lt) hg
  rw [tsDec_dodOf c d t inv.t_lt inv.t_eq inv.delta_eq] at hts
  obtain ⟨d2, hd2, e_t, e_delta, e_val, hwin, c_val, c_t, c_delta⟩ :=
    value_step (tsEnc c t) { d with delta := (tsEnc c t).tDelta, t := (tsEnc c t).t } v r hv
      inv.value_eq inv.value_lt inv.win
  have htt : (tsEnc c t).t = t := Nat.mod_eq_of_lt ht
  have hct := c_t.trans htt
  rw [(compress_later c t v inv.t_ne).1, (compress_later c t v inv.t_ne).2, List.append_assoc]
  refine ⟨d2, ?_, e_t.trans htt, e_val, ?_⟩
  · rw [next, if_neg hdt, hts]
    simp only [hd2]
  · exact ⟨hct.symm ▸ ht0, hct.symm ▸ ht, e_t.trans c_t.symm, e_delta.trans c_delta.symm,
      c_delta.symm ▸ Nat.mod_lt _ (by decide), e_val.trans c_val.symm, c_val.symm ▸ hv, hwin⟩

theorem next_finish (c : Enc) (d : Dec) (pad : Bits) (inv : Inv c d) :
    next d (finish c ++ pad) = .eof := by
  rw [next, if_neg (inv.t_eq ▸ inv.t_ne), finish, if_neg inv.t_ne, List.append_assoc _ [false] pad,
    decompressTimestamp_field d _ _ 32 _ (by decide) (fun _ => rfl), if_pos ⟨rfl, by decide⟩]

theorem next_finish0 (header : Nat) (pad : Bits) :
    next (dec0 header) (finish (Enc.new header).1 ++ pad) = .eof := by
  rw [next]
  refine (if_pos rfl).trans ?_
  rw [finish]
  -- the condition of this `if` holds by unfolding `Enc.new`, so `rw [if_pos rfl]` finds no `if ?a = ?a`
  refine (congrArg (fun b => decompressFirst (dec0 header) (b ++ pad)) (if_pos rfl)).trans ?_
  rw [decompressFirst, List.append_assoc, readBits_writeBits]
  exact if_pos rfl

theorem guard_of_small (D : Int) (h1 : -2147483648 ≤ D) (h2 : D < 2147483648) :
    (-2047 ≤ D ∧ D ≤ 2048) ∨ D % (P32 : Int) ≠ (P32 : Int) - 1 := by
  refine Decidable.or_iff_not_imp_right.2 fun h => ?_
  -- `D` is its own balanced residue modulo 2^32, and that of `2^32 - 1` is `-1`
  have hD : D = -1 := by
    rw [← Int.bmod_eq_of_le (m := P32) h1 h2, ← Int.emod_bmod, Decidable.not_not.1 h]
    decide
  rw [hD]
  decide

theorem monotone_step (c : Enc) (t v : Nat) (h0 : c.t ≠ 0) (h2 : c.tDelta < 2 ^ 31) (m1 : c.t ≤ t) (m2 : t < 2 ^ 31) :
    ((-2047 ≤ dodOf c t ∧ dodOf c t ≤ 2048) ∨ dodOf c t % (P32 : Int) ≠ (P32 : Int) - 1) ∧
      (compress c t v).1.t = t ∧ (compress c t v).1.tDelta < 2 ^ 31 := by
  have htP : t < P32 := Nat.lt_trans m2 (by decide)
  have hlt : t - c.t < 2 ^ 31 := Nat.lt_of_le_of_lt (Nat.sub_le _ _) m2
  obtain ⟨l, tr, e⟩ := compressValue_fst (tsEnc c t) v
  rw [(compress_later c t v h0).1, e, dodOf, tsEnc, wrapSub t c.t m1 htP]
  refine ⟨?_, Nat.mod_eq_of_lt htP, hlt⟩
  rw [toS32_of_lt _ hlt, toS32_of_lt _ h2]
  -- `-2^31 ≤ -c.tDelta ≤ (t - c.t) - c.tDelta ≤ t - c.t < 2^31`
  exact guard_of_small _
    (Int.le_trans (Int.neg_le_neg (Int.ofNat_le.2 (Nat.le_of_lt h2))) (Int.le_add_of_nonneg_left (Int.natCast_nonneg _)))
    (Int.lt_of_le_of_lt (Int.sub_le_self _ (Int.natCast_nonneg _)) (Int.ofNat_lt.2 hlt))

end SigModel.Lemmas.C08
