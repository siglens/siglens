/-
C02, free-text matcher `utils.IsSubWordPresent` (model `Bloom.subWord`): the loop over start offsets as an existential over
one offset, with the two boundary tests said of the text before and after the match; cutting a list at an offset.
Core Lean only.
-/
import SigModel.Model.Bloom

namespace SigModel.Bloom
open SigModel.Tlv (Bytes)

theorem exists_split_iff {α : Type} (l : List α) (n : Nat) (P : List α → List α → List α → Prop) :
    (∃ pre mid post, l = pre ++ mid ++ post ∧ mid.length = n ∧ P pre mid post) ↔
      ∃ i, i + n ≤ l.length ∧ P (l.take i) ((l.drop i).take n) (l.drop (i + n)) := by
  constructor
  · rintro ⟨pre, mid, post, rfl, rfl, h⟩
    refine ⟨pre.length, by simp only [List.length_append]; exact Nat.le_add_right _ _, ?_⟩
    simpa using h
  · rintro ⟨i, hi, h⟩
    refine ⟨_, _, _, ?_, ?_, h⟩
    · rw [List.append_assoc, ← List.drop_drop, List.take_append_drop, List.take_append_drop]
    · rw [List.length_take, List.length_drop]; exact Nat.min_eq_left (Nat.le_sub_of_add_le' hi)

theorem boundary_before {α : Type} (l : List α) (c : α) (i : Nat) (hi : i ≤ l.length) :
    (i = 0 ∨ l[i - 1]? = some c) ↔ (l.take i = [] ∨ (l.take i).getLast? = some c) := by
  by_cases h0 : i = 0
  · simp only [h0, true_or, List.take_zero]
  · have hl : l ≠ [] := by rintro rfl; exact h0 (Nat.le_zero.mp hi)
    -- core has `(l.take i).getLast? = if i = 0 then none else l[i - 1]?.or l.getLast?`, and `l[i - 1]?` is a `some` here
    rw [List.getLast?_take, if_neg h0, List.getElem?_eq_getElem (Nat.sub_one_lt_of_le (Nat.pos_of_ne_zero h0) hi),
      Option.some_or]
    simp only [h0, false_or, List.take_eq_nil_iff, hl, or_self]

theorem boundary_after {α : Type} (l : List α) (c : α) (j : Nat) (hj : j ≤ l.length) :
    (j = l.length ∨ l[j]? = some c) ↔ (l.drop j = [] ∨ (l.drop j).head? = some c) := by
  simp only [List.drop_eq_nil_iff, List.head?_drop, Nat.le_antisymm_iff, hj, true_and]

theorem subWord_iff_index (ci : Bool) (hay needle : Bytes) :
    subWord ci hay needle = true ↔
      ∃ i, i + needle.length ≤ hay.length ∧ (bytesEq ci ((hay.drop i).take needle.length) needle = true ∧
        (hay.take i = [] ∨ (hay.take i).getLast? = some 32) ∧
        (hay.drop (i + needle.length) = [] ∨ (hay.drop (i + needle.length)).head? = some 32)) := by
  unfold subWord
  by_cases hn : needle.length > hay.length
  · simp only [hn, if_true, Bool.false_eq_true, false_iff]
    rintro ⟨i, hi, _⟩
    exact Nat.not_le.mpr hn (Nat.le_trans (Nat.le_add_left ..) hi)
  · simp only [hn, if_false, List.any_eq_true, List.mem_range, Bool.and_eq_true, Bool.or_eq_true, beq_iff_eq, and_assoc,
      Nat.lt_succ_iff, Nat.le_sub_iff_add_le (Nat.not_lt.mp hn)]
    exact exists_congr fun i => and_congr_right fun hi => and_congr_right fun _ =>
      and_congr (boundary_before hay 32 i (Nat.le_trans (Nat.le_add_right ..) hi)) (boundary_after hay 32 _ hi)

end SigModel.Bloom
