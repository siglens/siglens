/-
The group-by bucket.  `BucketOf parse vs o` — `o` is A bucket of the records `vs`: every record counted, the Sum cell
holding a sum cell (`IsSum`) of the values that are numbers under the string rule, their number in the numeric count, the
records that have a value in the Count cell; the Min / Max cells are left open.  The fold over the records is one
(`bucketOf_foldRBWith`), MergeRunningBuckets of two is one of the concatenation (`BucketOf.merge`), and two buckets of one
list agree in every reading of the Sum cell that does not see the way it was computed (`BucketOf.map_eq`): as a number
always, as a cell while the int64 part cannot wrap.  Core Lean only.
-/
import SigModel.Lemmas.C04Ss

namespace SigModel.Stats
open SigModel.MachInt

/-- the Sum cell a bucket that has seen the numeric values `ns` is supposed to hold -/
def rbSum (ns : List Num) : CV := if ns.isEmpty then .backfill else (sumSpec ns).toCV

theorem sumStep_record (parse : Str → Option Rat) (v : Val) {s : Num} {ns : List Num} (hs : IsSum s ns) :
    ∃ u, IsSum u (ns ++ nums parse [v]) ∧
      sumStep exact (sumCellWith ns s) (v.toCVWith parse) = sumCellWith (ns ++ nums parse [v]) u ∧
      (if (v.toCVWith parse).isNumeric then 1 else 0) = (nums parse [v]).length := by
  rcases val_cases parse v with rfl | ⟨x, hn, _, hc, _⟩ | ⟨t, hn, _, hc, _⟩
  · rw [show nums parse [.absent] = [] from rfl, List.append_nil]
    exact ⟨s, hs, sumStep_nonnum ns s (.inl rfl), rfl⟩
  · rw [hn, hc]
    obtain ⟨u, hu, e⟩ := sumStep_sumCellWith hs (.single x)
    exact ⟨u, hu, e, by cases x <;> rfl⟩
  · rw [hn, List.append_nil, hc]
    exact ⟨s, hs, sumStep_nonnum ns s (.inr ⟨t, rfl⟩), rfl⟩

def BucketOf (parse : Str → Option Rat) (vs : List Val) (o : Option RB) : Prop :=
  (vs = [] ∧ o = none) ∨
  (vs ≠ [] ∧ ∃ mn mx s, IsSum s (nums parse vs) ∧
    o = some ⟨vs.length, sumCellWith (nums parse vs) s, mn, mx, (nums parse vs).length, present vs⟩)

theorem BucketOf.of_ne_nil {parse : Str → Option Rat} {vs : List Val} {o : Option RB} (h : BucketOf parse vs o)
    (hne : vs ≠ []) : ∃ mn mx s, IsSum s (nums parse vs) ∧
      o = some ⟨vs.length, sumCellWith (nums parse vs) s, mn, mx, (nums parse vs).length, present vs⟩ :=
  h.elim (fun h => absurd h.1 hne) (·.2)

/-- `hc`: `c` is the Sum cell, or the INVALID cell of a new bucket, which the first step turns into BACKFILL -/
theorem stepRBWith_some (parse : Str → Option Rat) (v : Val) (n cx : Nat) (mn mx : CV) {c : CV} {ns : List Num} {s : Num}
    (hs : IsSum s ns) (hc : ∀ e, sumStep exact c e = sumStep exact (sumCellWith ns s) e) :
    ∃ mn' mx' u, IsSum u (ns ++ nums parse [v]) ∧
      stepRBWith parse exact (some ⟨n, c, mn, mx, ns.length, cx⟩) v =
        some ⟨n + 1, sumCellWith (ns ++ nums parse [v]) u, mn', mx', (ns ++ nums parse [v]).length, cx + present [v]⟩ := by
  obtain ⟨u, hu, e, hnc⟩ := sumStep_record parse v hs
  have hcx : (if v.isAbsent then 0 else 1) = present [v] := by cases v <;> rfl
  refine ⟨mmStep exact true mn (v.toCVWith parse), mmStep exact false mx (v.toCVWith parse), u, hu, ?_⟩
  rw [List.length_append, ← e, ← hc, ← hnc, ← hcx]
  rfl

theorem BucketOf.step {parse : Str → Option Rat} {vs : List Val} {o : Option RB} (h : BucketOf parse vs o) (v : Val) :
    BucketOf parse (vs ++ [v]) (stepRBWith parse exact o v) := by
  refine .inr ⟨List.append_ne_nil_of_right_ne_nil _ (List.cons_ne_nil _ _), ?_⟩
  rw [nums_append, present_append, List.length_append (as := vs)]
  rcases h with ⟨rfl, rfl⟩ | ⟨_, mn, mx, s, hs, rfl⟩
  · exact stepRBWith_some parse v 0 0 .invalid .invalid .nil (fun e => by cases e <;> rfl)
  · exact stepRBWith_some parse v _ _ mn mx hs (fun _ => rfl)

theorem bucketOf_foldRBWith (parse : Str → Option Rat) (vs : List Val) : BucketOf parse vs (foldRBWith parse exact vs) := by
  induction vs using snocInd with
  | nil => exact .inl ⟨rfl, rfl⟩
  | append_singleton vs v ih => rw [foldRBWith, List.foldl_append]; exact ih.step v

theorem BucketOf.merge {parse : Str → Option Rat} {xs ys : List Val} {a b : Option RB}
    (ha : BucketOf parse xs a) (hb : BucketOf parse ys b) : BucketOf parse (xs ++ ys) (mergeRB exact a b) := by
  rcases hb with ⟨rfl, rfl⟩ | ⟨hyne, mn', mx', t, ht, rfl⟩
  · rw [List.append_nil]
    cases a <;> exact ha
  · rcases ha with ⟨rfl, rfl⟩ | ⟨_, mn, mx, s, hs, rfl⟩
    · exact .inr ⟨hyne, mn', mx', t, ht, rfl⟩
    · obtain ⟨u, hu, e⟩ := sumStep_sumCellWith hs ht
      refine .inr ⟨fun h => hyne (List.append_eq_nil_iff.mp h).2, mmStep exact true mn mn', mmStep exact false mx mx', u,
        nums_append parse xs ys ▸ hu, ?_⟩
      rw [nums_append, present_append, List.length_append, List.length_append, ← e]
      rfl

theorem BucketOf.map_eq {parse : Str → Option Rat} {vs : List Val} {o o' : Option RB} {β : Type}
    (h : BucketOf parse vs o) (h' : BucketOf parse vs o') (f : CV → β)
    (hf : ∀ s t, IsSum s (nums parse vs) → IsSum t (nums parse vs) →
      f (sumCellWith (nums parse vs) s) = f (sumCellWith (nums parse vs) t)) :
    o.map (fun b => (b.n, f b.sum, b.nc, b.cx)) = o'.map (fun b => (b.n, f b.sum, b.nc, b.cx)) := by
  rcases h with ⟨rfl, rfl⟩ | ⟨hne, mn, mx, s, hs, rfl⟩
  · rcases h' with ⟨_, rfl⟩ | ⟨hne', _⟩
    · rfl
    · exact absurd rfl hne'
  · rcases h' with ⟨rfl, _⟩ | ⟨_, mn', mx', t, ht, rfl⟩
    · exact absurd rfl hne
    · exact congrArg (fun c => some (vs.length, c, (nums parse vs).length, present vs)) (hf s t hs ht)

theorem CV.float?_exact (c : CV) : c.float? exact = c.rat? := by
  cases c <;> rfl

end SigModel.Stats
