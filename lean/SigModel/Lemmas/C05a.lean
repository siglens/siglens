/-
The output order `Mode.before`, the stable insertion sort `sortBy`, the two-way
`merge`, prefix/suffix splitting.  Core Lean only.
-/
import SigModel.Model.Sched
import SigModel.Lemmas.InsertSort

namespace SigModel.Lemmas.C05
open SigModel.Sched

@[simp] theorem rf_false (a b : Nat) : (Mode.recentFirst.before a b = false) ↔ a ≤ b :=
  decide_eq_false_iff_not.trans Nat.not_lt
@[simp] theorem rl_false (a b : Nat) : (Mode.recentLast.before a b = false) ↔ b ≤ a :=
  decide_eq_false_iff_not.trans Nat.not_lt
@[simp] theorem rf_true (a b : Nat) : (Mode.recentFirst.before a b = true) ↔ b < a := decide_eq_true_iff
@[simp] theorem rl_true (a b : Nat) : (Mode.recentLast.before a b = true) ↔ a < b := decide_eq_true_iff

theorem before_irrefl (m : Mode) (a : Nat) : m.before a a = false := by
  cases m
  · exact (rf_false a a).mpr (Nat.le_refl a)
  · exact (rl_false a a).mpr (Nat.le_refl a)

theorem before_trans (m : Mode) {x y z : Nat} (h1 : m.before x y = true) (h2 : m.before y z = true) :
    m.before x z = true := by
  cases m
  · exact (rf_true x z).mpr (Nat.lt_trans ((rf_true y z).mp h2) ((rf_true x y).mp h1))
  · exact (rl_true x z).mpr (Nat.lt_trans ((rl_true x y).mp h1) ((rl_true y z).mp h2))

theorem nb_trans (m : Mode) {x y z : Nat} (h1 : m.before x y = false) (h2 : m.before y z = false) :
    m.before x z = false := by
  cases m
  · exact (rf_false x z).mpr (Nat.le_trans ((rf_false x y).mp h1) ((rf_false y z).mp h2))
  · exact (rl_false x z).mpr (Nat.le_trans ((rl_false y z).mp h2) ((rl_false x y).mp h1))

theorem before_total (m : Mode) {a b : Nat} (h : a ≠ b) : m.before a b = true ∨ m.before b a = true := by
  cases m
  · exact (Nat.lt_or_gt_of_ne h).symm.imp (rf_true a b).mpr (rf_true b a).mpr
  · exact (Nat.lt_or_gt_of_ne h).imp (rl_true a b).mpr (rl_true b a).mpr

theorem before_asymm (m : Mode) {a b : Nat} (h : m.before a b = true) : m.before b a = false :=
  Bool.eq_false_iff.mpr fun hba => Bool.false_ne_true ((before_irrefl m a).symm.trans (before_trans m h hba))

theorem nb_total (m : Mode) (a b : Nat) : m.before a b = false ∨ m.before b a = false :=
  (Bool.eq_false_or_eq_true (m.before a b)).symm.imp_right (before_asymm m)

def SortedBy {α : Type} (m : Mode) (key : α → Nat) (l : List α) : Prop :=
  l.Pairwise (fun a b => m.before (key b) (key a) = false)

theorem SortedBy.head_nb {α : Type} {m : Mode} {key : α → Nat} {a : α} {l : List α} (hs : SortedBy m key (a :: l))
    {x : Nat} (h : m.before (key a) x = false) : ∀ z ∈ a :: l, m.before (key z) x = false :=
  List.forall_mem_cons.mpr ⟨h, fun _ hz => nb_trans m (List.rel_of_pairwise_cons hs hz) h⟩

theorem inserts {α : Type} (m : Mode) (key : α → Nat) :
    InsertSort.Inserts (fun x y => m.before (key y) (key x) = true) (insertBy m key) :=
  ⟨fun _ => rfl, fun _ _ _ => rfl⟩

theorem sorts {α : Type} (m : Mode) (key : α → Nat) : InsertSort.SortsBy (insertBy m key) (sortBy m key) :=
  ⟨rfl, fun _ _ => rfl⟩

theorem sortBy_perm {α : Type} (m : Mode) (key : α → Nat) (l : List α) : (sortBy m key l).Perm l :=
  (sorts m key).perm (inserts m key) l

theorem sortBy_sorted {α : Type} (m : Mode) (key : α → Nat) (l : List α) : SortedBy m key (sortBy m key l) :=
  (sorts m key).pairwise (inserts m key) (fun _ _ => before_asymm m)
    (fun _ _ h => ⟨Bool.eq_false_iff.mpr h, fun _ hz => nb_trans m hz (Bool.eq_false_iff.mpr h)⟩) l

theorem mem_sortBy {α : Type} (m : Mode) (key : α → Nat) (l : List α) (x : α) : x ∈ sortBy m key l ↔ x ∈ l :=
  (sortBy_perm m key l).mem_iff

@[simp] theorem merge_nil_left (m : Mode) (r : List Rec) : merge m [] r = r := rfl

@[simp] theorem merge_nil_right (m : Mode) : ∀ (l : List Rec), merge m l [] = l := by
  intro l
  induction l with
  | nil => rfl
  | cons a l ih => exact congrArg (a :: ·) ih

theorem merge_cons_cons (m : Mode) (a b : Rec) (l r : List Rec) :
    merge m (a :: l) (b :: r) =
      if m.before b.2 a.2 then b :: merge m (a :: l) r else a :: merge m l (b :: r) := rfl

theorem merge_perm (m : Mode) (l r : List Rec) : (merge m l r).Perm (l ++ r) := by
  induction l generalizing r with
  | nil => exact .refl r
  | cons a l ihl =>
    change (mergeInto m a (merge m l) r).Perm _
    fun_induction mergeInto m a (merge m l) r with
    | case1 => exact (ihl _).cons a
    | case2 b r _ ihr => exact (ihr.cons b).trans List.perm_middle.symm
    | case3 b r _ => exact (ihl _).cons a

theorem mem_merge (m : Mode) (l r : List Rec) (x : Rec) : x ∈ merge m l r ↔ x ∈ l ∨ x ∈ r :=
  (merge_perm m l r).mem_iff.trans List.mem_append

theorem merge_sorted (m : Mode) : ∀ (l r : List Rec), SortedBy m (·.2) l → SortedBy m (·.2) r →
    SortedBy m (·.2) (merge m l r) := by
  intro l
  induction l with
  | nil => exact fun _ _ hr => hr
  | cons a l ihl =>
    intro r hl hr
    change SortedBy m (·.2) (mergeInto m a (merge m l) r)
    fun_induction mergeInto m a (merge m l) r with
    | case1 => exact (merge_nil_right m l).symm ▸ hl
    | case2 b r hb ihr =>
      exact List.Pairwise.cons (fun z hz => ((mem_merge m (a :: l) r z).mp hz).elim
        (hl.head_nb (before_asymm m hb) z) (List.rel_of_pairwise_cons hr)) (ihr hr.of_cons)
    | case3 b r hb =>
      exact List.Pairwise.cons (fun z hz => ((mem_merge m l (b :: r) z).mp hz).elim
        (List.rel_of_pairwise_cons hl) (hr.head_nb (Bool.eq_false_iff.mpr hb) z)) (ihl (b :: r) hl.of_cons hr)

theorem drop_takeWhile_length {α : Type} (p : α → Bool) (l : List α) :
    l.drop (l.takeWhile p).length = l.dropWhile p :=
  (congrArg (List.drop _) List.takeWhile_append_dropWhile.symm).trans List.drop_left

theorem mem_takeWhile_imp {α : Type} {p : α → Bool} {l : List α} {x : α} (h : x ∈ l.takeWhile p) : p x = true :=
  List.all_eq_true.mp List.all_takeWhile x h

theorem takeWhile_all {α : Type} (p : α → Bool) (l : List α) (h : ∀ x ∈ l, p x = true) : l.takeWhile p = l := by
  have := List.takeWhile_append_of_pos (l₂ := []) h
  rwa [List.takeWhile_nil, List.append_nil] at this

theorem dropWhile_bound (m : Mode) (e : Nat) (l : List Rec) (hs : SortedBy m (·.2) l) :
    ∀ x ∈ l.dropWhile (fun r => !m.before e r.2), m.before x.2 e = false := by
  fun_induction List.dropWhile (fun r : Rec => !m.before e r.2) l with
  | case1 => exact List.forall_mem_nil _
  | case2 a l _ ih => exact ih hs.of_cons
  | case3 a l h => exact hs.head_nb (before_asymm m ((Bool.not_eq_false' _).mp h))

theorem sublist_flatMap {α β : Type} (f : α → List β) : ∀ {l₁ l₂ : List α}, l₁.Sublist l₂ →
    (l₁.flatMap f).Sublist (l₂.flatMap f) := by
  intro l₁ l₂ h
  induction h with
  | slnil => exact .refl _
  -- `(a :: l).flatMap f` unfolds to `f a ++ l.flatMap f`
  | cons a _ ih => exact List.sublist_append_of_sublist_right ih
  | cons_cons a _ ih => exact ih.append_left (f a)

theorem filter_flatMap_sublist {α β : Type} (p : α → Bool) (f : α → List β) (l : List α) :
    ((l.filter p).flatMap f).Sublist (l.flatMap f) :=
  sublist_flatMap f List.filter_sublist

end SigModel.Lemmas.C05
