/- C12: the trace listing — a listed row is the `searchRow` of its own trace id (`filterMap_searchRow_sound`); records that
are among the later ones change neither `uniq` nor `isEmpty` of a list, which is what re-delivery needs. -/
import SigModel.Model.TraceE2E
import SigModel.Lemmas.C12a

namespace SigModel.Lemmas.C12
open SigModel.Trace SigModel.TraceE2E List

theorem searchRowOld_trace {recs : List Rec} {t : String} {row : TraceRow} :
    searchRowOld recs t = .ok (some row) → row.trace = t := by
  fun_cases searchRowOld recs t with
  | case3 => exact fun h => Option.some.inj (Except.ok.inj h) ▸ rfl
  | _ => exact fun h => nomatch h

theorem searchRow_trace {recs : List Rec} {t : String} {row : TraceRow} (h : searchRow recs t = some row) :
    row.trace = t := by
  unfold searchRow at h
  split at h
  · rename_i r hr
    subst h
    exact searchRowOld_trace hr
  · cases h

theorem filterMap_searchRow_sound (recs : List Rec) (ids : List String) :
    ((ids.filterMap (searchRow recs)).map (·.trace)) <+ ids ∧
    ∀ row ∈ ids.filterMap (searchRow recs), searchRow recs row.trace = some row := by
  induction ids with
  | nil => exact ⟨.slnil, fun _ h => absurd h not_mem_nil⟩
  | cons t ts ih =>
    obtain ⟨h1, h2⟩ := ih
    cases hrow : searchRow recs t with
    | none =>
      rw [filterMap_cons_none hrow]
      exact ⟨Sublist.cons _ h1, h2⟩
    | some row =>
      rw [filterMap_cons_some hrow]
      have ht := searchRow_trace hrow
      refine ⟨?_, ?_⟩
      · rw [map_cons, ht]; exact Sublist.cons_cons _ h1
      · intro r hr
        rcases mem_cons.1 hr with rfl | hr
        · rw [ht]; exact hrow
        · exact h2 r hr

theorem mem_traceIds {recs : List Rec} {t : String} : t ∈ traceIds recs ↔ ∃ r ∈ recs, r.trace = t := by
  unfold traceIds sortedDistinct
  rw [mem_uniq, mem_isort, mem_map]

/-- `uniq` keeps the LAST occurrence -/
theorem uniq_append_of_subset {α} [BEq α] [LawfulBEq α] {l₁ l₂ : List α} (h : l₁ ⊆ l₂) : uniq (l₁ ++ l₂) = uniq l₂ := by
  induction l₁ with
  | nil => rfl
  | cons a l₁ ih =>
    exact (if_pos (contains_iff_mem.2 (mem_append_right l₁ (h mem_cons_self)))).trans
      (ih fun _ hx => h (mem_cons_of_mem a hx))

theorem isEmpty_append_of_subset {α} {l₁ l₂ : List α} (h : l₁ ⊆ l₂) : (l₁ ++ l₂).isEmpty = l₂.isEmpty := by
  cases l₁ with
  | nil => rfl
  | cons a l =>
    cases l₂ with
    | nil => exact absurd (h mem_cons_self) not_mem_nil
    | cons b l' => rfl

end SigModel.Lemmas.C12
