/-
Helper lemmas for the content clause of C16 (SigModel/Spec/Flatten.lean).  Each of the model's recursions over the
tree (the flattener, `wellKeyed`, `sortJson`, `longJson`) is compared with the tree's own `leaves` by ONE induction
(`tree_ind`); everything else is about lists of paths: names as dotted paths and their segments, decimal array
positions, members given as lists.
-/
import SigModel.Spec.Flatten

namespace SigModel.Lemmas.C16Flatten
open SigModel.Spec.Flatten

theorem tree_ind {P : Json → Prop} {Q : Elems → Prop} {R : Members → Prop}
    (leaf : ∀ v, P (.leaf v)) (arr : ∀ xs, Q xs → P (.arr xs)) (obj : ∀ ms, R ms → P (.obj ms))
    (enil : Q .nil) (econs : ∀ x xs, P x → Q xs → Q (.cons x xs))
    (mnil : R .nil) (mcons : ∀ k v ms, P v → R ms → R (.cons k v ms)) :
    (∀ j, P j) ∧ (∀ xs, Q xs) ∧ ∀ ms, R ms :=
  ⟨Json.rec leaf arr obj enil econs mnil mcons, Elems.rec leaf arr obj enil econs mnil mcons,
    Members.rec leaf arr obj enil econs mnil mcons⟩

theorem elems_ind {Q : Elems → Prop} (nil : Q .nil) (cons : ∀ x xs, Q xs → Q (.cons x xs)) : ∀ xs, Q xs
  | .nil => nil
  | .cons x xs => cons x xs (elems_ind nil cons xs)

theorem members_ind {R : Members → Prop} (nil : R .nil) (cons : ∀ k v ms, R ms → R (.cons k v ms)) : ∀ ms, R ms
  | .nil => nil
  | .cons k v ms => cons k v ms (members_ind nil cons ms)

/-! ### the flattener is `filter ∘ map` over the leaves -/

/-- all columns the flattener would emit below `cur` if no name were consumed as the time -/
def allCols (cur : Bytes) (ls : List (List Bytes × Atom)) : List (Bytes × Atom) :=
  ls.map (fun p => (joinPath cur p.1, p.2))

def keep (ts : Bytes) (cs : List (Bytes × Atom)) : List (Bytes × Atom) := cs.filter (fun q => q.1 ≠ ts)

theorem allCols_append (cur : Bytes) (a b : List (List Bytes × Atom)) :
    allCols cur (a ++ b) = allCols cur a ++ allCols cur b :=
  List.map_append

theorem keep_append (ts : Bytes) (a b : List (Bytes × Atom)) : keep ts (a ++ b) = keep ts a ++ keep ts b :=
  List.filter_append a b

theorem allCols_cons_map (cur k : Bytes) (ls : List (List Bytes × Atom)) :
    allCols cur (ls.map (fun p => (k :: p.1, p.2))) = allCols (joinKey cur k) ls :=
  List.map_map

theorem flat_eq (ts : Bytes) :
    (∀ j cur, flatVal ts cur j = keep ts (allCols cur (leaves j))) ∧
    (∀ xs cur i, flatElems ts cur i xs = keep ts (allCols cur (leavesElems i xs))) ∧
    ∀ ms cur, flatMembers ts cur ms = keep ts (allCols cur (leavesMembers ms)) := by
  refine tree_ind ?_ (fun xs ih cur => ih cur 0) (fun ms ih => ih) (fun _ _ => rfl) ?_ (fun _ => rfl) ?_
  · intro v cur
    show emit ts cur v = keep ts [(cur, v)]
    unfold emit keep
    by_cases h : cur = ts <;> simp [h]
  · intro x xs ihx ihxs cur i
    rw [flatElems, leavesElems, allCols_append, keep_append, allCols_cons_map, ihx, ihxs]
  · intro k v ms ihv ihms cur
    rw [flatMembers, leavesMembers, allCols_append, keep_append, allCols_cons_map, ihv, ihms]

theorem flatVal_eq (ts cur : Bytes) (j : Json) : flatVal ts cur j = keep ts (allCols cur (leaves j)) :=
  (flat_eq ts).1 j cur

theorem flatElems_eq (ts cur : Bytes) : ∀ (i : Nat) (xs : Elems),
      flatElems ts cur i xs = keep ts (allCols cur (leavesElems i xs)) :=
  fun i xs => (flat_eq ts).2.1 xs cur i

theorem flatMembers_eq (ts cur : Bytes) (ms : Members) :
    flatMembers ts cur ms = keep ts (allCols cur (leavesMembers ms)) :=
  (flat_eq ts).2.2 ms cur

theorem mem_flatMembers (ts cur : Bytes) (ms : Members) (q : Bytes × Atom) :
    q ∈ flatMembers ts cur ms ↔ ∃ x ∈ leavesMembers ms, q = (joinPath cur x.1, x.2) ∧ joinPath cur x.1 ≠ ts := by
  simp only [flatMembers_eq, keep, allCols, List.mem_filter, List.mem_map, decide_eq_true_eq]
  constructor
  · rintro ⟨⟨x, hx, rfl⟩, h⟩
    exact ⟨x, hx, rfl, h⟩
  · rintro ⟨x, hx, rfl, h⟩
    exact ⟨⟨x, hx, rfl⟩, h⟩

theorem keep_names_sublist (ts : Bytes) (cs : List (Bytes × Atom)) : ((keep ts cs).map (·.1)).Sublist (cs.map (·.1)) :=
  List.filter_sublist.map _

/-! ### names -/

theorem joinPath_of_ne_nil (p : List Bytes) (cur : Bytes) (h : cur ≠ []) :
    joinPath cur p = cur ++ p.flatMap (dot :: ·) := by
  induction p generalizing cur with
  | nil => exact (List.append_nil cur).symm
  | cons s r ih =>
    rw [joinPath, joinKey, if_neg h, ih _ (List.append_ne_nil_of_left_ne_nil h _)]
    exact List.append_assoc cur (dot :: s) _

theorem joinPath_root (s : Bytes) (r : List Bytes) (h : s ≠ []) : joinPath [] (s :: r) = dotted (s :: r) :=
  joinPath_of_ne_nil r s h

/-- the empty root key counts as "no prefix": its members are named like root members (hence `rootKeysNonEmpty` in
`names_nodup`) -/
theorem joinPath_empty_root (r : List Bytes) : joinPath [] ([] :: r) = joinPath [] r := rfl

theorem joinPath_prefix (cur s : Bytes) (r : List Bytes) (hc : cur ≠ []) (hs : s ≠ []) :
    joinPath cur (s :: r) = cur ++ dot :: joinPath [] (s :: r) := by
  rw [joinPath_of_ne_nil _ _ hc, joinPath_root s r hs]
  rfl

theorem dot_mem_dotted (s t : Bytes) (r : List Bytes) : dot ∈ dotted (s :: t :: r) :=
  List.mem_append_right s List.mem_cons_self

theorem joinPath_ne_of_head (cur ts : Bytes) (p : List Bytes) (hc : cur ≠ []) (hh : cur.head? ≠ ts.head?) :
    joinPath cur p ≠ ts := by
  rw [joinPath_of_ne_nil p cur hc]
  obtain ⟨c, cs, rfl⟩ := List.exists_cons_of_ne_nil hc
  rintro rfl
  exact hh rfl

theorem joinPath_ne_of_dotfree (cur ts : Bytes) (p : List Bytes) (hc : cur ≠ []) (hp : p ≠ []) (hd : dot ∉ ts) :
    joinPath cur p ≠ ts := by
  rw [joinPath_of_ne_nil p cur hc]
  obtain ⟨s, r, rfl⟩ := List.exists_cons_of_ne_nil hp
  rintro rfl
  exact hd (List.mem_append_right cur List.mem_cons_self)

theorem takeWhile_seg (s : Bytes) (r : List Bytes) (hs : dot ∉ s) :
    (s ++ r.flatMap (dot :: ·)).takeWhile (· != dot) = s := by
  have h : ∀ b ∈ s, (b != dot) = true := fun b hb => bne_iff_ne.2 fun e => hs (e ▸ hb)
  rw [List.takeWhile_append_of_pos h]
  cases r <;> simp

theorem flatMap_dot_injective (p q : List Bytes) (hp : ∀ t ∈ p, dot ∉ t) (hq : ∀ t ∈ q, dot ∉ t)
    (h : p.flatMap (dot :: ·) = q.flatMap (dot :: ·)) : p = q := by
  induction p generalizing q with
  | nil => cases q with
    | nil => rfl
    | cons _ _ => cases h
  | cons s r ih => cases q with
    | nil => cases h
    | cons s' r' =>
      have ⟨hs, hr⟩ := List.forall_mem_cons.1 hp
      have ⟨hs', hr'⟩ := List.forall_mem_cons.1 hq
      have h : s ++ r.flatMap (dot :: ·) = s' ++ r'.flatMap (dot :: ·) := List.tail_eq_of_cons_eq h
      have e : s = s' := by rw [← takeWhile_seg s r hs, h, takeWhile_seg s' r' hs']
      subst e
      rw [ih r' hr hr' (List.append_cancel_left h)]

/-! ### decimal positions -/

theorem decAux_eq (fuel n : Nat) (acc : Bytes) (h : n < fuel) :
    decAux fuel n acc = (Nat.toDigits 10 n).map Char.toNat ++ acc := by
  induction fuel generalizing n acc with
  | zero => exact absurd h (Nat.not_lt_zero _)
  | succ fuel ih =>
    rw [decAux]
    split
    next h0 =>
      have hn : n < 10 := Nat.lt_of_div_eq_zero (by decide) h0
      rw [Nat.toDigits_of_lt_base hn, Nat.mod_eq_of_lt hn, List.map_singleton, Nat.toNat_digitChar_of_lt_ten hn]
      rfl
    next h0 =>
      have hn : 10 ≤ n := Nat.le_of_not_lt fun hlt => h0 (Nat.div_eq_of_lt hlt)
      -- first argument: `n / 10 < fuel`
      rw [ih _ _ (Nat.lt_of_lt_of_le (Nat.div_lt_self (Nat.lt_of_lt_of_le (by decide) hn) (by decide)) (Nat.le_of_lt_succ h)),
        Nat.toDigits_of_base_le (by decide) hn, List.map_append, List.append_assoc, List.map_singleton,
        Nat.toNat_digitChar_of_lt_ten (Nat.mod_lt n (by decide))]
      rfl

theorem decBytes_eq (n : Nat) : decBytes n = (Nat.toDigits 10 n).map Char.toNat := by
  rw [decBytes, decAux_eq _ _ _ (Nat.lt_succ_self n), List.append_nil]

theorem decBytes_injective (i j : Nat) (h : decBytes i = decBytes j) : i = j := by
  have := congrArg (fun l => l.foldl (fun a b => 10 * a + (b - 48)) 0) h
  simp only [decBytes_eq, List.foldl_map] at this
  have : Nat.ofDigitChars 10 (Nat.toDigits 10 i) 0 = Nat.ofDigitChars 10 (Nat.toDigits 10 j) 0 := this
  rwa [Nat.ofDigitChars_ten_toDigits, Nat.ofDigitChars_ten_toDigits] at this

theorem dot_not_mem_decBytes (n : Nat) : dot ∉ decBytes n := by
  rw [decBytes_eq, List.mem_map]
  rintro ⟨c, hc, e⟩
  have hd := Nat.isDigit_of_mem_toDigits (by decide) (by decide) hc
  rw [← Char.ofNat_toNat c, e] at hd
  exact absurd hd (by decide)

theorem decBytes_ne_nil (n : Nat) : decBytes n ≠ [] := by
  rw [decBytes_eq, Ne, List.map_eq_nil_iff]
  exact Nat.toDigits_ne_nil

/-! ### paths: their first segments; in a well-keyed tree dot-free segments and no path twice -/

/-- `leavesMembers` / `leavesElems` on a cons: the first child's paths behind its key `k`, then the later ones -/
theorem forall_mem_cons_append {α : Type} {k : Bytes} {l r : List (List Bytes × α)} {P : List Bytes × α → Prop}
    (hl : ∀ z ∈ l, P (k :: z.1, z.2)) (hr : ∀ x ∈ r, P x) : ∀ x ∈ l.map (fun p => (k :: p.1, p.2)) ++ r, P x :=
  List.forall_mem_append.2 ⟨List.forall_mem_map.2 hl, hr⟩

theorem mem_leavesMembers_head (ms : Members) : ∀ x ∈ leavesMembers ms, ∃ k r, x.1 = k :: r ∧ k ∈ membersKeys ms := by
  induction ms using members_ind with
  | nil => exact List.forall_mem_nil _
  | cons k v ms ih =>
    refine forall_mem_cons_append (fun z _ => ⟨k, z.1, rfl, List.mem_cons_self⟩) fun x hx => ?_
    obtain ⟨k', r, e, hk⟩ := ih x hx
    exact ⟨k', r, e, List.mem_cons_of_mem k hk⟩

theorem mem_leavesMembers_root {ms : Members} (hr : rootKeysNonEmpty ms = true) {x : List Bytes × Atom}
    (hx : x ∈ leavesMembers ms) : ∃ k r, x.1 = k :: r ∧ k ≠ [] := by
  obtain ⟨k, r, e, hk⟩ := mem_leavesMembers_head ms x hx
  refine ⟨k, r, e, ?_⟩
  rintro rfl
  simp [rootKeysNonEmpty, hk] at hr

theorem mem_leavesElems_head (xs : Elems) (i : Nat) : ∀ x ∈ leavesElems i xs, ∃ j r, x.1 = decBytes j :: r ∧ i ≤ j := by
  induction xs using elems_ind generalizing i with
  | nil => exact List.forall_mem_nil _
  | cons y ys ih =>
    refine forall_mem_cons_append (fun z _ => ⟨i, z.1, rfl, Nat.le_refl i⟩) fun x hx => ?_
    obtain ⟨j, r, e, hj⟩ := ih (i + 1) x hx
    exact ⟨j, r, e, Nat.le_of_succ_le hj⟩

structure KeyedPaths (l : List (List Bytes × Atom)) : Prop where
  dotfree : ∀ x ∈ l, ∀ t ∈ x.1, dot ∉ t
  nodup : (l.map (·.1)).Nodup

theorem KeyedPaths.cons_append {k : Bytes} {l r : List (List Bytes × Atom)} (hl : KeyedPaths l) (hr : KeyedPaths r) (hd : dot ∉ k)
    (hk : ∀ x ∈ r, x.1.head? ≠ some k) : KeyedPaths (l.map (fun p => (k :: p.1, p.2)) ++ r) := by
  refine ⟨forall_mem_cons_append (fun z hz => List.forall_mem_cons.2 ⟨hd, hl.1 z hz⟩) hr.1, ?_⟩
  rw [List.Nodup, List.pairwise_map, List.pairwise_append, List.pairwise_map]
  refine ⟨(List.pairwise_map.1 hl.2).imp fun h e => h (List.cons.inj e).2, List.pairwise_map.1 hr.2, fun a ha x hx e => ?_⟩
  obtain ⟨z, -, rfl⟩ := List.mem_map.1 ha
  exact hk x hx (e ▸ rfl)

theorem wellKeyed_paths :
    (∀ j, wellKeyed j = true → KeyedPaths (leaves j)) ∧
    (∀ xs i, wellKeyedElems xs = true → KeyedPaths (leavesElems i xs)) ∧
    ∀ ms, wellKeyedMembers ms = true → KeyedPaths (leavesMembers ms) := by
  refine tree_ind (fun _ _ => ⟨fun _ hx => List.mem_singleton.1 hx ▸ List.forall_mem_nil _, List.pairwise_singleton _ _⟩)
    (fun _ ih => ih 0) (fun _ ih => ih) (fun _ _ => ⟨List.forall_mem_nil _, .nil⟩) ?_
    (fun _ => ⟨List.forall_mem_nil _, .nil⟩) ?_
  · intro y ys ihy ihys i h
    simp only [wellKeyedElems, Bool.and_eq_true] at h
    refine (ihy h.1).cons_append (ihys (i + 1) h.2) (dot_not_mem_decBytes i) fun x hx e => ?_
    obtain ⟨j, r, ex, hj⟩ := mem_leavesElems_head ys (i + 1) x hx
    rw [ex] at e
    exact absurd (decBytes_injective j i (Option.some.inj e) ▸ hj) (Nat.not_succ_le_self i)
  · intro k v ms ihv ihms h
    simp only [wellKeyedMembers, Bool.and_eq_true, Bool.not_eq_true', List.contains_eq_mem, decide_eq_false_iff_not] at h
    refine (ihv h.1.2).cons_append (ihms h.2) h.1.1.1 fun x hx e => ?_
    obtain ⟨k', r, ex, hk⟩ := mem_leavesMembers_head ms x hx
    rw [ex] at e
    exact h.1.1.2 (Option.some.inj e ▸ hk)

theorem leaves_nodup : ∀ (j : Json), wellKeyed j = true → ((leaves j).map (·.1)).Nodup :=
  fun j h => (wellKeyed_paths.1 j h).2

theorem leavesElems_nodup : ∀ (xs : Elems) (i : Nat), wellKeyedElems xs = true → ((leavesElems i xs).map (·.1)).Nodup :=
  fun xs i h => (wellKeyed_paths.2.1 xs i h).2

theorem names_nodup (ms : Members) (hw : wellKeyedMembers ms = true) (hr : rootKeysNonEmpty ms = true) :
    ((allCols [] (leavesMembers ms)).map (·.1)).Nodup := by
  obtain ⟨hd, hn⟩ := wellKeyed_paths.2.2 ms hw
  rw [allCols, List.map_map]
  refine List.pairwise_map.2 ((List.pairwise_map.1 hn).imp_of_mem fun {x y} hx hy hne (e : joinPath [] x.1 = joinPath [] y.1) => hne ?_)
  obtain ⟨k, r, ex, hk⟩ := mem_leavesMembers_root hr hx
  obtain ⟨k', r', ey, hk'⟩ := mem_leavesMembers_root hr hy
  rw [ex, ey, joinPath_root k r hk, joinPath_root k' r' hk'] at e
  rw [ex, ey]
  exact flatMap_dot_injective _ _ (ex ▸ hd x hx) (ey ▸ hd y hy) (congrArg (dot :: ·) e)

/-! ### sorting the members permutes the leaves -/

theorem leavesMembers_insert (k : Bytes) (v : Json) (ms : Members) :
    (leavesMembers (insertMember k v ms)).Perm (leavesMembers (.cons k v ms)) := by
  induction ms using members_ind with
  | nil => exact .refl _
  | cons k' v' ms ih =>
    rw [insertMember]
    split
    · exact .refl _
    · exact (List.Perm.append_left _ ih).trans (List.perm_append_comm_assoc ..)

theorem leaves_sort :
    (∀ j, (leaves (sortJson j)).Perm (leaves j)) ∧
    (∀ xs i, (leavesElems i (sortElems xs)).Perm (leavesElems i xs)) ∧
    ∀ ms, (leavesMembers (sortMembers ms)).Perm (leavesMembers ms) :=
  tree_ind (fun _ => .refl _) (fun _ ih => ih 0) (fun _ ih => ih) (fun _ => .refl _)
    (fun _ _ ihy ihys i => (ihy.map _).append (ihys (i + 1))) (.refl _)
    fun k _ _ ihv ihms => (leavesMembers_insert k _ _).trans ((ihv.map _).append ihms)

theorem mem_leaves_sortJson (j : Json) (x : List Bytes × Atom) : x ∈ leaves (sortJson j) ↔ x ∈ leaves j :=
  (leaves_sort.1 j).mem_iff

theorem mem_leavesElems_sort : ∀ (xs : Elems) (i : Nat) (x : List Bytes × Atom),
      x ∈ leavesElems i (sortElems xs) ↔ x ∈ leavesElems i xs :=
  fun xs i _ => (leaves_sort.2.1 xs i).mem_iff

theorem mem_leavesMembers_sort (ms : Members) (x : List Bytes × Atom) :
    x ∈ leavesMembers (sortMembers ms) ↔ x ∈ leavesMembers ms :=
  (leaves_sort.2.2 ms).mem_iff

theorem mem_flatten_sort (ts : Bytes) (ms : Members) (q : Bytes × Atom) :
    q ∈ flatten ts (sortMembers ms) ↔ q ∈ flatten ts ms := by
  simp only [flatten, mem_flatMembers, mem_leavesMembers_sort]

/-! ### members given as a list (the protocol envelopes) -/

abbrev memberLeaves (kv : Bytes × Json) : List (List Bytes × Atom) := (leaves kv.2).map (fun p => (kv.1 :: p.1, p.2))

theorem leavesMembers_toList (ms : Members) : leavesMembers ms = ms.toList.flatMap memberLeaves := by
  induction ms using members_ind with
  | nil => rfl
  | cons _ v ms ih => exact congrArg (memberLeaves (_, v) ++ ·) ih

theorem toList_ofList : ∀ l : List (Bytes × Json), (Members.ofList l).toList = l
  | [] => rfl
  | kv :: l => congrArg (kv :: ·) (toList_ofList l)

theorem leavesMembers_ofList (l : List (Bytes × Json)) : leavesMembers (Members.ofList l) = l.flatMap memberLeaves := by
  rw [leavesMembers_toList, toList_ofList]

theorem mem_leavesMembers_ofList (l : List (Bytes × Json)) (x : List Bytes × Atom) :
    x ∈ leavesMembers (Members.ofList l) ↔ ∃ kv ∈ l, x ∈ memberLeaves kv := by
  rw [leavesMembers_ofList, List.mem_flatMap]

theorem mem_leaves_of_member {l : List (Bytes × Json)} {k : Bytes} {v : Json} {x : List Bytes × Atom}
    (hm : (k, v) ∈ l) (hx : x ∈ leaves v) : (k :: x.1, x.2) ∈ leaves (.obj (Members.ofList l)) :=
  (mem_leavesMembers_ofList l _).mpr ⟨_, hm, List.mem_map.2 ⟨x, hx, rfl⟩⟩

theorem mem_flatten_of_member {ts : Bytes} {l : List (Bytes × Json)} {k : Bytes} {v : Json} {x : List Bytes × Atom}
    (hm : (k, v) ∈ l) (hx : x ∈ leaves v) (hne : joinPath k x.1 ≠ ts) :
    (joinPath k x.1, x.2) ∈ flatten ts (Members.ofList l) :=
  (mem_flatMembers ts [] _ _).mpr ⟨(k :: x.1, x.2), mem_leaves_of_member hm hx, rfl, hne⟩

theorem mem_leavesMembers_erase (ms : Members) (k : Bytes) (x : List Bytes × Atom) (hx : x ∈ leavesMembers ms)
    (hk : x.1.head? ≠ some k) : x ∈ leavesMembers (ms.erase k) := by
  rw [leavesMembers_toList] at hx
  obtain ⟨kv, hkv, hm⟩ := List.mem_flatMap.1 hx
  rw [Members.erase, leavesMembers_ofList]
  refine List.mem_flatMap.2 ⟨kv, List.mem_filter.2 ⟨hkv, decide_eq_true fun e => hk ?_⟩, hm⟩
  obtain ⟨p, -, rfl⟩ := List.mem_map.1 hm
  exact congrArg some e

/-! ### Go map assignment on member lists (the Loki handler's `allIngestData`) -/

theorem leavesMembers_setMember (ms : Members) (k : Bytes) (v : Json) :
    leavesMembers (setMember ms k v) = leavesMembers (ms.erase k) ++ memberLeaves (k, v) := by
  rw [setMember, Members.append, leavesMembers_ofList, List.flatMap_append, ← leavesMembers_toList]
  exact congrArg _ (List.flatMap_singleton memberLeaves (k, v))

theorem mem_setMember_other (ms : Members) (k : Bytes) (v : Json) (x : List Bytes × Atom)
    (hx : x ∈ leavesMembers ms) (hk : x.1.head? ≠ some k) : x ∈ leavesMembers (setMember ms k v) :=
  leavesMembers_setMember ms k v ▸ List.mem_append_left _ (mem_leavesMembers_erase ms k x hx hk)

theorem mem_setMember_new (ms : Members) (k : Bytes) (v : Json) (y : List Bytes × Atom) (hy : y ∈ leaves v) :
    (k :: y.1, y.2) ∈ leavesMembers (setMember ms k v) :=
  leavesMembers_setMember ms k v ▸ List.mem_append_right _ (List.mem_map.2 ⟨y, hy, rfl⟩)

theorem mem_foldl_setMember (x : List Bytes × Atom) (l : List (Bytes × Json)) (acc : Members)
    (h : x ∈ leavesMembers acc) (hl : ∀ kv ∈ l, x.1.head? ≠ some kv.1) :
    x ∈ leavesMembers (l.foldl (fun m p => setMember m p.1 p.2) acc) := by
  induction l generalizing acc with
  | nil => exact h
  | cons kv l ih =>
    have ⟨hkv, hl⟩ := List.forall_mem_cons.1 hl
    exact ih _ (mem_setMember_other acc kv.1 kv.2 x h hkv) hl

theorem mem_stringMembers (t : Members) (k s : Bytes) (h : (k, Json.leaf (.str s)) ∈ t.toList) :
    ([k], Atom.str s) ∈ leavesMembers (stringMembers t) :=
  mem_leaves_of_member (List.mem_filter.2 ⟨h, rfl⟩) List.mem_cons_self

/-! ### lookups -/

theorem eq_of_name_eq {α : Type} {l : List (Bytes × α)} (hn : (l.map (·.1)).Nodup) :
    ∀ ⦃x⦄, x ∈ l → ∀ ⦃y⦄, y ∈ l → x.1 = y.1 → x = y :=
  List.Pairwise.forall_of_forall_of_flip (fun _ _ _ => rfl) ((List.pairwise_map.1 hn).imp fun h e => absurd e h)
    ((List.pairwise_map.1 hn).imp fun h e => absurd e.symm h)

theorem lookupLast_of_nodup (fs : List (Bytes × Atom)) (n : Bytes) (v : Atom)
    (hn : (fs.map (fun p => p.1)).Nodup) (h : (n, v) ∈ fs) : lookupLast fs n = some v := by
  unfold lookupLast
  cases hq : fs.reverse.find? (fun p => p.1 = n) with
  | none => exact absurd (decide_eq_true rfl) (List.find?_eq_none.1 hq (n, v) (List.mem_reverse.2 h))
  | some q =>
    have hq1 := List.find?_some hq
    rw [eq_of_name_eq hn (List.mem_reverse.1 (List.mem_of_find?_eq_some hq)) h (of_decide_eq_true hq1)]
    rfl

/-! ### the longest string value -/

theorem long_false :
    (∀ j, longJson j = false → ∀ x ∈ leaves j, x.2.tooLong = false) ∧
    (∀ xs i, longElems xs = false → ∀ x ∈ leavesElems i xs, x.2.tooLong = false) ∧
    ∀ ms, longMembers ms = false → ∀ x ∈ leavesMembers ms, x.2.tooLong = false :=
  tree_ind (fun _ h _ hx => List.mem_singleton.1 hx ▸ h) (fun _ ih => ih 0) (fun _ ih => ih) (fun _ _ => List.forall_mem_nil _)
    (fun _ _ ihy ihys i h =>
      have h := Bool.or_eq_false_iff.1 h
      forall_mem_cons_append (ihy h.1) (ihys (i + 1) h.2))
    (fun _ => List.forall_mem_nil _)
    (fun _ _ _ ihv ihms h =>
      have h := Bool.or_eq_false_iff.1 h
      forall_mem_cons_append (ihv h.1) (ihms h.2))

theorem longJson_false : ∀ (j : Json), longJson j = false → ∀ x ∈ leaves j, x.2.tooLong = false :=
  long_false.1

theorem longMembers_false : ∀ (ms : Members), longMembers ms = false → ∀ x ∈ leavesMembers ms, x.2.tooLong = false :=
  long_false.2.2

end SigModel.Lemmas.C16Flatten
