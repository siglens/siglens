/-
Helper lemmas for C16 (time-unit logic): decimal renderings (`Nat.toDigits 10`, i.e. `toString`) through the modelled Go
parsers; the unit cascade on a uint64 as one choice by the two threshold tests (`scaleUnits_natCast`); the binary64
rounding argument for `<s>.<fff>`: each correctly rounded step leaves the value `Near` the exact one, close enough for
the truncation and `math.Round` to give the integers meant (`extractNum_fracText`); last, the HEC envelope's `time`.
-/
import SigModel.Model.TimeUnit
import SigModel.Lemmas.MachInt

namespace SigModel.Lemmas.C16
open SigModel SigModel.TimeUnit SigModel.MachInt

def dec (n : Nat) : List Char := Nat.toDigits 10 n

theorem wrapU64_natCast {n : Nat} (h : n < 18446744073709551616) : wrapU64 (n : Int) = n :=
  wrapU64_id (Int.natCast_nonneg n) (Int.ofNat_lt.2 h)

theorem wrapU32_natCast {n : Nat} (h : n < 4294967296) : wrapU32 (n : Int) = n :=
  Int.emod_eq_of_lt (Int.natCast_nonneg n) (Int.ofNat_lt.2 h)

theorem wrapS64_natCast {n : Nat} (h : n < 9223372036854775808) : wrapS64 (n : Int) = n :=
  wrapS64_id n (Int.le_trans (by decide) (Int.natCast_nonneg n)) (Int.ofNat_lt.2 h)

/-! ## decimal renderings through the integer parsers -/

theorem isDig_of_mem_dec {n : Nat} {c : Char} (h : c ∈ dec n) : isDig c = true :=
  Nat.isDigit_of_mem_toDigits (by decide) (by decide) h

theorem allDigits_dec (n : Nat) : allDigits (dec n) = true :=
  List.all_eq_true.2 fun _ hc => isDig_of_mem_dec hc

theorem ofDigitChars_dec (n : Nat) : Nat.ofDigitChars 10 (dec n) 0 = n := Nat.ofDigitChars_ten_toDigits

theorem dec_head (n : Nat) : ∃ c r, dec n = c :: r ∧ isDig c = true := by
  cases h : dec n with
  | nil => exact absurd h Nat.toDigits_ne_nil
  | cons c r => exact ⟨c, r, rfl, isDig_of_mem_dec (by rw [h]; exact List.mem_cons_self)⟩

theorem piStep_digit {c : Char} (v : Nat) (hc : isDig c = true) (hb : 10 * v + (c.toNat - 48) < 9223372036854775808) :
    piStep (.run v) c = .run ((10 * v + (c.toNat - 48) : Nat) : Int) := by
  have e : 10 * (v : Int) + digVal c = ((10 * v + (c.toNat - 48) : Nat) : Int) := rfl
  have nl : ¬ (((10 * v + (c.toNat - 48) : Nat) : Int) < v) :=
    Int.not_lt.2 (Int.ofNat_le.2 (Nat.le_trans (Nat.le_mul_of_pos_left v (by decide)) (Nat.le_add_right _ _)))
  simp only [piStep, hc, if_true, e, wrapS64_natCast hb, nl, if_false]

theorem foldl_piStep : ∀ (l : List Char) (v : Nat), (∀ c ∈ l, isDig c = true) →
    Nat.ofDigitChars 10 l v < 9223372036854775808 → l.foldl piStep (.run v) = .run (Nat.ofDigitChars 10 l v : Nat)
  | [], _, _, _ => rfl
  | c :: l, v, hd, hb => by
    rw [Nat.ofDigitChars_cons] at hb ⊢
    have hle : 10 * v + (c.toNat - 48) ≤ Nat.ofDigitChars 10 l (10 * v + (c.toNat - 48)) := by
      rw [Nat.ofDigitChars_eq_ofDigitChars_zero]
      exact Nat.le_trans (Nat.le_mul_of_pos_left _ (Nat.pow_pos (by decide))) (Nat.le_add_right _ _)
    rw [List.foldl_cons, piStep_digit v (hd c List.mem_cons_self) (Nat.lt_of_le_of_lt hle hb)]
    exact foldl_piStep l _ (fun c h => hd c (List.mem_cons_of_mem _ h)) hb

theorem foldl_piStep_dec (n : Nat) (h : n < 9223372036854775808) : (dec n).foldl piStep (.run 0) = .run (n : Int) := by
  have := foldl_piStep (dec n) 0 (fun _ => isDig_of_mem_dec) (by rwa [ofDigitChars_dec])
  rwa [ofDigitChars_dec] at this

theorem sign_ne_digit {c : Char} (h : isDig c = true) : (some c == some '-') = false ∧ (some c == some '+') = false := by
  have ne : ∀ d : Char, isDig d = false → (some c == some d) = false := fun d hd =>
    beq_eq_false_iff_ne.2 fun e => by cases e; exact absurd h (hd ▸ Bool.false_ne_true)
  exact ⟨ne '-' rfl, ne '+' rfl⟩

theorem jpParseInt_dec (n : Nat) (h : n < 9223372036854775808) : jpParseInt (dec n) = some (n : Int) := by
  obtain ⟨c, r, hcr, hc⟩ := dec_head n
  have hf := foldl_piStep_dec n h
  unfold jpParseInt
  rw [hcr] at hf ⊢
  simp only [List.isEmpty_cons, List.head?_cons, (sign_ne_digit hc).1, Bool.false_eq_true, if_false, hf]

theorem stripSign_digit_head (c : Char) (r : List Char) (hc : isDig c = true) : stripSign (c :: r) = (false, c :: r) := by
  simp only [stripSign, List.head?_cons, (sign_ne_digit hc).1, (sign_ne_digit hc).2, Bool.false_eq_true, if_false]

theorem stripSign_dec (n : Nat) : stripSign (dec n) = (false, dec n) := by
  obtain ⟨c, r, hcr, hc⟩ := dec_head n
  rw [hcr]
  exact stripSign_digit_head c r hc

theorem isEmpty_dec (n : Nat) : (dec n).isEmpty = false := List.isEmpty_eq_false_iff.2 Nat.toDigits_ne_nil

theorem goParseUint_dec (n : Nat) (h : n < 18446744073709551616) : goParseUint (dec n) = some (n : Int) := by
  simp only [goParseUint, isEmpty_dec, allDigits_dec, Bool.not_true, Bool.or_self, Bool.false_eq_true, if_false, ofDigitChars_dec, h, if_true]

theorem goParseInt_dec (n : Nat) (h : n < 9223372036854775808) : goParseInt (dec n) = some (n : Int) := by
  simp only [goParseInt, stripSign_dec, isEmpty_dec, allDigits_dec, Bool.not_true, Bool.or_self, Bool.false_eq_true, if_false, ofDigitChars_dec, h, if_true]

theorem goParseUint_range {s : List Char} {v : Int} (h : goParseUint s = some v) :
    0 ≤ v ∧ v < 18446744073709551616 := by
  unfold goParseUint at h
  dsimp only at h
  split at h
  · cases h
  · split at h
    · cases h
      exact ⟨Int.natCast_nonneg _, Int.ofNat_lt.2 ‹_›⟩
    · cases h

/-! ## decimal tokens through ParseFloat's syntax, and `<s>.<fff>` through ParseInt -/

theorem takeDigits_append (l r : List Char) (hl : ∀ c ∈ l, isDig c = true) (hr : takeDigits r = ([], r)) :
    takeDigits (l ++ r) = (l, r) := by
  induction l with
  | nil => simpa using hr
  | cons c l ih =>
    have hc := hl c List.mem_cons_self
    have := ih (fun c h => hl c (List.mem_cons_of_mem _ h))
    simp only [List.cons_append, takeDigits, hc, if_true, this]

def frac3 (f : Nat) : List Char := [Nat.digitChar (f / 100), Nat.digitChar (f / 10 % 10), Nat.digitChar (f % 10)]

/-- the JSON number token `<s>.<fff>`, `f < 1000` the milliseconds -/
def fracText (s f : Nat) : List Char := dec s ++ '.' :: frac3 f

theorem frac3_lt {f : Nat} (hf : f < 1000) : f / 100 < 10 ∧ f / 10 % 10 < 10 ∧ f % 10 < 10 :=
  ⟨Nat.div_lt_of_lt_mul hf, Nat.mod_lt _ (by decide), Nat.mod_lt _ (by decide)⟩

theorem frac3_digits (f : Nat) (hf : f < 1000) : ∀ c ∈ frac3 f, isDig c = true := by
  obtain ⟨a, b, c⟩ := frac3_lt hf
  intro x hx
  simp only [frac3, List.mem_cons, List.mem_nil_iff, or_false] at hx
  rcases hx with rfl | rfl | rfl <;> simp only [isDig, Nat.isDigit_digitChar, a, b, c, decide_true]

theorem ofDigitChars_frac3 (f : Nat) (hf : f < 1000) (init : Nat) :
    Nat.ofDigitChars 10 (frac3 f) init = 1000 * init + f := by
  obtain ⟨a, b, c⟩ := frac3_lt hf
  simp only [frac3, Nat.ofDigitChars_cons_digitChar_of_lt_ten a, Nat.ofDigitChars_cons_digitChar_of_lt_ten b,
    Nat.ofDigitChars_cons_digitChar_of_lt_ten c, Nat.ofDigitChars_nil]
  omega

theorem parseDec_dec (n : Nat) : parseDec (dec n) = some (false, n, 0, 0) := by
  have htd : takeDigits (dec n) = (dec n, []) := by
    simpa using takeDigits_append (dec n) [] (fun _ => isDig_of_mem_dec) rfl
  simp only [parseDec, stripSign_dec, htd, List.head?_nil, reduceCtorEq, beq_iff_eq, if_false, List.append_nil, isEmpty_dec,
    Bool.false_eq_true, ofDigitChars_dec, List.length_nil]

theorem parseDec_fracText (s f : Nat) (hf : f < 1000) :
    parseDec (fracText s f) = some (false, 1000 * s + f, 3, 0) := by
  obtain ⟨c, r, hcr, hc⟩ := dec_head s
  have hss : stripSign (fracText s f) = (false, fracText s f) := by
    unfold fracText; rw [hcr]; exact stripSign_digit_head c _ hc
  have htd : takeDigits (fracText s f) = (dec s, '.' :: frac3 f) :=
    takeDigits_append _ _ (fun _ => isDig_of_mem_dec) (by simp [takeDigits, isDig])
  have htf : takeDigits (frac3 f) = (frac3 f, []) := by
    simpa using takeDigits_append (frac3 f) [] (frac3_digits f hf) rfl
  have hm : Nat.ofDigitChars 10 (dec s ++ frac3 f) 0 = 1000 * s + f := by
    rw [Nat.ofDigitChars_append, ofDigitChars_dec, ofDigitChars_frac3 f hf]
  have hne : (dec s ++ frac3 f).isEmpty = false := by rw [hcr]; rfl
  simp only [parseDec, hss, htd, List.head?_cons, List.tail_cons, beq_self_eq_true, if_true, htf, hne, hm,
    Bool.false_eq_true, if_false]
  rfl

theorem foldl_piStep_bad (l : List Char) : l.foldl piStep .bad = .bad := by
  induction l with
  | nil => rfl
  | cons c l ih => exact ih

theorem jpParseInt_fracText (s f : Nat) (hs : s < 9223372036854775808) : jpParseInt (fracText s f) = none := by
  obtain ⟨c, r, hcr, hc⟩ := dec_head s
  have hfold : (fracText s f).foldl piStep (.run 0) = .bad := by
    rw [fracText, List.foldl_append, foldl_piStep_dec s hs, List.foldl_cons]
    exact foldl_piStep_bad _
  unfold jpParseInt
  rw [fracText, hcr, List.cons_append] at hfold ⊢
  simp only [List.isEmpty_cons, List.head?_cons, (sign_ne_digit hc).1, Bool.false_eq_true, if_false, hfold]

/-! ## the unit cascade on a uint64 -/

theorem isMilli_natCast (n : Nat) : Gen.IsTimeInMilli (n : Int) = decide (99999999999 ≤ n) := by
  have e : decide ((n : Int) ≥ 99999999999) = decide (99999999999 ≤ n) :=
    decide_eq_decide.2 (Int.ofNat_le (m := 99999999999))
  rw [Gen.IsTimeInMilli, e]
  -- the generated body is `if d then true else false`
  cases decide (99999999999 ≤ n) <;> rfl

theorem isNano_natCast (n : Nat) : Gen.IsTimeInNano (n : Int) = decide (1000000000000000000 ≤ n) :=
  decide_eq_decide.2 (Int.ofNat_le (m := 1000000000000000000))

theorem scaleUnits_natCast (n : Nat) (h : n < 18446744073709551616) :
    scaleUnits (n : Int) =
      if Gen.IsTimeInNano (n : Int) then ((n / 1000000 : Nat) : Int)
      else if Gen.IsTimeInMilli (n : Int) then (n : Int) else ((n * 1000 : Nat) : Int) := by
  have hd : Int.tdiv (n : Int) 1000000 = ((n / 1000000 : Nat) : Int) := (Int.ofNat_tdiv n 1000000).symm
  by_cases h1 : 1000000000000000000 ≤ n
  · -- still ≥ 10^12 after the division: not scaled a second time
    have hm : 99999999999 ≤ n / 1000000 := (Nat.le_div_iff_mul_le (by decide)).2 (Nat.le_trans (by decide) h1)
    simp only [scaleUnits, isNano_natCast, h1, decide_true, if_true, hd, wrapU64_natCast (Nat.lt_of_le_of_lt (Nat.div_le_self _ _) h),
      isMilli_natCast, hm, Bool.not_true, Bool.false_eq_true, if_false]
  · by_cases h2 : 99999999999 ≤ n
    · simp only [scaleUnits, isNano_natCast, isMilli_natCast, h1, h2, decide_false, decide_true, Bool.false_eq_true, if_false,
        Bool.not_true, if_true]
    · simp only [scaleUnits, isNano_natCast, isMilli_natCast, h1, h2, decide_false, Bool.false_eq_true, if_false, Bool.not_false,
        if_true]
      -- below the milli threshold the ×1000 product is far below 2^64
      exact wrapU64_natCast (Nat.lt_trans (Nat.mul_lt_mul_of_pos_right (Nat.not_le.1 h2) (by decide)) (by decide))

theorem scaleUnits_eq_zero_iff {v : Int} (hv : 0 ≤ v ∧ v < 18446744073709551616) : scaleUnits v = 0 ↔ v = 0 := by
  obtain ⟨n, rfl⟩ := Int.eq_ofNat_of_zero_le hv.1
  rw [scaleUnits_natCast n (Int.ofNat_lt.1 hv.2), isNano_natCast]
  by_cases h1 : 1000000000000000000 ≤ n
  · rw [decide_eq_true h1, if_pos rfl]
    exact iff_of_false (Int.natCast_ne_zero.2 (Nat.ne_of_gt (Nat.div_pos (Nat.le_trans (by decide) h1) (by decide))))
      (Int.natCast_ne_zero.2 (Nat.ne_of_gt (Nat.lt_of_lt_of_le (by decide) h1)))
  · rw [decide_eq_false h1, if_neg Bool.false_ne_true]
    split
    · exact Iff.rfl
    · -- under the casts: `n * 1000 = 0 ↔ n = 0`
      exact (Int.natCast_eq_zero.trans (Nat.mul_eq_zero.trans (or_iff_left (by decide)))).trans Int.natCast_eq_zero.symm

theorem extractNum_dec (n : Nat) (h : n < 9223372036854775808) : extractNum (dec n) = scaleUnits (n : Int) := by
  simp only [extractNum, jpParseInt_dec n h, wrapU64_natCast (Nat.lt_trans h (by decide))]

/-! ## binary64: rounding to a grid, and the conversion to uint64 -/

theorem f64ToU64_range (f : F64) : 0 ≤ f64ToU64 f ∧ f64ToU64 f < 18446744073709551616 := by
  unfold f64ToU64
  dsimp only
  split
  · exact wrapU64_range _
  · split
    · exact ⟨Int.natCast_nonneg _, ‹_›⟩
    · decide

theorem f64ToU64_of_nonneg {q n : Nat} {x : Int} (h : F64.truncMag ⟨false, q, x⟩ = n) (hn : n < 18446744073709551616) :
    f64ToU64 ⟨false, q, x⟩ = (n : Int) := by
  have hn' : (n : Int) < 18446744073709551616 := Int.ofNat_lt.2 hn
  simp only [f64ToU64, Bool.false_eq_true, if_false, h, hn', if_true]

/-- with `den ≥ 2^b` and `num < 2^(b+d+1)` the quotient is below `2^(d+1)` -/
theorem ulpExp_le (num den b d : Nat) (hn : num ≠ 0) (hd : den ≠ 0) (h1 : num < 2 ^ (b + d + 1)) (h2 : 2 ^ b ≤ den) :
    ulpExp num den ≤ (d : Int) - 52 := by
  have l1 : Nat.log2 num < b + d + 1 := (Nat.log2_lt hn).2 h1
  have l2 : b ≤ Nat.log2 den := (Nat.le_log2 hd).2 h2
  -- `omega` reads every hypothesis in sight, the powers of two included
  clear hn hd h1 h2
  simp only [ulpExp]
  split <;> split <;> omega

theorem two_pow_le_of_le_neg {x : Int} {k : Nat} (h : x ≤ -(k : Int)) : 2 ^ k ≤ 2 ^ (-x).toNat :=
  Nat.pow_le_pow_right (by decide) (by omega)

/-- `q/P` lies within one step `1/P` of `a/b` (cross-multiplied).  The lower side is strict: a rounding of `a/b · P` to
an integer never ends below its floor. -/
def Near (a b P q : Nat) : Prop := a * P < b * q + b ∧ b * q ≤ a * P + b

theorem roundAt_near (num den : Nat) (x : Int) (hx : x < 0) (hd : 0 < den) :
    Near num den (2 ^ (-x).toNat) (roundAt num den x) := by
  simp only [Near, roundAt, if_neg (Int.not_le.2 hx)]
  generalize num * 2 ^ (-x).toNat = N
  have h1 := Nat.div_add_mod N den
  have h2 := Nat.mod_lt N hd
  clear hx hd
  split
  · rw [Nat.mul_add_one]
    omega
  · omega

theorem Near.ne_zero {a b P q : Nat} (h : Near a b P q) (hab : b ≤ a) (hP : 0 < P) : q ≠ 0 := by
  intro h0
  have h1 := h.1
  rw [h0, Nat.mul_zero, Nat.zero_add] at h1
  exact Nat.not_le.2 h1 (Nat.le_trans hab (Nat.le_mul_of_pos_right a hP))

theorem trunc_near {c s f P q : Nat} (h : Near (c * s + f) c P q) (hf : f < c) (hP : c < P) : q / P = s := by
  obtain ⟨hlo, hhi⟩ := h
  have hfP : f * P + P ≤ c * P := Nat.succ_mul f P ▸ Nat.mul_le_mul_right P hf
  rw [Nat.add_mul, Nat.mul_assoc] at hlo hhi
  apply Nat.div_eq_of_lt_le
  · -- `c * (s * P) < c * (q + 1)`, divided by `c`
    exact Nat.le_of_lt_succ (Nat.lt_of_mul_lt_mul_left (a := c) (Nat.lt_of_le_of_lt (Nat.le_add_right _ _) hlo))
  · have : c * q < c * ((s + 1) * P) := by
      rw [Nat.succ_mul, Nat.mul_add]
      omega
    exact Nat.lt_of_mul_lt_mul_left this

/-- `A/D` within a quarter of the integer `T`, rounded to a binary grid of step at most 1/8, is still less than a half
from `T`: `math.Round` (the left side) gives `T` -/
theorem round_quarter {A D T : Nat} {x : Int} (hx : x ≤ -3) (hD : 0 < D)
    (h1 : 4 * (T * D) ≤ 4 * A + D) (h2 : 4 * A ≤ 4 * (T * D) + D) :
    (2 * roundAt A D x + 2 ^ (-x).toNat) / (2 * 2 ^ (-x).toNat) = T := by
  obtain ⟨n1, n2⟩ := roundAt_near A D x (Int.lt_of_le_of_lt hx (by decide)) hD
  have hP := two_pow_le_of_le_neg (k := 3) hx
  generalize 2 ^ (-x).toNat = P at n1 n2 hP ⊢
  generalize roundAt A D x = q at n1 n2 ⊢
  -- hypotheses times `P`, goal times `D`: linear facts about `D·q`, `A·P`, `T·(D·P)`, `D·P`, `D`
  have e1 := Nat.mul_le_mul_right P h1
  have e2 := Nat.mul_le_mul_right P h2
  have e3 := Nat.mul_le_mul_left D hP
  simp only [Nat.add_mul, Nat.mul_assoc] at e1 e2
  have k : D * (T * (2 * P)) ≤ D * (2 * q + P) ∧ D * (2 * q + P) < D * ((T + 1) * (2 * P)) := by
    rw [Nat.add_mul, Nat.one_mul, Nat.mul_add, Nat.mul_add, Nat.mul_left_comm D 2 q, Nat.mul_left_comm T 2 P,
      Nat.mul_left_comm D 2, Nat.mul_left_comm D T P, Nat.mul_left_comm D 2 P]
    clear h1 h2 hx
    omega
  exact Nat.div_eq_of_lt_le (Nat.le_of_mul_le_mul_left k.1 hD) (Nat.lt_of_mul_lt_mul_left k.2)

theorem mulNat_round_exact (c T q : Nat) (x : Int) (hx : x < 0) (hT : T < 2 ^ 50) (hP : 4 * c ≤ 2 ^ (-x).toNat) (hq : q ≠ 0)
    (hc : 0 < c) (h : Near T c (2 ^ (-x).toNat) q) :
    f64ToU64 (F64.mulNat ⟨false, q, x⟩ c).round = (T : Int) := by
  obtain ⟨n1, n2⟩ := h
  rw [Nat.mul_comm c q] at n1 n2
  -- `q·c` is within `c ≤ P/4` of `T·P`: the product is within a quarter of `T`
  have q1 := Nat.mul_le_mul_left 4 (Nat.le_of_lt n1)
  have q2 := Nat.mul_le_mul_left 4 n2
  rw [Nat.mul_add] at q1 q2
  -- and below `T + 1 ≤ 2^50`, so its last mantissa bit is at `2^-3` or finer
  have hmag : q * c < 2 ^ ((-x).toNat + 49 + 1) := by
    rw [Nat.add_assoc, Nat.pow_add, Nat.mul_comm (2 ^ (-x).toNat)]
    -- with `P` the power of two: `q·c ≤ T·P + c < T·P + P = (T+1)·P ≤ 2^50·P`
    exact Nat.lt_of_le_of_lt n2 (Nat.lt_of_lt_of_le
      (Nat.add_lt_add_left (Nat.lt_of_lt_of_le ((Nat.lt_mul_iff_one_lt_left hc).2 (by decide)) hP) _)
      (Nat.succ_mul T _ ▸ Nat.mul_le_mul_right _ (Nat.succ_le_of_lt hT)))
  have hx2 := ulpExp_le _ _ _ 49 (Nat.mul_ne_zero hq (Nat.ne_of_gt hc)) (Nat.ne_of_gt (Nat.two_pow_pos _)) hmag (Nat.le_refl _)
  simp only [F64.mulNat, if_neg hq, if_neg (Int.not_le.2 hx), roundPos, F64.round]
  rw [if_neg (Int.not_le.2 (Int.lt_of_le_of_lt hx2 (by decide))),
    round_quarter hx2 (Nat.two_pow_pos _) (Nat.le_trans q1 (Nat.add_le_add_left hP _)) (Nat.le_trans q2 (Nat.add_le_add_left hP _))]
  exact f64ToU64_of_nonneg (Nat.mul_one T) (Nat.lt_trans hT (by decide))

/-! ## `<s>.<fff>` and `<s>` through ParseFloat -/

/-- the bounds 100 only keep the token clear of strconv's shortcuts on the decimal magnitude -/
theorem jpParseFloat_plain {t : List Char} {m fl : Nat} (hp : parseDec t = some (false, m, fl, 0)) (hm : m ≠ 0)
    (hm2 : m < 10 ^ 100) (hfl : fl ≤ 100) (hx : ulpExp m (10 ^ fl) < 0) :
    jpParseFloat t = some ⟨false, roundAt m (10 ^ fl) (ulpExp m (10 ^ fl)), ulpExp m (10 ^ fl)⟩ := by
  have hlen := (Nat.length_toDigits_le_iff (b := 10) (by decide) (by decide)).2 hm2
  -- `e10 = 0 - fl`: numerator and denominator of the value are `m` and `10^fl` (for `fl = 0` as `m * 10^0` and `1`)
  have hnd : (if (0 : Int) - fl ≥ 0 then m * 10 ^ ((0 : Int) - fl).toNat else m) = m ∧
      (if (0 : Int) - fl ≥ 0 then 1 else 10 ^ (-((0 : Int) - fl)).toNat) = 10 ^ fl := by
    cases fl with
    | zero => exact ⟨Nat.mul_one m, rfl⟩
    | succ k => exact ⟨if_neg (Int.not_le.2 (Int.negSucc_lt_zero k)), if_neg (Int.not_le.2 (Int.negSucc_lt_zero k))⟩
  simp only [jpParseFloat, hp, if_neg hm, roundPos, overflows, hnd.1, hnd.2, if_neg (Int.not_le.2 hx)]
  clear hm2 hx hnd
  rw [if_neg (by omega), if_neg (by omega)]
  rfl

/-- `b`, `d` as in `ulpExp_le`: the value `m/10^fl` lies in `[1, 2^(d+1))` -/
theorem plain_float {t : List Char} {m fl : Nat} (b d : Nat) (hp : parseDec t = some (false, m, fl, 0))
    (h1 : 10 ^ fl ≤ m) (h2 : m < 2 ^ (b + d + 1)) (hb : 2 ^ b ≤ 10 ^ fl) (hd : d < 52) (hm2 : m < 10 ^ 100) (hfl : fl ≤ 100) :
    ∃ q x, jpParseFloat t = some ⟨false, q, x⟩ ∧ q ≠ 0 ∧ x ≤ (d : Int) - 52 ∧ Near m (10 ^ fl) (2 ^ (-x).toNat) q := by
  have hpos : 0 < 10 ^ fl := Nat.pow_pos (by decide)
  have hm : m ≠ 0 := Nat.ne_of_gt (Nat.lt_of_lt_of_le hpos h1)
  have hx := ulpExp_le m (10 ^ fl) b d hm (Nat.ne_of_gt hpos) h2 hb
  have hx0 := Int.lt_of_le_of_lt hx (Int.sub_neg_of_lt (Int.ofNat_lt.2 hd))
  have near := roundAt_near m (10 ^ fl) _ hx0 hpos
  exact ⟨_, _, jpParseFloat_plain hp hm hm2 hfl hx0, near.ne_zero h1 (Nat.two_pow_pos _), hx, near⟩

/-- `<s>.<fff>`, T = 1000·s + f < 10^13 < 2^44: the grid has step at most 2^-18 -/
theorem fracText_float (s f : Nat) (hs : 1 ≤ s) (hs2 : s < 10000000000) (hf : f < 1000) :
    ∃ q x, jpParseFloat (fracText s f) = some ⟨false, q, x⟩ ∧ q ≠ 0 ∧ x ≤ -18 ∧ Near (1000 * s + f) 1000 (2 ^ (-x).toNat) q := by
  have hT : 1000 * s + f < 10000000000000 := Nat.lt_of_lt_of_le (Nat.add_lt_add_left hf _) (Nat.mul_le_mul_left 1000 hs2)
  exact plain_float 9 34 (parseDec_fracText s f hf) (Nat.le_trans (Nat.mul_le_mul_left 1000 hs) (Nat.le_add_right _ _))
    (Nat.lt_of_lt_of_le hT (by decide)) (by decide) (by decide) (Nat.lt_of_lt_of_le hT (by decide)) (by decide)

/-- ParseInt refuses the token; the binary64 truncates to `s`, a seconds reading, so `math.Round(val * 1000)` is taken -/
theorem extractNum_fracText (s f : Nat) (hs : 1 ≤ s) (hs2 : s < 10000000000) (hf : f < 1000) :
    extractNum (fracText s f) = (s : Int) * 1000 + f := by
  obtain ⟨q, x, hpf, hq, hx, near⟩ := fracText_float s f hs hs2 hf
  have hP := two_pow_le_of_le_neg (k := 18) hx
  have hx0 : x < 0 := Int.lt_of_le_of_lt hx (by decide)
  have htm : F64.truncMag ⟨false, q, x⟩ = s :=
    (if_neg (Int.not_le.2 hx0)).trans (trunc_near near hf (Nat.lt_of_lt_of_le (by decide) hP))
  have hu := f64ToU64_of_nonneg htm (Nat.lt_trans hs2 (by decide))
  simp only [extractNum, jpParseInt_fracText s f (Nat.lt_trans hs2 (by decide)), hpf, hu, isMilli_natCast,
    Nat.not_le.2 (Nat.lt_trans hs2 (by decide) : s < 99999999999), decide_false, Bool.not_false, Bool.true_or, Bool.and_self, if_true]
  exact (mulNat_round_exact 1000 _ q x hx0
    (Nat.lt_of_lt_of_le (Nat.add_lt_add_left hf _) (Nat.le_trans (Nat.mul_le_mul_left 1000 hs2) (by decide)))
    (Nat.le_trans (by decide) hP) hq (by decide) near).trans (congrArg (fun n : Nat => ((n + f : Nat) : Int)) (Nat.mul_comm 1000 s))

/-! Splunk HEC: the envelope's `time` is a positive binary64 for every instant of the seconds window -/

theorem hecEventTime_of_pos {t : List Char} {q : Nat} {x : Int} (h : jpParseFloat t = some ⟨false, q, x⟩) (hq : q ≠ 0) :
    hecEventTime (some t) = extractNum t := by
  simp only [hecEventTime, h, Bool.false_or, beq_iff_eq, hq, if_false]

theorem hecEventTime_fracText (s f : Nat) (hs : 1 ≤ s) (hs2 : s < 10000000000) (hf : f < 1000) :
    hecEventTime (some (fracText s f)) = extractNum (fracText s f) := by
  obtain ⟨q, x, hpf, hq, _⟩ := fracText_float s f hs hs2 hf
  exact hecEventTime_of_pos hpf hq

theorem hecEventTime_dec (s : Nat) (hs : 1 ≤ s) (hs2 : s < 10000000000) :
    hecEventTime (some (dec s)) = extractNum (dec s) := by
  obtain ⟨q, x, hpf, hq, _⟩ := plain_float 0 33 (parseDec_dec s) hs (Nat.lt_of_lt_of_le hs2 (by decide)) (by decide)
    (by decide) (Nat.lt_of_lt_of_le hs2 (by decide)) (by decide)
  exact hecEventTime_of_pos hpf hq

end SigModel.Lemmas.C16
