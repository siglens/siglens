/-
C08 (Gorilla codec round trip), bit IO and byte packing: `readBits` undoes `writeBits`, `unpack` undoes `pack` up to
the zero padding of the last byte.
-/
import SigModel.Model.Gorilla

namespace SigModel.Lemmas.C08
open SigModel SigModel.Gorilla

theorem writeBits_length (u n : Nat) : (writeBits u n).length = n := by
  induction n with
  | zero => rfl
  | succ n ih => rw [writeBits, List.length_cons, ih]

theorem readBitsAux_writeBits (u n acc : Nat) (r : Bits) :
    readBitsAux n acc (writeBits u n ++ r) = some (2 ^ n * acc + u % 2 ^ n, r) := by
  induction n generalizing acc with
  | zero => rw [Nat.pow_zero, Nat.mod_one, Nat.one_mul]; rfl
  | succ n ih =>
    -- one step of the reader on one written bit is a definitional unfolding
    refine (ih _).trans ?_
    rw [Nat.toNat_testBit, Nat.mod_pow_succ, Nat.mul_add, ← Nat.mul_assoc, ← Nat.pow_succ, Nat.add_assoc,
      Nat.add_comm (u % 2 ^ n)]

theorem readBits_writeBits (u n : Nat) (r : Bits) :
    readBits n (writeBits u n ++ r) = some (u % 2 ^ n, r) := by
  rw [readBits, readBitsAux_writeBits, Nat.mul_zero, Nat.zero_add]

theorem readBits_writeBits_lt (u n : Nat) (r : Bits) (h : u < 2 ^ n) :
    readBits n (writeBits u n ++ r) = some (u, r) := by
  rw [readBits_writeBits, Nat.mod_eq_of_lt h]

theorem writeBits_push (a : Nat) (b : Bool) (n : Nat) :
    writeBits (2 * a + b.toNat) (n + 1) = writeBits a n ++ [b] := by
  induction n with
  | zero =>
    show [(2 * a + b.toNat).testBit 0] = [b]
    rw [Nat.testBit_zero, Nat.mul_add_mod]
    cases b <;> rfl
  | succ n ih =>
    rw [writeBits, ih, Nat.testBit_add_one, Nat.mul_add_div (by decide), Nat.div_eq_of_lt (Bool.toNat_lt b), Nat.add_zero]
    rfl

-- the fold is that of `byteOfBits`, over any positions `is` and from any `acc`
theorem writeBits_foldl (bs : Bits) (is : List Nat) (acc m : Nat) :
    writeBits (is.foldl (fun acc i => 2 * acc + (bs.getD i false).toNat) acc) (m + is.length)
      = writeBits acc m ++ is.map (bs.getD · false) := by
  induction is generalizing acc m with
  | nil => rw [List.map_nil, List.append_nil]; rfl
  | cons i is ih =>
    rw [List.foldl_cons, List.length_cons, Nat.add_comm _ 1, ← Nat.add_assoc, ih, writeBits_push,
      List.append_assoc, List.map_cons, List.singleton_append]

theorem map_getD_range (bs : Bits) (n : Nat) :
    (List.range n).map (bs.getD · false) = bs.take n ++ List.replicate (n - bs.length) false := by
  induction bs generalizing n with
  | nil =>
    rw [List.take_nil, List.nil_append]
    exact (List.map_const' ..).trans (congrArg (List.replicate · false) List.length_range)
  | cons b bs ih =>
    cases n with
    | zero => rw [Nat.zero_sub]; rfl
    | succ n =>
      rw [List.range_succ_eq_map, List.map_cons, List.map_map, List.take_succ_cons, List.length_cons,
        Nat.add_sub_add_right, List.cons_append, ← ih]
      -- position `i + 1` of `b :: bs` is position `i` of `bs`
      rfl

theorem writeBits_byteOfBits (bs : Bits) :
    writeBits (byteOfBits bs) 8 = bs.take 8 ++ List.replicate (8 - bs.length) false :=
  (writeBits_foldl bs (List.range 8) 0 0).trans (map_getD_range bs 8)

theorem unpack_pack (bs : Bits) :
    ∃ k, k < 8 ∧ unpack (pack bs) = bs ++ List.replicate k false := by
  fun_induction pack bs with
  | case1 => exact ⟨0, by decide, rfl⟩
  | case2 b bs _ ih =>
    show ∃ k, k < 8 ∧ writeBits _ 8 ++ unpack _ = _
    rw [writeBits_byteOfBits]
    by_cases hl : (b :: bs).length ≤ 8
    · rw [List.drop_eq_nil_iff.mpr hl, List.take_of_length_le hl]
      exact ⟨8 - (b :: bs).length, Nat.sub_lt (by decide) (Nat.succ_pos _), by rw [pack]; exact List.append_nil _⟩
    · obtain ⟨k, hk, ihk⟩ := ih
      refine ⟨k, hk, ?_⟩
      rw [ihk, Nat.sub_eq_zero_of_le (Nat.le_of_lt (Nat.not_le.1 hl)), List.replicate_zero, List.append_nil,
        ← List.append_assoc, List.take_append_drop]

end SigModel.Lemmas.C08
