/-
Lemmas for C20, alert evaluation across job lifetimes (Model/AlertJob.lean).  The database part `w.st` of a world
is the database of the single-lifetime model; a run here is a `Trace` on it (Lemmas/C20.lean), and the window
invariant `Inv` is carried over unchanged.  Core Lean only.
-/
import SigModel.Model.AlertJob
import SigModel.Lemmas.C20

namespace SigModel.Lemmas.C20J
open SigModel.Alert hiding Op
open SigModel.AlertJob
open SigModel.Lemmas.C20 (Barrier Inv inv_eval inv_start Trace)

theorem step_silence (w : World) (k : Nat) :
    step w (.silence k) = ({ w with silence := if silenceAccepted k then k else w.silence }, none) := by
  show (if _ then _ else _) = _
  cases silenceAccepted k <;> rfl

theorem step_edit (w : World) (a b : Nat) :
    step w (.edit a b) =
      (if editAccepted a b then
        (let w1 : World := { w with window := a, interval := b, st := configChange w.st }
         { w1 with job := capture w1 })
       else w, none) := by
  show (if _ then _ else _) = _
  cases editAccepted a b <;> rfl

def Sync (w : World) : Prop := w.job.window = w.window ∧ w.job.interval = w.interval

theorem sync_step (w : World) (op : Op) (h : Sync w) : Sync (step w op).1 := by
  cases op with
  | restart => exact ⟨rfl, rfl⟩
  | edit a b =>
    rw [step_edit]
    cases editAccepted a b
    · exact h
    · exact ⟨rfl, rfl⟩
  | silence k => exact step_silence w k ▸ h
  | _ => exact h

/-- the world with the fields of the captured object that no decision reads blanked -/
def forget (w : World) : World := { w with job := { w.job with silence := 0, state := .inactive } }

def DbEq (a b : World) : Prop := forget a = forget b

theorem step_forget (w : World) (op : Op) :
    (step (forget w) op).2 = (step w op).2 ∧ forget (step (forget w) op).1 = forget (step w op).1 := by
  cases op with
  | edit a b =>
    rw [step_edit, step_edit]
    cases editAccepted a b <;> exact ⟨rfl, rfl⟩
  | silence k => exact step_silence w k ▸ step_silence (forget w) k ▸ ⟨rfl, rfl⟩
  | _ => exact ⟨rfl, rfl⟩

theorem dbEq_step {a b : World} (op : Op) (h : DbEq a b) :
    (step a op).2 = (step b op).2 ∧ DbEq (step a op).1 (step b op).1 := by
  have ha := step_forget a op
  rw [show forget a = forget b from h] at ha
  exact ⟨ha.1.symm.trans (step_forget b op).1, ha.2.symm.trans (step_forget b op).2⟩

theorem dbEq_run (ops : List Op) {a b : World} (h : DbEq a b) :
    (run a ops).2 = (run b ops).2 ∧ DbEq (run a ops).1 (run b ops).1 := by
  induction ops generalizing a b with
  | nil => exact ⟨rfl, h⟩
  | cons op ops ih =>
    obtain ⟨h1, h2⟩ := dbEq_step op h
    obtain ⟨g1, g2⟩ := ih h2
    exact ⟨show _ ++ _ = _ ++ _ by rw [h1, g1], g2⟩

theorem dbEq_restart (w : World) (h : Sync w) : DbEq (step w .restart).1 w := by
  obtain ⟨st, window, interval, silence, cooldown, ⟨jw, ji, js, jst⟩, now⟩ := w
  obtain ⟨h1, h2⟩ := h
  cases h1
  cases h2
  rfl

def isRestart : Op → Bool
  | .restart => true
  | _ => false

def eraseRestarts (ops : List Op) : List Op := ops.filter (fun op => !isRestart op)

theorem run_erase (ops : List Op) (w : World) (h : Sync w) :
    (run w ops).2 = (run w (eraseRestarts ops)).2 ∧ DbEq (run w ops).1 (run w (eraseRestarts ops)).1 := by
  induction ops generalizing w with
  | nil => exact ⟨rfl, rfl⟩
  | cons op ops ih =>
    obtain ⟨i1, i2⟩ := ih (step w op).1 (sync_step w op h)
    by_cases hr : op = .restart
    · subst hr
      obtain ⟨d1, d2⟩ := dbEq_run (eraseRestarts ops) (dbEq_restart w h)
      exact ⟨i1.trans d1, i2.trans d2⟩
    · have e : eraseRestarts (op :: ops) = op :: eraseRestarts ops :=
        List.filter_cons_of_pos (by cases op with | restart => exact absurd rfl hr | _ => rfl)
      rw [e]
      exact ⟨congrArg (_ ++ ·) i1, i2⟩

theorem run_append (w : World) (a b : List Op) :
    run w (a ++ b) = ((run (run w a).1 b).1, (run w a).2 ++ (run (run w a).1 b).2) := by
  induction a generalizing w with
  | nil => rfl
  | cons op a ih => simp only [List.cons_append, run, ih, List.append_assoc]

def isEdit : Op → Bool
  | .edit _ _ => true
  | _ => false

def outcomes (ops : List Op) : List Bool :=
  (ops.filterMap (fun op => match op with | .eval m _ => some m | _ => none)).reverse

theorem outcomes_cons (op : Op) (ops : List Op) : outcomes (op :: ops) = outcomes ops ++ outcomes [op] :=
  (congrArg List.reverse (List.filterMap_append (l := [op]))).trans List.reverse_append

/-- `row`: the count a restart hands to the next job -/
structure InvW (n : Nat) (w : World) (os : List Bool) : Prop where
  inv : Inv n w.st os
  job : (jobCfg w).n = n
  row : w.window / w.interval = n

theorem invW_step (n : Nat) (w : World) (os : List Bool) (op : Op) (hne : isEdit op = false)
    (h : InvW n w os) : InvW n (step w op).1 (outcomes [op] ++ os) := by
  cases op with
  | eval m ok =>
    obtain ⟨hi, rfl, hr⟩ := h
    exact ⟨inv_eval hi w.now m ok, rfl, hr⟩
  | restart => exact ⟨h.inv, h.row, h.row⟩
  | edit a b => cases hne
  | silence k => exact step_silence w k ▸ ⟨h.inv, h.job, h.row⟩
  | _ => exact ⟨h.inv, h.job, h.row⟩

theorem invW_run (n : Nat) (ops : List Op) (w : World) (os : List Bool)
    (hno : ∀ op ∈ ops, isEdit op = false) (h : InvW n w os) :
    InvW n (run w ops).1 (outcomes ops ++ os) := by
  induction ops generalizing w os with
  | nil => exact h
  | cons op ops ih =>
    rw [outcomes_cons, List.append_assoc]
    exact ih _ _ (fun o ho => hno o (List.mem_cons_of_mem _ ho))
      (invW_step n w os op (hno op (List.mem_cons_self ..)) h)

theorem inv_after_run (w : World) (ops : List Op) (hb : Barrier w.st.hist)
    (hno : ∀ op ∈ ops, isEdit op = false) {n : Nat} (hj : (jobCfg w).n = n) (hr : w.window / w.interval = n) :
    Inv n (run w ops).1.st (outcomes ops) :=
  List.append_nil (outcomes ops) ▸ (invW_run n ops w [] hno ⟨inv_start n hb, hj, hr⟩).inv

/-- of the configuration only the cool-down is the same at every evaluation: requests change window and silence -/
theorem trace_run (ops : List Op) (w : World) :
    Trace (·.cooldown = w.cooldown) w.st (run w ops).2 (run w ops).1.st := by
  induction ops generalizing w with
  | nil => exact .done _
  | cons op ops ih =>
    have h := ih (step w op).1
    dsimp only [run]
    revert h
    cases op with
    | eval m ok => exact .eval (jobCfg w) w.now m ok rfl
    | edit a b =>
      rw [step_edit]
      cases editAccepted a b
      · exact id
      · exact .row
    | silence k => exact step_silence w k ▸ id
    | _ => exact id

end SigModel.Lemmas.C20J
