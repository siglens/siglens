/-
C06, merging sorted streams (Model/PipePlan.lean sections 4 and 6).  The reader takes the least head again and again; the
invariant is `mergeSort (rows before) = emitted ++ mergeSort (rows left)`.  A step of MergeIQRs keeps it because the least head
is not after any row left (`least_head`), hence a round (`msRound_spec`), hence `msRun` (getStreamInput, default branch) under
the limit, whatever the batch boundaries (`msRun_spec`).  The merger of parallel sort chains is the same reader over streams
that hold one batch each (`mergerRun_eq_msRun`); the fast path `anyRun` delivers every row exactly once.  Core Lean only.
-/
import SigModel.Lemmas.C06
import SigModel.Lemmas.C06P

namespace SigModel.Lemmas.C06MS
open List SigModel.Pipe SigModel.PipePlan SigModel.Lemmas.C06P

variable {α σ : Type}

/-! ### IndexOfMin and one step of MergeIQRs -/

section min
variable {le less : α → α → Bool}
variable (htr : ∀ a b c : α, le a b = true → le b c = true → le a c = true) (htot : ∀ a b : α, (le a b || le b a) = true)
variable (hl : ∀ a b : α, less a b = !le b a)
include htr htot hl

theorem minGo_spec (xs : List α) : ∀ (best : Nat × α) (i : Nat) (r : Nat × α), minGo less best i xs = r →
    le r.2 best.2 = true ∧ (∀ y, y ∈ xs → le r.2 y = true) ∧ (r = best ∨ (r.2, r.1) ∈ xs.zipIdx i) := by
  induction xs with
  | nil =>
    intro best i r hr
    cases hr
    exact ⟨(Bool.or_self _).symm.trans (htot best.2 best.2), (fun _ h => nomatch h), Or.inl rfl⟩
  | cons x xs ih =>
    intro best i r hr
    rw [minGo, hl] at hr
    rw [zipIdx_cons]
    cases hx : le best.2 x <;> rw [hx] at hr
    · obtain ⟨h1, h2, h3⟩ := ih (i, x) (i + 1) r hr
      have hxb : le x best.2 = true := by have := htot best.2 x; rwa [hx] at this
      exact ⟨htr _ _ _ h1 hxb, forall_mem_cons.mpr ⟨h1, h2⟩,
        Or.inr (h3.elim (fun e => e ▸ mem_cons_self) (mem_cons_of_mem _))⟩
    · obtain ⟨h1, h2, h3⟩ := ih best (i + 1) r hr
      exact ⟨h1, forall_mem_cons.mpr ⟨htr _ _ _ h1 hx, h2⟩, h3.imp_right (mem_cons_of_mem _)⟩

theorem indexOfMin_spec {arr : List α} {r : Nat × α} (h : indexOfMin less arr = some r) :
    arr[r.1]? = some r.2 ∧ ∀ y, y ∈ arr → le r.2 y = true := by
  cases arr with
  | nil => cases h
  | cons x xs =>
    obtain ⟨h1, h2, h3⟩ := minGo_spec htr htot hl xs (0, x) 1 r (Option.some.inj h)
    have hm : (r.2, r.1) ∈ (x :: xs).zipIdx := h3.elim (fun e => e ▸ mem_cons_self) (mem_cons_of_mem _)
    exact ⟨mem_zipIdx_iff_getElem?.mp hm, forall_mem_cons.mpr ⟨h1, h2⟩⟩

end min

/-- `i` counts heads; it is the position in `xs` only because every queue has one -/
theorem pick (cur : σ → List α) (xs : List σ) : ∀ (i : Nat) (h : α), (∀ x, x ∈ xs → cur x ≠ []) →
    ((xs.map cur).filterMap head?)[i]? = some h →
    ∃ a s t b, xs = a ++ s :: b ∧ cur s = h :: t ∧ dropHeadAt (xs.map cur) i = a.map cur ++ t :: b.map cur := by
  induction xs with
  | nil => intro _ _ _ e; cases e
  | cons x xs ih =>
    intro i h hne e
    rw [map_cons] at e
    cases hc : cur x with
    | nil => exact absurd hc (hne x mem_cons_self)
    | cons y t =>
      rw [hc] at e
      cases i with
      | zero => cases e; exact ⟨[], x, t, xs, rfl, hc, congrArg (fun q => dropHeadAt (q :: xs.map cur) 0) hc⟩
      | succ i =>
        obtain ⟨a, s, t', b, e1, hs, hd⟩ := ih i h (fun z hz => hne z (mem_cons_of_mem _ hz)) e
        exact ⟨x :: a, s, t', b, congrArg (x :: ·) e1, hs, congrArg (cur x :: ·) hd⟩

theorem dropHeadAt_length : ∀ (qs : List (List α)) (i : Nat), (dropHeadAt qs i).length = qs.length
  | [], _ => rfl
  | _ :: _, 0 => rfl
  | _ :: qs, i + 1 => congrArg (· + 1) (dropHeadAt_length qs i)

theorem mergeRound_length (less : α → α → Bool) (fuel : Nat) : ∀ qs : List (List α),
    (mergeRound less fuel qs).2.length = qs.length := by
  induction fuel with
  | zero => intro _; rfl
  | succ fuel ih =>
    intro qs
    rw [mergeRound]
    split
    · rfl
    · split
      · rfl
      · exact (ih _).trans (dropHeadAt_length ..)

theorem mergeRound_progress (less : α → α → Bool) (fuel : Nat) {qs : List (List α)} (hne : qs ≠ [])
    (hall : ∀ q, q ∈ qs → q ≠ []) : (mergeRound less (fuel + 1) qs).1 ≠ [] := by
  rw [mergeRound, if_neg fun hany => (any_eq_true.mp hany).elim fun q hq => hall q hq.1 (isEmpty_iff.mp hq.2)]
  match qs, hne, hall with
  | (x :: q) :: qs, _, _ => exact cons_ne_nil _ _
  | [] :: qs, _, hall => exact absurd rfl (hall [] mem_cons_self)

/-! ### the streams of getStreamInput -/

abbrev setCur (s : MStream) (q : Table) : MStream := { s with cur := q }

def pending (ss : List MStream) : Nat := ((ss.map (·.rest)).map List.length).sum

theorem refill_some {s s' : MStream} (h : refill s = some s') :
    s'.rows = s.rows ∧ s'.rest.length ≤ s.rest.length ∧ (s'.rest.length < s.rest.length ∨ s'.cur ≠ []) := by
  match s, h with
  | ⟨[], b :: bs⟩, h => cases h; exact ⟨rfl, Nat.le_succ _, Or.inl (Nat.lt_succ_self _)⟩
  | ⟨a :: t, rest⟩, h => cases h; exact ⟨rfl, Nat.le_refl _, Or.inr (cons_ne_nil _ _)⟩

theorem refill_none {s : MStream} (h : refill s = none) : s.rows = [] := by
  match s, h with
  | ⟨[], []⟩, _ => rfl

/-- a fetched batch may be empty, so the round that follows may emit nothing; but then `pending` has fallen -/
theorem refill_all (ss : List MStream) :
    (ss.filterMap refill).flatMap MStream.rows = ss.flatMap MStream.rows ∧ pending (ss.filterMap refill) ≤ pending ss ∧
      (pending (ss.filterMap refill) < pending ss ∨ ∀ q, q ∈ (ss.filterMap refill).map (·.cur) → q ≠ []) := by
  induction ss with
  | nil => exact ⟨rfl, Nat.le_refl _, Or.inr fun _ h => nomatch h⟩
  | cons s ss ih =>
    obtain ⟨h1, h2, h3⟩ := ih
    cases hr : refill s with
    | none =>
      rw [filterMap_cons_none hr, flatMap_cons, refill_none hr]
      exact ⟨h1, Nat.le_trans h2 (Nat.le_add_left ..), h3.imp_left fun h => Nat.lt_of_lt_of_le h (Nat.le_add_left ..)⟩
    | some s' =>
      obtain ⟨e1, e2, e3⟩ := refill_some hr
      rw [filterMap_cons_some hr, flatMap_cons, flatMap_cons, e1, h1]
      refine ⟨rfl, Nat.add_le_add e2 h2, ?_⟩
      rcases e3 with e3 | e3
      · exact Or.inl (Nat.add_lt_add_of_lt_of_le e3 h2)
      · exact h3.imp (Nat.add_lt_add_of_le_of_lt e2) fun h3 => forall_mem_cons.mpr ⟨e3, h3⟩

theorem zipWith_setCur : ∀ {live next : List MStream}, next.map (·.rest) = live.map (·.rest) →
    zipWith setCur live (next.map (·.cur)) = next
  | [], [], _ => rfl
  | s :: _, t :: _, h =>
    congr (congrArg cons (show setCur s t.cur = t from congrArg (MStream.mk t.cur) (cons.inj h).1.symm))
      (zipWith_setCur (cons.inj h).2)

theorem takeOpt_nil : ∀ o : Option Nat, takeOpt o ([] : List α) = []
  | none => rfl
  | some _ => take_nil

/-! ### streams that hold one batch each (the merger's queues), and streams that have delivered nothing yet -/

theorem zipWith_setCur_map : ∀ l qs : List Table, l.length = qs.length →
    zipWith setCur (l.map (MStream.mk · [])) qs = qs.map (MStream.mk · [])
  | [], [], _ => rfl
  | _ :: l, q :: qs, h => congrArg (MStream.mk q [] :: ·) (zipWith_setCur_map l qs (Nat.succ.inj h))

theorem refill_queues : ∀ qs : List Table,
    (qs.map (MStream.mk · [])).filterMap refill = (qs.filter (fun q => !q.isEmpty)).map (MStream.mk · [])
  | [] => rfl
  | [] :: qs => refill_queues qs
  | (a :: t) :: qs => congrArg (MStream.mk (a :: t) [] :: ·) (refill_queues qs)

theorem queue_rows : ∀ qs : List Table, (qs.map (MStream.mk · [])).flatMap MStream.rows = qs.flatten
  | [] => rfl
  | q :: qs => congr (congrArg _ (append_nil q)) (queue_rows qs)

theorem queue_pending : ∀ qs : List Table, pending (qs.map (MStream.mk · [])) = 0
  | [] => rfl
  | _ :: qs => (Nat.zero_add _).trans (queue_pending qs)

theorem fresh_rows (sa : List (List Table)) :
    (sa.map (fun s => ({ rest := s } : MStream))).flatMap MStream.rows = (sa.map List.flatten).flatten := by
  rw [flatMap_def, map_map]; rfl

theorem mergerRun_eq_msRun (less : Row → Row → Bool) (limit fuel : Nat) : ∀ s : MergerSt,
    (mergerRun less limit fuel s).2 = msRun less (some limit) fuel (s.queues.map (MStream.mk · [])) s.numReturned := by
  induction fuel with
  | zero => intro _; rfl
  | succ fuel ih =>
    intro s
    rw [mergerRun, msRun, refill_queues, map_map, isEmpty_map]
    generalize s.queues.filter (fun q => !q.isEmpty) = live
    rw [show map ((·.cur) ∘ (MStream.mk · [])) live = live from map_id live]
    by_cases hemp : live.isEmpty = true
    · rw [if_pos hemp, if_pos hemp]
    · rw [if_neg hemp, if_neg hemp]
      have hlen := mergeRound_length less (totalLen live + 1) live
      generalize mergeRound less (totalLen live + 1) live = r at hlen
      dsimp only
      rw [zipWith_setCur_map live r.2 hlen.symm, Option.map_some]
      by_cases hz : limit - s.numReturned = 0
      · rw [if_pos hz, if_pos (congrArg some hz)]
      · rw [if_neg hz, if_neg (fun h => hz (Option.some.inj h))]
        exact congrArg (_ :: ·) (ih _)

/-! ### rounds of MergeIQRs over the streams -/

section merge
variable {le less : Row → Row → Bool}
variable (htr : ∀ a b c : Row, le a b = true → le b c = true → le a c = true) (htot : ∀ a b : Row, (le a b || le b a) = true)
variable (hl : ∀ a b : Row, less a b = !le b a)
include htr htot hl

omit htot hl in
/-- why MergeIQRs ends its round as soon as a batch is drained: a stream without a head could still hold a row that sorts
before the least head -/
theorem least_head {live : List MStream} (hs : ∀ s, s ∈ live → s.rows.Pairwise (fun a b => le a b = true))
    (hne : ∀ s, s ∈ live → s.cur ≠ []) {h : Row}
    (hmin : ∀ z, z ∈ (live.map (·.cur)).filterMap head? → le h z = true) :
    ∀ y, y ∈ live.flatMap MStream.rows → le h y = true := by
  intro y hy
  obtain ⟨s, hsl, hys⟩ := mem_flatMap.mp hy
  have hsr := hs s hsl
  unfold MStream.rows at hys hsr
  cases hc : s.cur with
  | nil => exact absurd hc (hne s hsl)
  | cons z q =>
    have hz : le h z = true := hmin z (mem_filterMap.mpr ⟨z :: q, mem_map.mpr ⟨s, hsl, hc⟩, rfl⟩)
    rw [hc] at hys hsr
    rcases mem_cons.mp hys with rfl | hyt
    · exact hz
    · exact htr _ _ _ hz (rel_of_pairwise_cons hsr hyt)

theorem msRound_spec (fuel : Nat) : ∀ (live : List MStream), (∀ s, s ∈ live → s.rows.Pairwise (fun a b => le a b = true)) →
    AS le (live.flatMap MStream.rows) →
    ∃ next : List MStream, next.map (·.cur) = (mergeRound less fuel (live.map (·.cur))).2 ∧
      next.map (·.rest) = live.map (·.rest) ∧
      (live.flatMap MStream.rows).mergeSort le
        = (mergeRound less fuel (live.map (·.cur))).1 ++ (next.flatMap MStream.rows).mergeSort le ∧
      ∀ s, s ∈ next → s.rows.Pairwise (fun a b => le a b = true) := by
  induction fuel with
  | zero => exact fun live hs _ => ⟨live, rfl, rfl, rfl, hs⟩
  | succ fuel ih =>
    intro live hs as
    rw [mergeRound]
    split
    · exact ⟨live, rfl, rfl, rfl, hs⟩
    next hany =>
      split
      · exact ⟨live, rfl, rfl, rfl, hs⟩
      next i h hm =>
        have hne : ∀ s, s ∈ live → s.cur ≠ [] := fun s hs e =>
          hany (any_eq_true.mpr ⟨s.cur, mem_map_of_mem hs, isEmpty_iff.mpr e⟩)
        obtain ⟨hi, hmin⟩ := indexOfMin_spec htr htot hl hm
        have hle := least_head htr hs hne hmin
        -- `s`: the stream the head is taken from
        obtain ⟨a, s, t, b, rfl, hc, hd⟩ := pick (·.cur) live i h hne hi
        have hrows : s.rows = h :: (setCur s t).rows := congrArg (· ++ s.rest.flatten) hc
        have p : h :: (a ++ setCur s t :: b).flatMap MStream.rows ~ (a ++ s :: b).flatMap MStream.rows := by
          rw [flatMap_append, flatMap_append, flatMap_cons, flatMap_cons, hrows, cons_append]
          exact perm_middle.symm
        -- so `h` heads the merge
        have he := mergeSort_eq_append htr htot as p (pairwise_singleton _ _) fun x hx y hy =>
          mem_singleton.mp hx ▸ hle y (p.subset (mem_cons_of_mem _ hy))
        obtain ⟨ha, hsb⟩ := forall_mem_append.mp hs
        obtain ⟨h0, hb⟩ := forall_mem_cons.mp hsb
        obtain ⟨next, hc2, hr2, he2, hs2⟩ := ih (a ++ setCur s t :: b)
          (forall_mem_append.mpr ⟨ha, forall_mem_cons.mpr ⟨(hrows ▸ h0).tail, hb⟩⟩) (as.of_sort_eq he)
        rw [map_append, map_cons] at hc2 he2
        rw [hd]
        exact ⟨next, hc2, hr2.trans (map_append.trans (map_append (l₂ := s :: b)).symm),
          he.trans (congrArg (h :: ·) he2), hs2⟩

/-- `msRun_spec` under the fuel that is really needed (rows + batches not yet fetched: every round merges a row or has
fetched a batch); in this form it also serves the merger, whose streams have no batch to fetch -/
theorem msRun_spec_aux (limit : Option Nat) (fuel : Nat) : ∀ (ss : List MStream) (n : Nat),
    (∀ s, s ∈ ss → s.rows.Pairwise (fun a b => le a b = true)) → AS le (ss.flatMap MStream.rows) →
    (ss.flatMap MStream.rows).length + pending ss < fuel →
    (msRun less limit fuel ss n).flatten = takeOpt (limit.map (· - n)) ((ss.flatMap MStream.rows).mergeSort le) := by
  induction fuel with
  | zero => exact fun _ _ _ _ hf => absurd hf (Nat.not_lt_zero _)
  | succ fuel ih =>
    intro ss n hs as hf
    obtain ⟨hrows, hp, hp'⟩ := refill_all ss
    have hs' : ∀ s, s ∈ ss.filterMap refill → s.rows.Pairwise (fun a b => le a b = true) := fun s' h' => by
      obtain ⟨s, h, hr⟩ := mem_filterMap.mp h'
      exact (refill_some hr).1 ▸ hs s h
    rw [msRun, ← hrows]
    rw [← hrows] at as hf
    generalize ss.filterMap refill = live at hp hp' hs' as hf
    by_cases hemp : live.isEmpty = true
    · rw [if_pos hemp, isEmpty_iff.mp hemp, flatMap_nil, mergeSort_nil, takeOpt_nil]; rfl
    · rw [if_neg hemp]
      obtain ⟨next, hc, hr, he, hsn⟩ := msRound_spec htr htot hl (totalLen (live.map (·.cur)) + 1) live hs' as
      have hout := hp'.imp_right fun h => length_pos_iff.mpr (mergeRound_progress less (totalLen (live.map (·.cur)))
        (mt map_eq_nil_iff.mp (mt isEmpty_iff.mpr hemp)) h)
      generalize mergeRound less _ (live.map (·.cur)) = r at hc he hout
      dsimp only
      rw [← hc, show zipWith _ live _ = next from zipWith_setCur hr, he]
      by_cases hz : limit.map (· - n) = some 0
      · rw [if_pos hz, hz]; rfl
      · have hlen := congrArg length he
        rw [length_mergeSort, length_append, length_mergeSort] at hlen
        have hmeas : (next.flatMap MStream.rows).length + pending next < fuel := by
          rw [show pending next = pending live from congrArg (fun l => (l.map length).sum) hr]
          refine Nat.lt_of_lt_of_le ?_ (Nat.le_of_lt_succ hf)
          rw [hlen]
          rcases hout with h | h
          · exact Nat.lt_of_lt_of_le (Nat.add_lt_add_left h _) (Nat.add_le_add_right (Nat.le_add_left ..) _)
          · exact Nat.lt_of_le_of_lt (Nat.add_le_add_left hp _) (Nat.add_lt_add_right (Nat.lt_add_of_pos_left h) _)
        rw [if_neg hz, flatten_cons, ih next _ hsn (as.of_sort_eq he) hmeas]
        cases limit with
        | none => rfl
        | some l => exact (SigModel.Lemmas.C06.take_sub_append l n r.1 _).symm

theorem msRun_spec (limit : Option Nat) (fuel : Nat) (ss : List MStream) (numReturned : Nat)
    (hs : ∀ s, s ∈ ss → s.rows.Pairwise (fun a b => le a b = true))
    (as : AS le (ss.flatMap MStream.rows))
    (hf : (ss.map (fun s => s.rows.length + s.rest.length + 1)).sum < fuel) :
    (msRun less limit fuel ss numReturned).flatten
      = takeOpt (limit.map (· - numReturned)) ((ss.flatMap MStream.rows).mergeSort le) := by
  refine msRun_spec_aux htr htot hl limit fuel ss numReturned hs as (Nat.lt_of_le_of_lt ?_ hf)
  clear hf hs as
  induction ss with
  | nil => exact Nat.le_refl _
  | cons s ss ih =>
    rw [flatMap_cons, length_append, map_cons, sum_cons]
    exact Nat.le_trans (Nat.le_of_eq (Nat.add_add_add_comm _ _ s.rest.length (pending ss)))
      (Nat.add_le_add (Nat.le_succ _) ih)

theorem mergerRun_spec (limit fuel : Nat) (s : MergerSt)
    (hs : ∀ q, q ∈ s.queues → q.Pairwise (fun a b => le a b = true)) (as : AS le s.queues.flatten)
    (hf : totalLen s.queues < fuel) :
    (mergerRun less limit fuel s).2.flatten = (s.queues.flatten.mergeSort le).take (limit - s.numReturned) := by
  rw [mergerRun_eq_msRun, msRun_spec_aux htr htot hl (some limit) fuel _ _ ?_ (queue_rows _ ▸ as) ?_, queue_rows]
  · rfl
  · intro s hm
    obtain ⟨q, hq, rfl⟩ := mem_map.mp hm
    exact (congrArg (Pairwise _) (append_nil q)).mpr (hs q hq)
  · rw [queue_rows, queue_pending, length_flatten]; exact hf

theorem mergerBatches_spec (limit : Nat) (qs : List Table)
    (hs : ∀ q, q ∈ qs → q.Pairwise (fun a b => le a b = true)) (as : AS le qs.flatten) :
    (mergerBatches less limit qs).flatten = sortL le limit qs.flatten :=
  mergerRun_spec htr htot hl limit _ { queues := qs } hs as
    (Nat.lt_of_le_of_lt (Nat.le_add_right ..) (Nat.lt_add_of_pos_right (Nat.succ_pos 1)))

theorem parallel_sort_merge (limit : Nat) (shs : List Table) (as : AS le shs.flatten) :
    (mergerBatches less limit (shs.map (sortL le limit))).flatten = sortL le limit shs.flatten := by
  rw [mergerBatches_spec htr htot hl limit _ ?_ (as.mono (flatten_map_sortL_subset le limit shs)),
    sortL_flatten_map htr htot limit shs as]
  intro q hq
  obtain ⟨q0, -, rfl⟩ := mem_map.mp hq
  exact (pairwise_mergeSort htr htot q0).sublist (take_sublist ..)

theorem msRun_fresh (limit : Option Nat) (sx : List (List Table))
    (hs : ∀ s, s ∈ sx → s.flatten.Pairwise (fun a b => le a b = true)) (as : AS le (sx.map List.flatten).flatten) :
    (msRun less limit (msFuel (sx.map (fun s => { rest := s }))) (sx.map (fun s => { rest := s })) 0).flatten
      = takeOpt limit ((sx.map List.flatten).flatten.mergeSort le) := by
  rw [← fresh_rows]
  refine (msRun_spec htr htot hl limit _ _ 0 (fun s hm => ?_) (fresh_rows sx ▸ as) (Nat.lt_succ_self _)).trans ?_
  · obtain ⟨s0, hs0, rfl⟩ := mem_map.mp hm
    exact hs s0 hs0
  · cases limit <;> rfl

theorem msRun_batches_irrelevant (limit : Option Nat) (sa sb : List (List Table))
    (hp : (sa.map List.flatten).flatten ~ (sb.map List.flatten).flatten)
    (hsa : ∀ s, s ∈ sa → s.flatten.Pairwise (fun a b => le a b = true))
    (hsb : ∀ s, s ∈ sb → s.flatten.Pairwise (fun a b => le a b = true))
    (as : AS le (sa.map List.flatten).flatten) :
    (msRun less limit (msFuel (sa.map (fun s => { rest := s }))) (sa.map (fun s => { rest := s })) 0).flatten
      = (msRun less limit (msFuel (sb.map (fun s => { rest := s }))) (sb.map (fun s => { rest := s })) 0).flatten := by
  rw [msRun_fresh htr htot hl limit sa hsa as, msRun_fresh htr htot hl limit sb hsb (as.mono hp.symm.subset),
    mergeSort_perm_eq htr htot as hp]

end merge

/-! ### the fast path (fetchFromAnyStream) -/

theorem modify_tail_perm (qs : List (List α)) : ∀ (i : Nat) (h : α) (t : List α), qs[i]? = some (h :: t) →
    qs.flatten ~ h :: (qs.modify i List.tail).flatten := by
  induction qs with
  | nil => intro _ _ _ e; cases e
  | cons q qs ih =>
    intro i h t e
    cases i with
    | zero => cases e; exact Perm.refl _
    | succ i => exact ((ih i h t e).append_left q).trans perm_middle

theorem anyRun_perm (fuel : Nat) : ∀ (sched : List Nat) (ss : List (List Table)), (ss.map List.length).sum < fuel →
    (anyRun fuel sched ss).flatten ~ ss.flatten.flatten := by
  induction fuel with
  | zero => intro _ _ h; exact absurd h (Nat.not_lt_zero _)
  | succ fuel ih =>
    intro sched ss hf
    have hall : [] ∉ ss.filter (fun s => !s.isEmpty) := fun h => nomatch (mem_filter.mp h).2
    rw [← length_flatten, ← flatten_filter_not_isEmpty (L := ss)] at hf
    rw [anyRun, ← flatten_filter_not_isEmpty (L := ss)]
    generalize ss.filter (fun s => !s.isEmpty) = live at hall hf
    by_cases hemp : live.isEmpty = true
    · rw [if_pos hemp, isEmpty_iff.mp hemp]; exact Perm.refl _
    · rw [if_neg hemp]
      have hi : sched.headD 0 % live.length < live.length :=
        Nat.mod_lt _ (length_pos_iff.mpr (fun e => hemp (e ▸ rfl)))
      generalize sched.headD 0 % live.length = i at hi
      dsimp only
      rw [getElem?_eq_getElem hi]
      cases hq : live[i] with
      | nil => exact absurd (hq ▸ getElem_mem hi) hall
      | cons b t =>
        have hp := modify_tail_perm live i b t (hq ▸ getElem?_eq_getElem hi)
        rw [hp.length_eq, length_cons, length_flatten] at hf
        exact ((ih sched.tail _ (Nat.lt_of_succ_lt_succ hf)).append_left b).trans hp.flatten.symm
end SigModel.Lemmas.C06MS
