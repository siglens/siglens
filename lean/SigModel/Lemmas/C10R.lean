/-
C10 slice "walrecover": proofs about Model/WalRecover.lean, for RecoverWALData as it was before the repairs (`groupsOld`,
`recoverOld`).  The names the writer gives its WAL files parse back; the writer keeps `Inv` (its WAL files are those of
the indices 0..walIdx of the open block), so its directory forms one group; `R` ties the writer's state to the
specification, and through it a recovery that replays the logged datapoints of the open block is exact.  With at most
ten WAL files the directory order is the creation order; `h11` is a history with thirteen.
-/
import SigModel.Model.WalRecover
import SigModel.Lemmas.Assoc
import SigModel.Lemmas.Split
import SigModel.Lemmas.InsertSort
namespace SigModel.Lemmas.C10R
open SigModel.Wal (Dp)
open SigModel.WalRecover SigModel.Assoc

/-- guard of `recover_exact`: the WAL indices of the open block have one digit -/
def fewWalFiles (cap shard : Nat) (h : List Op) : Prop := (run cap shard h).walIdx < 10
instance (cap shard : Nat) (h : List Op) : Decidable (fewWalFiles cap shard h) := by unfold fewWalFiles; infer_instance

def openKey (cap shard : Nat) (h : List Op) : Key := (dec shard, (run cap shard h).seg, (run cap shard h).blkNum)

theorem iteInduction₂ {α β : Sort _} {r : α → β → Prop} {c d : Prop} [Decidable c] [Decidable d] {a b : α} {x y : β}
    (hcd : c ↔ d) (h1 : c → r a x) (h2 : ¬ c → r b y) : r (if c then a else b) (if d then x else y) :=
  iteInduction (motive := (r · _)) (fun h => if_pos (hcd.mp h) ▸ h1 h) fun h => if_neg (mt hcd.mpr h) ▸ h2 h

theorem splitU_eq (s : List Char) : splitU s = s.splitOn '_' :=
  Split.eq_splitOn rfl (fun _ _ _ h => by simp [splitU, h]) (fun _ _ _ _ hc h => by simp [splitU, hc, h]) s

theorem dec_noU (n : Nat) : '_' ∉ dec n := Nat.underscore_not_in_toDigits

theorem parseUint_dec (n : Nat) (h : n < 18446744073709551616) : parseUint (dec n) = some n := by
  unfold parseUint
  have h1 : dec n ≠ [] := Nat.toDigits_ne_nil
  have h2 : (dec n).all Char.isDigit = true := by
    rw [List.all_eq_true]
    intro c hc
    exact Nat.isDigit_of_mem_toDigits (by decide) (by decide) hc
  have h3 : Nat.ofDigitChars 10 (dec n) 0 = n := Nat.ofDigitChars_ten_toDigits
  simp [h1, h2, h3, h]

/-- Evaluations of `render` go through this form (rewritten in front of `decide +kernel`): string literals are slow to
evaluate in the kernel. -/
theorem render_eq (f : WalName) :
    render f = ['s','h','a','r','d','I','D'] ++ '_' :: (dec f.shard ++ '_' :: (['s','e','g','I','D'] ++ '_' :: (dec f.seg ++ '_' ::
      (['b','l','o','c','k','I','D'] ++ '_' :: (dec f.blk ++ '_' :: (dec f.idx ++ ['.','w','a','l']))))))  := by
  unfold render
  rw [String.toList_ofList, String.toList_ofList, String.toList_ofList, String.toList_ofList]
  simp only [List.append_assoc]
  rfl

theorem parseName_render (f : WalName) (hs : f.seg < 18446744073709551616) (hb : f.blk < 18446744073709551616) :
    parseName (render f) = some { mId := dec f.shard, seg := f.seg, blk := f.blk,
                                  key := dec f.shard ++ '_' :: (dec f.seg ++ '_' :: dec f.blk) } := by
  unfold parseName
  -- the first six pieces are cut off one by one; what comes behind them is not looked at
  rw [render_eq, splitU_eq,
    List.splitOn_append_cons_self_of_not_mem (by decide +kernel), List.splitOn_append_cons_self_of_not_mem (dec_noU _),
    List.splitOn_append_cons_self_of_not_mem (by decide +kernel), List.splitOn_append_cons_self_of_not_mem (dec_noU _),
    List.splitOn_append_cons_self_of_not_mem (by decide +kernel), List.splitOn_append_cons_self_of_not_mem (dec_noU _)]
  simp only [parseUint_dec _ hs, parseUint_dec _ hb]

structure Inv (shard : Nat) (st : WState) : Prop where
  shard : st.shard = shard
  wseg : st.walSeg = st.seg
  wblk : st.walBlk = st.blkNum
  names : st.files.map (·.1) =
    (List.range (st.walIdx + 1)).map (fun i => ({ shard := st.shard, seg := st.seg, blk := st.blkNum, idx := i } : WalName))

theorem appendLast_names (b : Block) (l : List (WalName × List Block)) :
    (appendLast b l).map (·.1) = l.map (·.1) := by
  induction l with
  | nil => rfl
  | cons f r ih =>
    cases r with
    | nil => rfl
    | cons g r => simp only [appendLast, List.map_cons] at ih ⊢; rw [ih]

theorem inv_init (shard : Nat) : Inv shard (WState.init shard) := ⟨rfl, rfl, rfl, rfl⟩

theorem names_rotateWAL (b : Block) {fs : List (WalName × List Block)} {mk : Nat → WalName} {n : Nat}
    (h : fs.map (·.1) = (List.range (n + 1)).map mk) :
    (appendLast b fs ++ [(mk (n + 1), ([] : List Block))]).map (·.1) = (List.range (n + 1 + 1)).map mk := by
  rw [List.range_succ, List.map_append, List.map_append, appendLast_names, h]
  rfl

theorem inv_appendBuf (roll : Bool) {s : Nat} (st : WState) (h : Inv s st) : Inv s (appendBuf roll st) := by
  obtain ⟨h0, h1, h2, h3⟩ := h
  -- on a constructor, with `walSeg`, `walBlk` identified with `seg`, `blkNum`, the fields are read off by `rfl`
  cases st
  cases h1
  cases h2
  cases roll
  · exact ⟨h0, rfl, rfl, (appendLast_names _ _).trans h3⟩
  · exact ⟨h0, rfl, rfl, names_rotateWAL _ h3⟩

theorem inv_rotateBlock {s : Nat} (st : WState) (h : Inv s st) : Inv s (rotateBlock st) := by
  obtain ⟨h0, h1, h2, _⟩ := h
  cases st
  cases h1
  cases h2
  exact ⟨h0, rfl, rfl, rfl⟩

theorem inv_rotateSegment {s : Nat} (st : WState) (h : Inv s st) : Inv s (rotateSegment st) := ⟨h.shard, rfl, rfl, rfl⟩

def ingest0 (name : Nat) (st : WState) : WState :=
  if st.mNames.contains name then st
  else { st with mNames := st.mNames ++ [name], pendNames := st.pendNames ++ [name] }
def ingest1 (d : Dp) (st0 : WState) : WState :=
  { st0 with cur := st0.cur ++ [d], segHasData := true, dpCount := st0.dpCount + 1 }
def ingest2 (cap : Nat) (roll : Bool) (st1 : WState) : WState :=
  if cap ≤ st1.buf.length then appendBuf roll st1 else st1
def ingest3 (d : Dp) (st2 : WState) : WState := { st2 with buf := st2.buf ++ [d] }

theorem step_ingest (cap : Nat) (st : WState) (name : Nat) (d : Dp) (roll : Bool) :
    step cap st (.ingest name d roll) = ingest3 d (ingest2 cap roll (ingest1 d (ingest0 name st))) := by
  unfold ingest3 ingest2 ingest1 ingest0
  rfl

theorem inv_ingest0 (name : Nat) {s : Nat} (st : WState) (h : Inv s st) : Inv s (ingest0 name st) :=
  iteInduction (fun _ => h) fun _ => ⟨h.1, h.2, h.3, h.4⟩
theorem inv_ingest1 (d : Dp) {s : Nat} (st : WState) (h : Inv s st) : Inv s (ingest1 d st) := ⟨h.1, h.2, h.3, h.4⟩
theorem inv_ingest2 (cap : Nat) (roll : Bool) {s : Nat} (st : WState) (h : Inv s st) : Inv s (ingest2 cap roll st) :=
  iteInduction (fun _ => inv_appendBuf _ _ h) fun _ => h
theorem inv_ingest3 (d : Dp) {s : Nat} (st : WState) (h : Inv s st) : Inv s (ingest3 d st) := ⟨h.1, h.2, h.3, h.4⟩

theorem inv_step (cap : Nat) {s : Nat} (st : WState) (op : Op) (h : Inv s st) : Inv s (step cap st op) := by
  cases op with
  | ingest name d roll =>
    rw [step_ingest]
    exact inv_ingest3 _ _ (inv_ingest2 _ _ _ (inv_ingest1 _ _ (inv_ingest0 _ _ h)))
  | walFlush roll => exact iteInduction (fun _ => h) fun _ => inv_appendBuf _ _ h
  | blockRotate => exact iteInduction (fun _ => h) fun _ => inv_rotateBlock _ h
  | segRotate =>
    exact iteInduction (fun _ => h) fun _ =>
      inv_rotateSegment _ (iteInduction (motive := Inv s) (fun _ => h) fun _ => inv_rotateBlock _ h)
  | nameFlush => exact iteInduction (fun _ => h) fun _ => ⟨h.1, h.2, h.3, h.4⟩

theorem shard_rotateBlock (st : WState) : (rotateBlock st).shard = st.shard := by cases st; rfl

theorem inv_runFrom (cap : Nat) (h : List Op) {s : Nat} : ∀ st, Inv s st → Inv s (runFrom cap st h) := by
  induction h with
  | nil => exact fun _ hst => hst
  | cons op h ih => exact fun st hst => ih _ (inv_step cap st op hst)

theorem inv_run (cap shard : Nat) (h : List Op) : Inv shard (run cap shard h) := inv_runFrom cap h _ (inv_init shard)
theorem shard_run (cap shard : Nat) (h : List Op) : (run cap shard h).shard = shard := (inv_run cap shard h).shard

theorem addFile_keys (i : Info) (f : RawFile) (acc : List Group) :
    (addFile i f acc).map (fun g => g.info.key) =
      if i.key ∈ acc.map (fun g => g.info.key) then acc.map (fun g => g.info.key)
      else acc.map (fun g => g.info.key) ++ [i.key] := by
  induction acc with
  | nil => exact (if_neg List.not_mem_nil).symm
  | cons g gs ih =>
    by_cases hg : g.info.key = i.key
    · rw [addFile, if_pos hg]
      exact (if_pos (hg ▸ List.mem_cons_self)).symm
    · rw [addFile, if_neg hg, List.map_cons, List.map_cons, ih, apply_ite (List.cons g.info.key)]
      exact ite_cond_congr (propext ⟨List.mem_cons_of_mem _, fun h => (List.mem_cons.mp h).resolve_left (Ne.symm hg)⟩)

theorem addFile_nodup (i : Info) (f : RawFile) (acc : List Group)
    (h : (acc.map (fun g => g.info.key)).Nodup) : ((addFile i f acc).map (fun g => g.info.key)).Nodup := by
  rw [addFile_keys]
  exact iteInduction (fun _ => h) fun hn => List.nodup_append.mpr
    ⟨h, List.pairwise_singleton _ _, fun a ha b hb e => hn ((e.trans (List.mem_singleton.mp hb)) ▸ ha)⟩

theorem groupsOfSorted_nodup (l : RawDir) : ∀ acc : List Group,
    (acc.map (fun g => g.info.key)).Nodup → ((groupsOfSorted l acc).map (fun g => g.info.key)).Nodup := by
  induction l with
  | nil => intro acc h; exact h
  | cons f fs ih =>
    intro acc h
    unfold groupsOfSorted
    split
    · exact ih _ h
    · exact ih _ (addFile_nodup _ _ _ h)

theorem groups_keys_nodup (d : RawDir) : ((groupsOld d).map (fun g => g.info.key)).Nodup :=
  groupsOfSorted_nodup _ _ (by simp)

theorem recover_length_le (d : RawDir) : (recoverOld d).length ≤ (groupsOld d).length :=
  List.length_filterMap_le _ _

theorem groupsOfSorted_same_acc (i : Info) (l : RawDir) (hl : ∀ f ∈ l, parseName f.1 = some i) :
    ∀ fs : List RawFile, groupsOfSorted l [{ info := i, files := fs }] = [{ info := i, files := fs ++ l }] := by
  induction l with
  | nil => intro fs; rw [groupsOfSorted, List.append_nil]
  | cons f l ih =>
    intro fs
    rw [groupsOfSorted, hl f List.mem_cons_self]
    show groupsOfSorted l (addFile i f [{ info := i, files := fs }]) = _
    rw [addFile, if_pos rfl, ih (fun g hg => hl g (List.mem_cons_of_mem _ hg)), List.append_assoc]
    rfl

theorem groupsOfSorted_same (i : Info) (f : RawFile) (l : RawDir) (hl : ∀ g ∈ f :: l, parseName g.1 = some i) :
    groupsOfSorted (f :: l) [] = [{ info := i, files := f :: l }] := by
  rw [groupsOfSorted, hl f List.mem_cons_self]
  exact groupsOfSorted_same_acc i l (fun g hg => hl g (List.mem_cons_of_mem _ hg)) [f]

theorem insertsName : InsertSort.Inserts (fun x y : RawFile => lexLt y.1 x.1) insertByName :=
  ⟨fun _ => rfl, fun _ _ _ => rfl⟩

theorem perm_readDir (d : RawDir) : (readDir d).Perm d :=
  InsertSort.SortsBy.perm ⟨rfl, fun _ _ => rfl⟩ insertsName d

theorem lexLt_prefix (p a b : List Char) : lexLt (p ++ a) (p ++ b) = lexLt a b := by
  induction p with
  | nil => rfl
  | cons c p ih => simp [lexLt, ih]

theorem readDir_sorted (d : RawDir) (h : d.Pairwise (fun x y => lexLt y.1 x.1 = false)) : readDir d = d := by
  induction d with
  | nil => rfl
  | cons x d ih =>
    rw [List.pairwise_cons] at h
    rw [show readDir (x :: d) = insertByName x (readDir d) from rfl, ih h.2]
    cases d with
    | nil => rfl
    | cons y ys => exact if_neg (Bool.eq_false_iff.mp (h.1 y List.mem_cons_self))

theorem lexLt_digit (p q : List Char) (c : Char) {i j : Nat} (hij : i < j) (hj : j < 10) :
    lexLt (p ++ c :: (dec j ++ q)) (p ++ c :: (dec i ++ q)) = false := by
  have hi : i < 10 := Nat.lt_trans hij hj
  have hlt : (Nat.digitChar i).toNat < (Nat.digitChar j).toNat := by
    rw [Nat.toNat_digitChar_of_lt_ten hi, Nat.toNat_digitChar_of_lt_ten hj]
    exact Nat.add_lt_add_left hij 48
  rw [lexLt_prefix, show dec i = [Nat.digitChar i] from Nat.toDigits_of_lt_base hi,
    show dec j = [Nat.digitChar j] from Nat.toDigits_of_lt_base hj]
  exact (lexLt_prefix [c] _ _).trans ((if_neg (Nat.lt_asymm hlt)).trans (if_pos hlt))

def infoOf (st : WState) : Info :=
  { mId := dec st.shard, seg := st.seg, blk := st.blkNum, key := dec st.shard ++ '_' :: (dec st.seg ++ '_' :: dec st.blkNum) }

theorem files_ne_nil {s : Nat} (st : WState) (hinv : Inv s st) : st.files ≠ [] := by
  intro e
  have := congrArg List.length hinv.names
  simp [e] at this

theorem parse_rawOf {s : Nat} (st : WState) (hinv : Inv s st) (hs : st.seg < 18446744073709551616)
    (hb : st.blkNum < 18446744073709551616) : ∀ f ∈ rawOf st.files, parseName f.1 = some (infoOf st) := by
  intro f hf
  obtain ⟨g, hg, rfl⟩ := List.mem_map.mp hf
  have hn : g.1 ∈ st.files.map (·.1) := List.mem_map_of_mem hg
  rw [hinv.names, List.mem_map] at hn
  obtain ⟨i, _, e⟩ := hn
  show parseName (render g.1) = _
  rw [← e]
  exact parseName_render _ hs hb

theorem groups_writer {s : Nat} (st : WState) (hinv : Inv s st) (hs : st.seg < 18446744073709551616)
    (hb : st.blkNum < 18446744073709551616) :
    groupsOld (rawOf st.files) = [{ info := infoOf st, files := readDir (rawOf st.files) }] := by
  have hp : ∀ f ∈ readDir (rawOf st.files), parseName f.1 = some (infoOf st) :=
    fun f hf => parse_rawOf st hinv hs hb f ((perm_readDir _).mem_iff.mp hf)
  unfold groupsOld
  cases hr : readDir (rawOf st.files) with
  | nil =>
    exact absurd (List.map_eq_nil_iff.mp (hr ▸ perm_readDir (rawOf st.files)).nil_eq.symm) (files_ne_nil st hinv)
  | cons f l => exact groupsOfSorted_same _ f l (hr ▸ hp)

theorem rawOf_pairwise {s : Nat} (st : WState) (hinv : Inv s st) (r : Name → Name → Prop)
    (hr : ∀ i j, i < j → j ≤ st.walIdx → r (render { shard := st.shard, seg := st.seg, blk := st.blkNum, idx := i })
      (render { shard := st.shard, seg := st.seg, blk := st.blkNum, idx := j })) :
    (rawOf st.files).Pairwise (fun x y => r x.1 y.1) := by
  have h2 : (st.files.map (·.1)).Pairwise (fun a b => r (render a) (render b)) := by
    rw [hinv.names]
    exact (List.pairwise_lt_range.imp_of_mem fun _ hb hab =>
      hr _ _ hab (Nat.le_of_lt_succ (List.mem_range.mp hb))).map _ fun _ _ h => h
  -- from the names to the files, from the files to their `rawOf`: the relations agree by unfolding
  exact (h2.of_map _ fun _ _ h => h).map _ fun _ _ h => h

theorem readDir_writer {s : Nat} (st : WState) (hinv : Inv s st) (hfew : st.walIdx < 10) :
    readDir (rawOf st.files) = rawOf st.files :=
  readDir_sorted _ (rawOf_pairwise st hinv (fun a b => lexLt b a = false)
    (fun _ _ hij hj => lexLt_digit _ _ _ hij (Nat.lt_of_le_of_lt hj hfew)))

def logged (st : WState) : List Dp := st.files.flatMap (fun f => f.2.flatten)

theorem flatMap_rawOf (fs : List (WalName × List Block)) : (rawOf fs).flatMap fileDps = fs.flatMap (fun f => f.2.flatten) := by
  simp [rawOf, List.flatMap_map, fileDps]

def curKey (st : WState) : Key := (dec st.shard, st.seg, st.blkNum)

/-- RecoverWALData on one group: one flushBlock iff a datapoint was replayed -/
def flushIfAny (k : Key) (X : List Dp) : List (Key × List Dp) := if X.isEmpty then [] else [(k, X)]

theorem flushIfAny_only (k : Key) (X : List Dp) : (flushIfAny k X).length ≤ 1 ∧ ∀ kv ∈ flushIfAny k X, kv.1 = k := by
  unfold flushIfAny
  split
  · exact ⟨Nat.zero_le _, fun _ h => absurd h List.not_mem_nil⟩
  · exact ⟨Nat.le_refl _, fun _ h => List.mem_singleton.mp h ▸ rfl⟩

theorem recover_writer {s : Nat} (st : WState) (hinv : Inv s st) (hs : st.seg < 18446744073709551616)
    (hb : st.blkNum < 18446744073709551616) :
    recoverOld (rawOf st.files) = flushIfAny (curKey st) ((readDir (rawOf st.files)).flatMap fileDps) := by
  unfold recoverOld flushIfAny
  rw [groups_writer st hinv hs hb]
  split
  · exact List.filterMap_cons_none (if_pos ‹_›)
  · exact List.filterMap_cons_some (if_neg ‹_›)

theorem recover_writer_few {s : Nat} (st : WState) (hinv : Inv s st) (hfew : st.walIdx < 10) (hs : st.seg < 18446744073709551616)
    (hb : st.blkNum < 18446744073709551616) :
    recoverOld (rawOf st.files) = flushIfAny (curKey st) (logged st) := by
  rw [recover_writer st hinv hs hb, readDir_writer st hinv hfew, flatMap_rawOf]
  rfl

theorem recover_only_open_block (cap shard : Nat) (h : List Op)
    (hs : (run cap shard h).seg < 18446744073709551616) (hb : (run cap shard h).blkNum < 18446744073709551616) :
    (recoverOld (dirAfter cap shard h)).length ≤ 1 ∧ ∀ kv ∈ recoverOld (dirAfter cap shard h), kv.1 = openKey cap shard h := by
  have hk : openKey cap shard h = curKey (run cap shard h) := by rw [openKey, curKey, shard_run]
  rw [dirAfter, recover_writer _ (inv_run cap shard h) hs hb, hk]
  exact flushIfAny_only _ _

theorem isGet_lookup : IsGet lookup id [] := ⟨fun _ => rfl, fun _ _ _ => if_pos rfl, fun _ _ _ _ h => if_neg h⟩

theorem isPut_flushTo : IsPut flushTo := ⟨fun _ _ => rfl, fun _ _ _ _ => if_pos rfl, fun _ _ _ _ _ h => if_neg h⟩

theorem lookup_flushTo_self (k : Key) (v : List Dp) (d : Disk) : lookup k (flushTo k v d) = v :=
  isGet_lookup.put_self isPut_flushTo k v d

theorem lookup_flushTo_ne (k k' : Key) (v : List Dp) (d : Disk) (hne : k' ≠ k) :
    lookup k' (flushTo k v d) = lookup k' d :=
  isGet_lookup.put_ne isPut_flushTo hne v d

def blockOf (done : List (Key × Dp)) (k : Key) : List Dp := (done.filter (fun e => e.1 = k)).map (·.2)

theorem blockOf_append (a b : List (Key × Dp)) (k : Key) : blockOf (a ++ b) k = blockOf a k ++ blockOf b k := by
  simp [blockOf]

theorem blockOf_all (l : List (Key × Dp)) (k : Key) (h : ∀ e ∈ l, e.1 = k) : blockOf l k = l.map (·.2) := by
  unfold blockOf
  rw [List.filter_eq_self.mpr]
  intro e he; simp [h e he]

theorem blockOf_none (l : List (Key × Dp)) (k : Key) (h : ∀ e ∈ l, e.1 ≠ k) : blockOf l k = [] := by
  unfold blockOf
  rw [List.filter_eq_nil_iff.mpr]
  · rfl
  · intro e he; simp [h e he]

def older (st : WState) (k : Key) : Prop :=
  k.1 = dec st.shard ∧ (k.2.1 < st.seg ∨ (k.2.1 = st.seg ∧ k.2.2 < st.blkNum))

theorem not_older_curKey (st : WState) : ¬ older st (curKey st) := by
  simp [older, curKey]

theorem older_mono {st st' : WState} (hs : st'.shard = st.shard)
    (hlt : st.seg < st'.seg ∨ (st.seg = st'.seg ∧ st.blkNum < st'.blkNum)) (k : Key) (h : k = curKey st ∨ older st k) :
    older st' k := by
  refine ⟨?_, ?_⟩
  · rw [hs]; exact h.elim (fun e => e ▸ rfl) (·.1)
  · rcases h with rfl | ⟨_, h⟩
    · exact hlt
    · rcases h with h | ⟨h1, h2⟩ <;> rcases hlt with h' | ⟨h1', h2'⟩
      · exact Or.inl (Nat.lt_trans h h')
      · exact Or.inl (h1' ▸ h)
      · exact Or.inl (h1 ▸ h')
      · exact Or.inr ⟨h1.trans h1', Nat.lt_trans h2 h2'⟩

theorem ne_curKey_of_older {st : WState} {k : Key} (h : older st k) : k ≠ curKey st :=
  fun e => not_older_curKey st (e ▸ h)

structure R (st : WState) (sp : Spec) : Prop where
  shard : sp.shard = st.shard
  seg : sp.seg = st.seg
  blk : sp.blk = st.blkNum
  next : sp.nextSuffix = st.nextSuffix
  cnt : sp.openCount = st.cur.length
  hasData : sp.segHasData = st.segHasData
  pend : sp.pend.map (·.2) = st.buf
  pendKey : ∀ e ∈ sp.pend, e.1 = curKey st
  cur : logged st ++ st.buf = st.cur
  doneCur : blockOf sp.done (curKey st) = logged st
  doneOld : ∀ k, k ≠ curKey st → lookup k st.durable = blockOf sp.done k
  doneKeys : ∀ e ∈ sp.done, e.1 = curKey st ∨ older st e.1
  durOld : ∀ k, lookup k st.durable ≠ [] → older st k
  sufLt : st.seg < st.nextSuffix
  filesNe : st.files ≠ []

theorem R_init (shard : Nat) : R (WState.init shard) (Spec.init shard) :=
  ⟨rfl, rfl, rfl, rfl, rfl, rfl, rfl, fun _ h => absurd h List.not_mem_nil, rfl, rfl, fun _ _ => rfl,
    fun _ h => absurd h List.not_mem_nil, fun _ h => absurd rfl h, Nat.lt_succ_self 0, List.cons_ne_nil _ _⟩

theorem lookup_curKey_nil {st : WState} {sp : Spec} (h : R st sp) : lookup (curKey st) st.durable = [] :=
  Decidable.byContradiction fun hne => not_older_curKey st (h.durOld _ hne)

theorem flat_appendLast (b : Block) (l : List (WalName × List Block)) (hne : l ≠ []) :
    (appendLast b l).flatMap (fun f => f.2.flatten) = l.flatMap (fun f => f.2.flatten) ++ b := by
  induction l with
  | nil => exact absurd rfl hne
  | cons f r ih =>
    cases r with
    | nil => simp [appendLast]
    | cons g r =>
      simp only [appendLast, List.flatMap_cons] at ih ⊢
      rw [ih (by simp)]
      simp

theorem appendBuf_files_ne (roll : Bool) (st : WState) (hne : st.files ≠ []) : (appendBuf roll st).files ≠ [] := by
  cases roll
  · exact fun e => hne (List.map_eq_nil_iff.mp
      ((appendLast_names st.buf st.files).symm.trans (congrArg (List.map (·.1)) e)))
  · exact List.append_ne_nil_of_right_ne_nil _ (List.cons_ne_nil _ _)
theorem appendBuf_logged (roll : Bool) (st : WState) (hne : st.files ≠ []) :
    logged (appendBuf roll st) = logged st ++ st.buf := by
  cases roll
  · exact flat_appendLast _ _ hne
  · show (appendLast st.buf st.files ++ [_]).flatMap _ = _
    rw [List.flatMap_append, flat_appendLast _ _ hne]
    exact List.append_nil _

theorem R_complete_nil {st : WState} {sp : Spec} (h : R st sp) (hp : sp.pend = []) : R st sp.complete := by
  have : sp.complete = sp := by
    cases sp; simp only [Spec.complete] at hp ⊢; simp [hp]
  rw [this]; exact h

theorem blockOf_complete_cur {st : WState} {sp : Spec} (h : R st sp) :
    blockOf (sp.done ++ sp.pend) (curKey st) = st.cur := by
  rw [blockOf_append, blockOf_all _ _ h.pendKey, h.pend, h.doneCur]
  exact h.cur

theorem blockOf_complete_ne {st : WState} {sp : Spec} (h : R st sp) {k : Key} (hk : k ≠ curKey st) :
    blockOf (sp.done ++ sp.pend) k = blockOf sp.done k := by
  rw [blockOf_append, blockOf_none sp.pend k fun e he => h.pendKey e he ▸ hk.symm, List.append_nil]

theorem complete_keys {st : WState} {sp : Spec} (h : R st sp) :
    ∀ e ∈ sp.done ++ sp.pend, e.1 = curKey st ∨ older st e.1 := fun e he =>
  (List.mem_append.mp he).elim (h.doneKeys e) (fun he => Or.inl (h.pendKey e he))

theorem done_older {st st' : WState} {D : List (Key × Dp)} (hold : ∀ k, k = curKey st ∨ older st k → older st' k)
    (hD : ∀ e ∈ D, e.1 = curKey st ∨ older st e.1) :
    blockOf D (curKey st') = [] ∧ ∀ e ∈ D, e.1 = curKey st' ∨ older st' e.1 :=
  ⟨blockOf_none _ _ fun e he => ne_curKey_of_older (hold e.1 (hD e he)), fun e he => Or.inr (hold e.1 (hD e he))⟩

theorem R_appendBuf (roll : Bool) {st : WState} {sp : Spec} (h : R st sp) : R (appendBuf roll st) sp.complete := by
  have hl := appendBuf_logged roll st h.filesNe
  have hne := appendBuf_files_ne roll st h.filesNe
  have hcur : logged (appendBuf roll st) ++ [] = st.cur := by rw [hl, List.append_nil]; exact h.cur
  have hdc : blockOf (sp.done ++ sp.pend) (curKey st) = logged (appendBuf roll st) := by
    rw [blockOf_complete_cur h, hl]; exact h.cur.symm
  have hdo : ∀ k, k ≠ curKey st → lookup k st.durable = blockOf (sp.done ++ sp.pend) k := fun k hk =>
    (h.doneOld k hk).trans (blockOf_complete_ne h hk).symm
  have hdk := complete_keys h
  -- what changes is said above, while `st` is a variable; on a constructor the fields that stay hold by unfolding
  cases st
  cases roll <;> exact { h with
    pend := rfl, pendKey := fun _ he => absurd he List.not_mem_nil, cur := hcur, doneCur := hdc, doneOld := hdo,
    doneKeys := hdk, filesNe := hne }

/-- what is left of an ingest once the name is registered and the size test made (`ingest2_comm` moves the test in front) -/
def push (d : Dp) (st : WState) : WState := ingest3 d (ingest1 d st)

theorem appendBuf_ingest1 (roll : Bool) (d : Dp) (st : WState) :
    appendBuf roll (ingest1 d st) = ingest1 d (appendBuf roll st) := by
  cases st
  cases roll <;> rfl

theorem ingest2_comm (cap : Nat) (roll : Bool) (d : Dp) (st : WState) :
    ingest2 cap roll (ingest1 d st) = ingest1 d (ingest2 cap roll st) :=
  (ite_congr rfl (fun _ => appendBuf_ingest1 roll d st) fun _ => rfl).trans (apply_ite (ingest1 d) _ _ _).symm

theorem R_ingest2 (cap : Nat) (roll : Bool) {st : WState} {sp : Spec} (h : R st sp) :
    R (ingest2 cap roll st) (if cap ≤ sp.pend.length then sp.complete else sp) :=
  iteInduction₂ (by rw [← h.pend, List.length_map]) (fun _ => R_appendBuf roll h) fun _ => h

theorem R_push (d : Dp) {st : WState} {sp : Spec} (h : R st sp) {key : Key} (hkey : key = curKey st) {n : Nat}
    (hn : n = sp.openCount + 1) :
    R (push d st) { sp with pend := sp.pend ++ [(key, d)], openCount := n, segHasData := true } := by
  cases st
  exact { h with
    cnt := hn.trans ((congrArg (· + 1) h.cnt).trans (List.length_append (bs := [d])).symm)
    hasData := rfl
    pend := List.map_append.trans (congrArg (· ++ [d]) h.pend)
    pendKey := fun e he => (List.mem_append.mp he).elim (h.pendKey e) fun he => by
      rw [List.mem_singleton.mp he]; exact hkey
    cur := (List.append_assoc ..).symm.trans (congrArg (· ++ [d]) h.cur) }

theorem R_names {st : WState} {sp : Spec} (h : R st sp) (ns ps : List Nat) (w : List (List Nat)) :
    R { st with mNames := ns, pendNames := ps, nameWal := w } sp := by
  cases st; exact { h with }

theorem R_ingest0 (name : Nat) {st : WState} {sp : Spec} (h : R st sp) : R (ingest0 name st) sp :=
  iteInduction (motive := (R · sp)) (fun _ => h) fun _ => R_names h _ _ _

theorem R_step_ingest (cap : Nat) (name : Nat) (d : Dp) (roll : Bool) {st : WState} {sp : Spec} (h : R st sp) :
    R (step cap st (.ingest name d roll)) (specStep cap sp (.ingest name d roll)) := by
  rw [step_ingest, ingest2_comm]
  have h2 := R_ingest2 cap roll (R_ingest0 name h)
  -- `complete` leaves the ids of the open block and the count alone
  exact R_push d h2 (by rw [curKey, ← h2.shard, ← h2.seg, ← h2.blk]; split <;> rfl) (by split <;> rfl)

theorem rb_shard (st : WState) : (rotateBlock st).shard = st.shard := shard_rotateBlock st
theorem rb_seg (st : WState) : (rotateBlock st).seg = st.seg := by cases st; rfl
theorem rb_blkNum (st : WState) : (rotateBlock st).blkNum = st.blkNum + 1 := rfl
theorem rb_next (st : WState) : (rotateBlock st).nextSuffix = st.nextSuffix := by cases st; rfl
theorem rb_cur (st : WState) : (rotateBlock st).cur = [] := rfl
theorem rb_buf (st : WState) : (rotateBlock st).buf = [] := rfl
theorem rb_hasData (st : WState) : (rotateBlock st).segHasData = st.segHasData := by cases st; rfl
theorem rb_durable (st : WState) : (rotateBlock st).durable = flushTo (curKey st) st.cur st.durable := rfl
theorem rb_logged (st : WState) : logged (rotateBlock st) = [] := rfl

theorem R_rotateBlock {st : WState} {sp : Spec} (h : R st sp) : R (rotateBlock st) sp.closeBlock := by
  have hold : ∀ k, k = curKey st ∨ older st k → older (rotateBlock st) k :=
    older_mono rfl (Or.inr ⟨rfl, Nat.lt_succ_self _⟩)
  have hd := done_older hold (complete_keys h)
  have hdo : ∀ k, k ≠ curKey (rotateBlock st) →
      lookup k (flushTo (curKey st) st.cur st.durable) = blockOf (sp.done ++ sp.pend) k := fun k _ => by
    by_cases hk : k = curKey st
    · rw [hk, lookup_flushTo_self, blockOf_complete_cur h]
    · rw [lookup_flushTo_ne _ _ _ _ hk, blockOf_complete_ne h hk]; exact h.doneOld k hk
  have hdu : ∀ k, lookup k (flushTo (curKey st) st.cur st.durable) ≠ [] → older (rotateBlock st) k := fun k hne => by
    by_cases hk : k = curKey st
    · exact hold k (Or.inl hk)
    · rw [lookup_flushTo_ne _ _ _ _ hk] at hne
      exact hold k (Or.inr (h.durOld k hne))
  cases st
  exact { h with
    blk := congrArg (· + 1) h.blk, cnt := rfl, pend := rfl, pendKey := fun _ he => absurd he List.not_mem_nil, cur := rfl,
    doneCur := hd.1, doneOld := hdo, doneKeys := hd.2, durOld := hdu, filesNe := List.cons_ne_nil _ _ }

theorem rs_shard (st : WState) : (rotateSegment st).shard = st.shard := by cases st; rfl
theorem rs_seg (st : WState) : (rotateSegment st).seg = st.nextSuffix := rfl
theorem rs_blkNum (st : WState) : (rotateSegment st).blkNum = 0 := rfl
theorem rs_next (st : WState) : (rotateSegment st).nextSuffix = st.nextSuffix + 1 := rfl
theorem rs_cur (st : WState) : (rotateSegment st).cur = st.cur := by cases st; rfl
theorem rs_buf (st : WState) : (rotateSegment st).buf = [] := rfl
theorem rs_hasData (st : WState) : (rotateSegment st).segHasData = false := rfl
theorem rs_durable (st : WState) : (rotateSegment st).durable = st.durable := by cases st; rfl
theorem rs_logged (st : WState) : logged (rotateSegment st) = [] := rfl

theorem R_rotateSegment {st : WState} {sp : Spec} (h : R st sp) (hc : st.cur = []) :
    R (rotateSegment st)
      { sp with seg := sp.nextSuffix, nextSuffix := sp.nextSuffix + 1, blk := 0, segHasData := false } := by
  have hlb : logged st = [] ∧ st.buf = [] := List.append_eq_nil_iff.mp (h.cur.trans hc)
  have hp : sp.pend = [] := List.map_eq_nil_iff.mp (h.pend.trans hlb.2)
  have hold : ∀ k, k = curKey st ∨ older st k → older (rotateSegment st) k := older_mono rfl (Or.inl h.sufLt)
  have hd := done_older hold h.doneKeys
  have hdo : ∀ k, k ≠ curKey (rotateSegment st) → lookup k st.durable = blockOf sp.done k := fun k _ => by
    by_cases hk : k = curKey st
    · rw [hk, h.doneCur, hlb.1, lookup_curKey_nil h]
    · exact h.doneOld k hk
  have hdu : ∀ k, lookup k st.durable ≠ [] → older (rotateSegment st) k :=
    fun k hne => hold k (Or.inr (h.durOld k hne))
  cases st
  exact { h with
    seg := h.next, next := congrArg (· + 1) h.next, blk := rfl, hasData := rfl,
    pend := hp ▸ rfl, pendKey := fun e he => absurd (hp ▸ he) List.not_mem_nil, cur := hc.symm,
    doneCur := hd.1, doneOld := hdo, doneKeys := hd.2, durOld := hdu, sufLt := Nat.lt_succ_self _,
    filesNe := List.cons_ne_nil _ _ }

theorem R_step (cap : Nat) (op : Op) {st : WState} {sp : Spec} (h : R st sp) :
    R (step cap st op) (specStep cap sp op) := by
  have hc : st.cur.isEmpty = true ↔ sp.openCount = 0 := by
    rw [h.cnt, List.isEmpty_iff, List.length_eq_zero_iff]
  cases op with
  | ingest name d roll => exact R_step_ingest cap name d roll h
  | walFlush roll =>
    exact iteInduction (motive := (R · sp.complete))
      (fun c => R_complete_nil h (List.map_eq_nil_iff.mp (h.pend.trans (List.isEmpty_iff.mp c))))
      fun _ => R_appendBuf roll h
  | blockRotate => exact iteInduction₂ hc (fun _ => h) fun _ => R_rotateBlock h
  | segRotate =>
    refine iteInduction₂ (by rw [h.hasData]) (fun _ => h) fun _ => ?_
    by_cases c : st.cur.isEmpty = true
    · rw [if_pos c, if_pos (hc.mp c)]; exact R_rotateSegment h (List.isEmpty_iff.mp c)
    · rw [if_neg c, if_neg (mt hc.mpr c)]; exact R_rotateSegment (R_rotateBlock h) rfl
  | nameFlush => exact iteInduction (motive := (R · sp)) (fun _ => h) fun _ => R_names h _ _ _

theorem R_runFrom (cap : Nat) (h : List Op) : ∀ (st : WState) (sp : Spec), R st sp →
    R (runFrom cap st h) (h.foldl (specStep cap) sp) := by
  induction h with
  | nil => exact fun _ _ hr => hr
  | cons op h ih => exact fun _ _ hr => ih _ _ (R_step cap op hr)

theorem R_run (cap shard : Nat) (h : List Op) : R (run cap shard h) (specRun cap shard h) :=
  R_runFrom cap h _ _ (R_init shard)

theorem lookup_after {st : WState} {sp : Spec} (h : R st sp) (X : List Dp) (k : Key) :
    lookup k (applyFlushes st.durable (flushIfAny (curKey st) X)) =
      if k = curKey st then X else blockOf sp.done k := by
  unfold flushIfAny
  split
  · next hx =>
    rw [List.isEmpty_iff.mp hx]
    split
    · next hk =>
      rw [hk]
      exact lookup_curKey_nil h
    · next hk => exact h.doneOld k hk
  · exact (isGet_lookup.get_put isPut_flushTo ..).trans (ite_congr rfl (fun _ => rfl) (h.doneOld k))

theorem lookup_recovered {st : WState} {sp : Spec} (h : R st sp) (k : Key) :
    lookup k (applyFlushes st.durable (flushIfAny (curKey st) (logged st))) = blockOf sp.done k :=
  (lookup_after h _ k).trans (ite_eq_right_iff.mpr fun hk => hk ▸ h.doneCur.symm)

theorem recoveredOld_lookup (cap shard : Nat) (h : List Op)
    (hs : (run cap shard h).seg < 18446744073709551616) (hb : (run cap shard h).blkNum < 18446744073709551616) (k : Key) :
    lookup k (diskAfterRecoveryOld cap shard h) =
      if k = curKey (run cap shard h) then (readDir (dirAfter cap shard h)).flatMap fileDps else specBlock cap shard h k := by
  unfold diskAfterRecoveryOld durableBlocks dirAfter
  rw [recover_writer _ (inv_run cap shard h) hs hb]
  exact lookup_after (R_run cap shard h) _ k

theorem specBlock_open (cap shard : Nat) (h : List Op) :
    specBlock cap shard h (curKey (run cap shard h)) = (dirAfter cap shard h).flatMap fileDps :=
  (R_run cap shard h).doneCur.trans (flatMap_rawOf _).symm

/-- without the guard, after the repairs: `recover_exact_full` -/
theorem recover_exact (cap shard : Nat) (h : List Op) (hg : fewWalFiles cap shard h)
    (hs : (run cap shard h).seg < 18446744073709551616) (hb : (run cap shard h).blkNum < 18446744073709551616) (k : Key) :
    lookup k (diskAfterRecoveryOld cap shard h) = specBlock cap shard h k := by
  unfold diskAfterRecoveryOld durableBlocks dirAfter
  rw [recover_writer_few _ (inv_run cap shard h) hg hs hb]
  exact lookup_recovered (R_run cap shard h) k

def mkDp (i : Nat) : Dp := { ts := 100 + i, val := i, tsid := 7 }
def h11 : List Op := (List.range 12).flatMap (fun i => [Op.ingest 0 (mkDp i) false, Op.walFlush true])

theorem h11_bounds : (run 100 0 h11).seg < 18446744073709551616 ∧ (run 100 0 h11).blkNum < 18446744073709551616 ∧
    (run 100 0 h11).walIdx < 18446744073709551616 := by
  decide +kernel

/-- 13 WAL files: `…_10.wal` stands before `…_2.wal` -/
theorem h11_dir_order :
    (readDir (rawOf (run 100 0 h11).files)).flatMap fileDps ≠ (rawOf (run 100 0 h11).files).flatMap fileDps := by
  simp only [rawOf, render_eq]
  decide +kernel

end SigModel.Lemmas.C10R
