/- C12: the span tree. `par` is the parent link `BuildSpanTree` follows and `up` its iteration; the `Children` lists are
the inverse of `par` (`mem_kids`), so the walk from a span whose chain ends lists exactly the spans whose chain reaches
it, each once (`mem_render`, `nodup_render`). `View` is what holds of every returned view; `wellFormed_view` adds what
holds for a well-formed trace. -/
import SigModel.Lemmas.C12a

namespace SigModel.Lemmas.C12
open SigModel.Trace List

def par (m : List Span) (x : Nat) : Option Nat :=
  match m.find? (fun s => s.id == x) with
  | some s => if !s.noEntry && s.parent != 0 && m.any (fun p => p.id == s.parent) then some s.parent else none
  | none => none

def up (m : List Span) : Nat → Nat → Option Nat
  | 0, x => some x
  | k + 1, x => (up m k x).bind (par m)

def reaches (m : List Span) : Nat → Span → Bool
  | 0, s => s.parent == 0
  | f + 1, s => s.parent == 0 || (match m.find? (fun p => p.id == s.parent) with
      | some p => reaches m f p
      | none => false)

/-- the last conjunct makes every parent present and excludes parent cycles -/
def wellFormed (spans : List Span) : Bool :=
  decide ((spans.map (·.id)).Nodup) && spans.all (fun s => !s.noEntry && s.id != 0)
  && (spans.filter (fun s => s.parent == 0)).length == 1
  && spans.all (fun s => reaches spans spans.length s)

theorem toMap_sublist (l : List Span) : toMap l <+ l := by
  induction l with
  | nil => exact .slnil
  | cons s r ih => exact iteInduction (motive := (· <+ s :: r)) (fun _ => ih.cons s) fun _ => ih.cons_cons s

theorem toMap_nodup (l : List Span) : ((toMap l).map (·.id)).Nodup := by
  induction l with
  | nil => exact nodup_nil
  | cons s r ih =>
    rw [toMap]
    by_cases h : r.any (fun t => t.id == s.id) = true
    · rw [if_pos h]
      exact ih
    · rw [if_neg h]
      refine nodup_cons.2 ⟨fun hm => h ?_, ih⟩
      obtain ⟨t, ht, e⟩ := mem_map.1 hm
      exact any_eq_true.2 ⟨t, (toMap_sublist r).subset ht, beq_iff_eq.2 e⟩

theorem toMap_of_nodup {l : List Span} (h : (l.map (·.id)).Nodup) : toMap l = l := by
  induction l with
  | nil => rfl
  | cons s r ih =>
    obtain ⟨hs, hr⟩ := nodup_cons.1 h
    rw [toMap, ih hr, if_neg]
    intro ha
    obtain ⟨t, ht, e⟩ := any_eq_true.1 ha
    exact hs (mem_map.2 ⟨t, ht, beq_iff_eq.1 e⟩)

theorem up_add (m : List Span) (a b x : Nat) : up m (a + b) x = (up m a x).bind (up m b) := by
  induction b with
  | zero => exact (Option.bind_fun_some _).symm
  | succ b ih => exact (congrArg (·.bind (par m)) ih).trans (Option.bind_assoc _ _ _)

theorem up_succ_left (m : List Span) (k x : Nat) : up m (k + 1) x = (par m x).bind (up m k) :=
  (congrArg (up m · x) (Nat.add_comm k 1)).trans (up_add m 1 k x)

theorem up_trans {m : List Span} {a b x y z : Nat} (h1 : up m a x = some y) (h2 : up m b y = some z) :
    up m (a + b) x = some z := by
  rw [up_add, h1]
  exact h2

theorem up_end_le {m : List Span} {r x a b : Nat} (hr : par m r = none) (ha : up m a x = some r)
    (hb : up m b x = some r) : b ≤ a :=
  Nat.le_of_not_lt fun hlt => by
    obtain ⟨j, rfl⟩ := Nat.exists_eq_add_of_lt hlt
    have e : up m (a + (j + 1)) x = none := by rw [up_add, ha, Option.bind_some, up_succ_left, hr, Option.bind_none]
    exact Option.some_ne_none r (hb.symm.trans e)

/-- if the chain of `r` ends (at `r₀`) the depth of any `x` below `r` is unique: below `r` the `Children` pointers
form a tree -/
theorem up_unique {m : List Span} {r₀ r d x a b : Nat} (h0 : par m r₀ = none) (hd : up m d r = some r₀)
    (ha : up m a x = some r) (hb : up m b x = some r) : a = b :=
  Nat.add_right_cancel (Nat.le_antisymm (up_end_le h0 (up_trans hb hd) (up_trans ha hd))
    (up_end_le h0 (up_trans ha hd) (up_trans hb hd)))

theorem cycle_never_reaches {m : List Span} {x r : Nat} {j k : Nat} (hc : up m (j + 1) x = some x)
    (hr : par m r = none) (hk : up m k x = some r) : False :=
  Nat.ne_of_gt (Nat.lt_add_of_pos_left (Nat.succ_pos j)) (up_unique (d := 0) hr rfl (up_trans hc hk) hk)

theorem attachedTo_iff {m : List Span} {p : Nat} {s : Span} : attachedTo m p s = true ↔
    ((s.parent = p ∧ s.noEntry = false) ∧ s.parent ≠ 0) ∧ ∃ q ∈ m, q.id = p := by
  simp only [attachedTo, Bool.and_eq_true, beq_iff_eq, Bool.not_eq_true', bne_iff_ne, any_eq_true]

section
variable {m : List Span} (hnd : (m.map (·.id)).Nodup)
include hnd

theorem eq_of_id_eq {s t : Span} (hs : s ∈ m) (ht : t ∈ m) (h : s.id = t.id) : s = t :=
  have hp : m.Pairwise (fun a b => a.id = b.id → a = b) := (pairwise_map.1 hnd).imp fun hne e => absurd e hne
  hp.forall_of_forall_of_flip (fun _ _ _ => rfl) (hp.imp fun h e => (h e.symm).symm) hs ht h

theorem find?_id_eq_some {x : Nat} {s : Span} : m.find? (fun t => t.id == x) = some s ↔ s ∈ m ∧ s.id = x := by
  refine ⟨fun h => ⟨mem_of_find?_eq_some h, beq_iff_eq.1 (find?_some h :)⟩, ?_⟩
  rintro ⟨hs, rfl⟩
  cases hf : m.find? (fun t => t.id == s.id) with
  | none => exact absurd (beq_iff_eq.2 rfl) (find?_eq_none.1 hf s hs)
  | some t => exact congrArg some (eq_of_id_eq hnd (mem_of_find?_eq_some hf) hs (beq_iff_eq.1 (find?_some hf :)))

theorem par_eq_some {x p : Nat} : par m x = some p ↔ x ∈ (m.filter (attachedTo m p)).map (·.id) := by
  rw [mem_map]
  constructor
  · intro h
    unfold par at h
    cases hf : m.find? (fun s => s.id == x) with
    | none =>
      rw [hf] at h
      exact absurd h (Option.some_ne_none p).symm
    | some s =>
      rw [hf] at h
      obtain ⟨hc, e⟩ := Option.ite_none_right_eq_some.1 h
      obtain ⟨hs, hx⟩ := (find?_id_eq_some hnd).1 hf
      refine ⟨s, mem_filter.2 ⟨hs, ?_⟩, hx⟩
      rw [← Option.some.inj e, attachedTo, beq_iff_eq.2 rfl, Bool.true_and]
      exact hc
  · rintro ⟨s, hf, rfl⟩
    obtain ⟨hs, ha⟩ := mem_filter.1 hf
    cases (attachedTo_iff.1 ha).1.1.1
    rw [attachedTo, beq_iff_eq.2 rfl, Bool.true_and] at ha
    rw [par, (find?_id_eq_some hnd).2 ⟨hs, rfl⟩]
    exact if_pos ha

theorem par_span {x p : Nat} (h : par m x = some p) :
    ∃ s ∈ m, s.id = x ∧ s.parent = p ∧ p ≠ 0 ∧ ∃ q ∈ m, q.id = p := by
  obtain ⟨s, hf, e⟩ := mem_map.1 ((par_eq_some hnd).1 h)
  obtain ⟨hs, ha⟩ := mem_filter.1 hf
  obtain ⟨⟨⟨rfl, _⟩, h0⟩, hq⟩ := attachedTo_iff.1 ha
  exact ⟨s, hs, e, rfl, h0, hq⟩

theorem par_eq_none {s : Span} (hs : s ∈ m)
    (h : s.noEntry = true ∨ s.parent = 0 ∨ ∀ q ∈ m, q.id ≠ s.parent) : par m s.id = none :=
  Option.eq_none_iff_forall_ne_some.2 fun p hp => by
    obtain ⟨t, hf, e⟩ := mem_map.1 ((par_eq_some hnd).1 hp)
    obtain ⟨ht, ha⟩ := mem_filter.1 hf
    cases eq_of_id_eq hnd ht hs e
    obtain ⟨⟨⟨rfl, h1⟩, h2⟩, q, hq, e⟩ := attachedTo_iff.1 ha
    rcases h with h | h | h
    · exact Bool.false_ne_true (h1.symm.trans h)
    · exact h2 h
    · exact h q hq e

theorem mem_kids {p c : Nat} : c ∈ kidsOf m p ↔ par m c = some p :=
  (((isort_perm spanLe m).filter _).map _).mem_iff.trans (par_eq_some hnd).symm

theorem kids_nodup (p : Nat) : (kidsOf m p).Nodup :=
  (filter_sublist.map _).nodup (((isort_perm spanLe m).map _).nodup_iff.2 hnd)

theorem mem_render {f p r x : Nat} :
    x ∈ (render (kidsOf m) f p r).map Prod.snd ↔ ∃ k, k < f ∧ up m k x = some r := by
  induction f generalizing p r with
  | zero => exact ⟨fun h => absurd h not_mem_nil, fun ⟨k, hk, _⟩ => absurd hk (Nat.not_lt_zero k)⟩
  | succ f ih =>
    rw [render, map_cons, map_flatMap, mem_cons, mem_flatMap]
    constructor
    · rintro (rfl | ⟨c, hc, hx⟩)
      · exact ⟨0, Nat.succ_pos f, rfl⟩
      · obtain ⟨k, hk, hu⟩ := ih.1 hx
        exact ⟨k + 1, Nat.succ_lt_succ hk, Option.bind_eq_some_iff.2 ⟨c, hu, (mem_kids hnd).1 hc⟩⟩
    · rintro ⟨k, hk, hu⟩
      cases k with
      | zero => exact .inl (Option.some.inj hu)
      | succ k =>
        obtain ⟨c, hc, hp⟩ := Option.bind_eq_some_iff.1 hu
        exact .inr ⟨c, (mem_kids hnd).2 hp, ih.2 ⟨k, Nat.lt_of_succ_lt_succ hk, hc⟩⟩

theorem nodup_render {r₀ : Nat} (h0 : par m r₀ = none) {f p r : Nat} (d : Nat) (hd : up m d r = some r₀) :
    ((render (kidsOf m) f p r).map Prod.snd).Nodup := by
  induction f generalizing p r d with
  | zero => exact nodup_nil
  | succ f ih =>
    have hstep {c x k} (hc : c ∈ kidsOf m r) (hu : up m k x = some c) : up m (k + 1) x = some r :=
      Option.bind_eq_some_iff.2 ⟨c, hu, (mem_kids hnd).1 hc⟩
    rw [render, map_cons, map_flatMap]
    -- the depth below `r` is unique (`up_unique`): `r` is in no subtree, and two children's subtrees share no span
    refine nodup_cons.2 ⟨fun hr => ?_, pairwise_flatMap.2 ⟨fun c hc => ih (d + 1) ?_, ?_⟩⟩
    · obtain ⟨c, hc, hx⟩ := mem_flatMap.1 hr
      obtain ⟨k, _, hu⟩ := (mem_render hnd).1 hx
      exact Nat.succ_ne_zero k (up_unique h0 hd (hstep hc hu) rfl)
    · rw [up_succ_left, (mem_kids hnd).1 hc]
      exact hd
    · refine (kids_nodup hnd r).imp_of_mem fun hc hc' hne x hx y hy e => hne ?_
      subst e
      obtain ⟨k, _, hu⟩ := (mem_render hnd).1 hx
      obtain ⟨k', _, hu'⟩ := (mem_render hnd).1 hy
      cases Nat.succ.inj (up_unique h0 hd (hstep hc hu) (hstep hc' hu'))
      exact Option.some.inj (hu.symm.trans hu')

theorem render_edges {f p r : Nat} {e : Nat × Nat} (he : e ∈ render (kidsOf m) f p r) :
    e = (p, r) ∨ par m e.2 = some e.1 := by
  induction f generalizing p r with
  | zero => exact absurd he not_mem_nil
  | succ f ih =>
    rw [render, mem_cons, mem_flatMap] at he
    rcases he with rfl | ⟨c, hc, hx⟩
    · exact .inl rfl
    · exact .inr ((ih hx).elim (fun h => h ▸ (mem_kids hnd).1 hc) id)

/-- `reaches` does not look at `noEntry`, `par` does: hence `hall` -/
theorem reaches_up (hall : ∀ s ∈ m, s.noEntry = false) (f : Nat) {s : Span} (hs : s ∈ m) (h : reaches m f s = true) :
    ∃ k, k ≤ f ∧ ∃ t ∈ m, t.parent = 0 ∧ up m k s.id = some t.id := by
  induction f generalizing s with
  | zero => exact ⟨0, Nat.le_refl 0, s, hs, beq_iff_eq.1 h, rfl⟩
  | succ f ih =>
    by_cases h0 : s.parent = 0
    · exact ⟨0, Nat.zero_le _, s, hs, h0, rfl⟩
    · simp only [reaches, beq_eq_false_iff_ne.2 h0, Bool.false_or] at h
      split at h
      · rename_i p hf
        obtain ⟨hp, e⟩ := (find?_id_eq_some hnd).1 hf
        obtain ⟨k, hk, t, ht, ht0, hu⟩ := ih hp h
        refine ⟨k + 1, Nat.succ_le_succ hk, t, ht, ht0, ?_⟩
        rw [up_succ_left, (par_eq_some hnd).2 (mem_map_of_mem (mem_filter.2 ⟨hs,
          attachedTo_iff.2 ⟨⟨⟨e.symm, hall s hs⟩, h0⟩, p, hp, rfl⟩⟩))]
        exact hu
      · exact absurd h Bool.false_ne_true

end

theorem par_noEntry {m : List Span} (hnd : (m.map (·.id)).Nodup) {r : Span} (hr : r ∈ m) (hp : r.noEntry = true) :
    par m r.id = none :=
  par_eq_none hnd hr (.inl hp)

theorem mem_cands {m : List Span} {r : Span} : r ∈ cands m ↔ r ∈ m ∧ r.noEntry = false ∧ r.parent = 0 := by
  unfold cands sortSpans isCand
  rw [mem_filter, mem_isort, Bool.and_eq_true, Bool.not_eq_true', beq_iff_eq]

theorem pickRoot_mem {m : List Span} {pick : Nat} {r : Span} (h : pickRoot m pick = some r) : r ∈ cands m :=
  mem_of_getElem? (Option.ite_none_left_eq_some.1 h).2

theorem pickRoot_isSome {m : List Span} (pick : Nat) (h : cands m ≠ []) : ∃ r, pickRoot m pick = some r :=
  ⟨_, (if_neg fun e => h (isEmpty_iff.1 e)).trans (getElem?_eq_getElem (Nat.mod_lt _ (length_pos_iff.2 h)))⟩

theorem buildTree_nodes {spans : List Span} {pick x : Nat} {ns : List Node} (h : buildTree spans pick = some (x, ns)) :
    ∃ st, ns = (sortSpans (toMap spans)).map (nodeOf (sortSpans (toMap spans)) (toMap spans) st) := by
  unfold buildTree at h
  cases hp : pickRoot (toMap spans) pick with
  | none => simp only [hp, reduceCtorEq] at h
  | some r =>
    simp only [hp] at h
    exact ⟨r.start, (Prod.mk.inj (Option.some.inj (Option.ite_none_left_eq_some.1 h).2)).2.symm⟩

theorem treeView_eq (spans : List Span) (pick : Nat) : treeView spans pick =
    (pickRoot (toMap spans) pick).bind fun r => if r.id == 0 then none else
      some (render (kidsOf (toMap spans)) ((toMap spans).length + 1) 0 r.id) := by
  cases h : pickRoot (toMap spans) pick with
  | none => simp only [treeView, buildTree, h, Option.bind_none]
  | some r =>
    by_cases h0 : (r.id == 0) = true
    · simp only [treeView, buildTree, h, h0, Option.bind_some, if_true]
    · simp only [treeView, buildTree, h, h0, Option.bind_some]
      rfl

structure View (spans : List Span) (pick : Nat) (view : List (Nat × Nat)) (r : Span) : Prop where
  root_mem : r ∈ toMap spans
  root_entry : r.noEntry = false
  root_parent : r.parent = 0
  picked : pickRoot (toMap spans) pick = some r
  head : view.head? = some (0, r.id)
  nodup : (view.map Prod.snd).Nodup
  mem_iff : ∀ x, x ∈ view.map Prod.snd ↔ ∃ k, k ≤ (toMap spans).length ∧ up (toMap spans) k x = some r.id
  edge : ∀ e ∈ view, e = (0, r.id) ∨
    ∃ s ∈ toMap spans, s.id = e.2 ∧ s.parent = e.1 ∧ e.1 ≠ 0 ∧ ∃ q ∈ toMap spans, q.id = e.1

theorem view_of_root {spans : List Span} {pick : Nat} {r : Span} (hp : pickRoot (toMap spans) pick = some r) :
    View spans pick (render (kidsOf (toMap spans)) ((toMap spans).length + 1) 0 r.id) r :=
  have hnd := toMap_nodup spans
  have ⟨hm, he, h0⟩ := mem_cands.1 (pickRoot_mem hp)
  { root_mem := hm, root_entry := he, root_parent := h0, picked := hp, head := rfl
    nodup := nodup_render hnd (par_eq_none hnd hm (.inr (.inl h0))) 0 rfl
    mem_iff := fun _ => (mem_render hnd).trans (exists_congr fun _ => and_congr_left' Nat.lt_succ_iff)
    edge := fun _ he => (render_edges hnd he).imp_right (par_span hnd) }

theorem view_facts {spans : List Span} {pick : Nat} {view : List (Nat × Nat)} (h : treeView spans pick = some view) :
    ∃ r, View spans pick view r := by
  rw [treeView_eq] at h
  obtain ⟨r, hp, hr⟩ := Option.bind_eq_some_iff.1 h
  exact ⟨r, Option.some.inj (Option.ite_none_left_eq_some.1 hr).2 ▸ view_of_root hp⟩

namespace View
variable {spans : List Span} {pick : Nat} {view : List (Nat × Nat)} {r : Span} (v : View spans pick view r)
include v

theorem mem_ids {x : Nat} (hx : x ∈ view.map Prod.snd) : x ∈ (toMap spans).map (·.id) := by
  obtain ⟨e, he, rfl⟩ := mem_map.1 hx
  rcases v.edge e he with rfl | ⟨s, hs, hid, _⟩
  · exact mem_map_of_mem v.root_mem
  · exact mem_map.2 ⟨s, hs, hid⟩

theorem not_mem {s : Span} (hs : s ∈ toMap spans) (hn : par (toMap spans) s.id = none) (hne : s ≠ r) :
    s.id ∉ view.map Prod.snd := fun hx => by
  obtain ⟨k, _, hu⟩ := (v.mem_iff s.id).1 hx
  cases k with
  | zero => exact hne (eq_of_id_eq (toMap_nodup spans) hs v.root_mem (Option.some.inj hu))
  | succ k =>
    rw [up_succ_left, hn] at hu
    exact Option.some_ne_none _ hu.symm

end View

theorem wellFormed_parts {spans : List Span} (h : wellFormed spans = true) :
    (spans.map (·.id)).Nodup ∧ (∀ s ∈ spans, s.noEntry = false ∧ s.id ≠ 0) ∧
    (∃ t, spans.filter (fun s => s.parent == 0) = [t]) ∧ ∀ s ∈ spans, reaches spans spans.length s = true := by
  simp only [wellFormed, Bool.and_eq_true, decide_eq_true_eq, all_eq_true, Bool.not_eq_true', bne_iff_ne, beq_iff_eq,
    length_eq_one_iff] at h
  exact ⟨h.1.1.1, h.1.1.2, h.1.2, h.2⟩

theorem wellFormed_view {spans : List Span} (h : wellFormed spans = true) (pick : Nat) :
    ∃ view r, treeView spans pick = some view ∧ View spans pick view r ∧ ∀ s ∈ spans, s.id ∈ view.map Prod.snd := by
  obtain ⟨hnd, hall, ⟨t₀, ht₀⟩, hreach⟩ := wellFormed_parts h
  have hroot : ∀ t ∈ spans, t.parent = 0 → t = t₀ := fun t ht h0 =>
    mem_singleton.1 (ht₀ ▸ mem_filter.2 ⟨ht, beq_iff_eq.2 h0⟩)
  obtain ⟨h1, h2⟩ := mem_filter.1 (ht₀ ▸ mem_singleton_self t₀)
  have hm := toMap_of_nodup hnd
  obtain ⟨r, hp⟩ := pickRoot_isSome (m := toMap spans) pick
    (ne_nil_of_mem (mem_cands.2 ⟨hm.symm ▸ h1, (hall t₀ h1).1, beq_iff_eq.1 h2⟩))
  have v := view_of_root hp
  have hr : r = t₀ := hroot r (hm ▸ v.root_mem) v.root_parent
  refine ⟨_, r, ?_, v, fun s hs => (v.mem_iff s.id).2 ?_⟩
  · rw [treeView_eq, hp]
    exact if_neg fun e => (hall r (hm ▸ v.root_mem)).2 (beq_iff_eq.1 e)
  · obtain ⟨k, hk, t, ht, h0, hu⟩ := reaches_up hnd (fun s hs => (hall s hs).1) _ hs (hreach s hs)
    rw [hm]
    exact ⟨k, hk, hr ▸ hroot t ht h0 ▸ hu⟩

end SigModel.Lemmas.C12
