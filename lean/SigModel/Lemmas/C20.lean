/-
Lemmas for C20 (alert state machine, Model/Alert.lean).  Two notions carry the proofs: the invariant `Inv`,
tying history and state to the outcomes seen since the last row that is neither Pending nor Firing, and the
relation `Trace` on the database of an alert (evaluations, each under the configuration read at that moment, and
configuration rows), which is all that the statements about notifications need to know of a run — of this model
or of the model with job lifetimes (Lemmas/C20J.lean).  Core Lean only.
-/
import SigModel.Model.Alert

namespace SigModel.Lemmas.C20
open SigModel.Alert

def leading {α : Type} (p : α → Bool) : List α → Nat
  | [] => 0
  | x :: r => if p x then leading p r + 1 else 0

theorem take_all_iff {α : Type} (p : α → Bool) (l : List α) (m : Nat) :
    (m ≤ l.length ∧ (l.take m).all p = true) ↔ m ≤ leading p l := by
  induction l generalizing m with
  | nil => rw [List.take_nil]; exact and_iff_left rfl
  | cons x r ih =>
    cases m with
    | zero => exact iff_of_true ⟨Nat.zero_le _, rfl⟩ (Nat.zero_le _)
    | succ k =>
      rw [List.take_succ_cons, List.all_cons, List.length_cons, Nat.succ_le_succ_iff, leading]
      cases p x with
      | false => exact iff_of_false (fun h => Bool.false_ne_true h.2) (Nat.not_succ_le_zero k)
      | true => exact (ih k).trans Nat.succ_le_succ_iff.symm

theorem pof_firing : pof .firing = true := by decide
theorem pof_pending : pof .pending = true := by decide
theorem pof_normal : pof .normal = false := by decide
theorem pof_inactive : pof .inactive = false := by decide

theorem shouldFire_iff (n : Nat) (hist : List AState) :
    shouldFire n hist = true ↔ 1 ≤ n ∧ n ≤ leading pof hist + 1 := by
  rw [shouldFire]
  by_cases h0 : n = 0
  · subst h0; exact ⟨Bool.noConfusion, fun h => absurd h.1 (by decide)⟩
  by_cases h1 : n = 1
  · subst h1; exact ⟨fun _ => ⟨Nat.le_refl _, Nat.le_add_left ..⟩, fun _ => rfl⟩
  rw [if_neg h0, if_neg h1]
  -- unfolds the `let rows` of `shouldFire`
  dsimp only
  have ht := take_all_iff pof hist (n - 1)
  rw [← Nat.sub_le_iff_le_add, ← ht]
  by_cases hle : n - 1 ≤ hist.length
  · rw [List.length_take_of_le hle, if_neg (Nat.lt_irrefl _)]
    exact ⟨fun h => ⟨Nat.pos_of_ne_zero h0, hle, h⟩, fun h => h.2.2⟩
  · rw [List.take_of_length_le (Nat.le_of_not_le hle), if_pos (Nat.lt_of_not_le hle)]
    exact ⟨Bool.noConfusion, fun h => absurd h.2.1 hle⟩

/-- the specification: state as a function of the outcomes (newest first) -/
def windowState (n : Nat) : List Bool → AState
  | [] => .inactive
  | false :: _ => .normal
  | true :: r => if 1 ≤ n ∧ n ≤ leading id (true :: r) then .firing else .pending

def outcomes (ops : List Op) : List Bool :=
  (ops.filterMap (fun op => match op with | .eval m _ => some m | _ => none)).reverse

theorem outcomes_nil : outcomes [] = [] := rfl

theorem outcomes_cons (op : Op) (ops : List Op) : outcomes (op :: ops) = outcomes ops ++ outcomes [op] :=
  (congrArg List.reverse (List.filterMap_append (l := [op]))).trans List.reverse_append

def Barrier (h : List AState) : Prop := leading pof h = 0

theorem barrier_nil : Barrier [] := rfl
theorem barrier_inactive (h : List AState) : Barrier (.inactive :: h) := rfl

structure Inv (n : Nat) (st : St) (w : List Bool) : Prop where
  lead : leading pof st.hist = leading id w
  state : w ≠ [] → st.state = windowState n w

theorem inv_start (n : Nat) {st : St} (hb : Barrier st.hist) : Inv n st [] := ⟨hb, fun h => absurd rfl h⟩

theorem evalStep_state {cfg : Cfg} {st : St} {w : List Bool} (h : Inv cfg.n st w) (now : Nat) (m ok : Bool) :
    (evalStep cfg st now m ok).2.state = windowState cfg.n (m :: w) := by
  cases m
  · rfl
  · show (if shouldFire cfg.n st.hist = true then AState.firing else .pending) =
      if 1 ≤ cfg.n ∧ cfg.n ≤ leading id w + 1 then .firing else .pending
    simp only [shouldFire_iff, h.lead]

theorem inv_eval {cfg : Cfg} {st : St} {w : List Bool} (h : Inv cfg.n st w) (now : Nat) (m ok : Bool) :
    Inv cfg.n (evalStep cfg st now m ok).1 (m :: w) := by
  refine ⟨?_, fun _ => evalStep_state h now m ok⟩
  cases m with
  | false => rfl
  | true =>
    -- the row written is Firing or Pending, whichever: it prolongs the leading run
    show leading pof ((if shouldFire cfg.n st.hist = true then AState.firing else .pending) :: st.hist) =
      leading id w + 1
    rw [← h.lead]
    cases shouldFire cfg.n st.hist <;> rfl

theorem inv_run (cfg : Cfg) (ops : List Op) (s : Sys) (w : List Bool)
    (hno : ∀ op ∈ ops, op ≠ Op.cfgChange) (h : Inv cfg.n s.st w) :
    Inv cfg.n (runOps cfg s ops).1.st (outcomes ops ++ w) := by
  induction ops generalizing s w with
  | nil => exact h
  | cons op ops ih =>
    rw [outcomes_cons, List.append_assoc]
    refine ih (stepOp cfg s op).1 _ (fun o ho => hno o (List.mem_cons_of_mem _ ho)) ?_
    cases op with
    | eval m ok => exact inv_eval h s.now m ok
    | tick k => exact h
    | cfgChange => exact absurd rfl (hno _ (List.mem_cons_self ..))

theorem Inv.spec {n : Nat} {st : St} {w : List Bool} (h : Inv n st w) (hne : w ≠ []) :
    (st.state = .firing ↔ (1 ≤ n ∧ n ≤ w.length ∧ (w.take n).all id = true)) ∧
    (st.state = .pending ↔ w.head? = some true ∧ ¬ (1 ≤ n ∧ n ≤ w.length ∧ (w.take n).all id = true)) ∧
    (st.state = .normal ↔ w.head? = some false) := by
  rw [h.state hne, take_all_iff]
  cases w with
  | nil => exact absurd rfl hne
  | cons m r =>
    cases m with
    | false =>
      have hw : ¬ (1 ≤ n ∧ n ≤ 0) := fun h => Nat.not_succ_le_zero 0 (Nat.le_trans h.1 h.2)
      exact ⟨iff_of_false AState.noConfusion hw,
        iff_of_false AState.noConfusion (fun h => Bool.noConfusion (Option.some.inj h.1)), iff_of_true rfl rfl⟩
    | true =>
      dsimp only [windowState]
      by_cases hc : 1 ≤ n ∧ n ≤ leading id (true :: r)
      · rw [if_pos hc]
        exact ⟨iff_of_true rfl hc, iff_of_false AState.noConfusion (fun h => h.2 hc),
          iff_of_false AState.noConfusion (fun h => Bool.noConfusion (Option.some.inj h))⟩
      · rw [if_neg hc]
        exact ⟨iff_of_false AState.noConfusion hc, iff_of_true rfl ⟨rfl, hc⟩,
          iff_of_false AState.noConfusion (fun h => Bool.noConfusion (Option.some.inj h))⟩

theorem inv_after_run (cfg : Cfg) (s : Sys) (ops : List Op) (hb : Barrier s.st.hist)
    (hno : ∀ op ∈ ops, op ≠ Op.cfgChange) : Inv cfg.n (runOps cfg s ops).1.st (outcomes ops) :=
  List.append_nil (outcomes ops) ▸ inv_run cfg ops s [] hno (inv_start cfg.n hb)

theorem runOps_append (cfg : Cfg) (s : Sys) (a b : List Op) :
    runOps cfg s (a ++ b) =
      ((runOps cfg (runOps cfg s a).1 b).1, (runOps cfg s a).2 ++ (runOps cfg (runOps cfg s a).1 b).2) := by
  induction a generalizing s with
  | nil => rfl
  | cons op a ih => simp only [List.cons_append, runOps, ih, List.append_assoc]

theorem evalStep_time (cfg : Cfg) (st : St) (now : Nat) (m ok : Bool) :
    (evalStep cfg st now m ok).2.time = now := rfl

theorem evalStep_lastSentTime (cfg : Cfg) (st : St) (now : Nat) (m ok : Bool) :
    (evalStep cfg st now m ok).1.lastSentTime =
      if (evalStep cfg st now m ok).2.notified then some now else st.lastSentTime := rfl

theorem evalStep_lastSentState (cfg : Cfg) (st : St) (now : Nat) (m ok : Bool) :
    (evalStep cfg st now m ok).1.lastSentState =
      if (evalStep cfg st now m ok).2.notified then (evalStep cfg st now m ok).2.state else st.lastSentState := rfl

theorem minutesOver_iff {m now : Nat} {last : Option Nat} :
    minutesOver m last now = true ↔ ∀ t, last = some t → t + m ≤ now := by
  cases last with
  | none => exact iff_of_true rfl nofun
  | some t0 => exact decide_eq_true_iff.trans ⟨fun h _ ht => Option.some.inj ht ▸ h, fun h => h t0 rfl⟩

theorem shouldSend_iff {cfg : Cfg} {st : St} {cur : AState} {now : Nat} :
    shouldSend cfg st cur now = true ↔
      ¬ (cur = .normal ∧ (st.lastSentState = .inactive ∨ st.lastSentState = .normal)) ∧
      minutesOver cfg.cooldown st.lastSentTime now = true ∧ minutesOver cfg.silence st.lastSentTime now = true := by
  unfold shouldSend
  generalize minutesOver cfg.cooldown st.lastSentTime now = b1
  generalize minutesOver cfg.silence st.lastSentTime now = b2
  by_cases h1 : cur = .normal ∧ st.lastSentState = .inactive
  · rw [if_pos h1]; exact iff_of_false Bool.false_ne_true (fun h => h.1 ⟨h1.1, .inl h1.2⟩)
  · rw [if_neg h1]
    by_cases h2 : cur = .normal ∧ st.lastSentState = cur
    · rw [if_pos h2]; exact iff_of_false Bool.false_ne_true (fun h => h.1 ⟨h2.1, .inr (h2.2.trans h2.1)⟩)
    · -- neither refusal of a Normal notification applies: the first conjunct holds, the rest is a truth table
      rw [if_neg h2,
        and_iff_right (fun h => h.2.elim (fun e => h1 ⟨h.1, e⟩) (fun e => h2 ⟨h.1, e.trans h.1.symm⟩))]
      cases b1 <;> cases b2 <;> decide

theorem evalStep_notified_iff {cfg : Cfg} {st : St} {now : Nat} {m ok : Bool} :
    (evalStep cfg st now m ok).2.notified = true ↔
      ((evalStep cfg st now m ok).2.state = .firing ∨ (evalStep cfg st now m ok).2.state = .normal) ∧
      shouldSend cfg st (evalStep cfg st now m ok).2.state now = true ∧ ok = true := by
  have sent (cur : AState) (hc : cur = .firing ∨ cur = .normal) :
      (shouldSend cfg st cur now && ok) = true ↔
        (cur = .firing ∨ cur = .normal) ∧ shouldSend cfg st cur now = true ∧ ok = true :=
    Bool.and_eq_true_iff.trans (and_iff_right hc).symm
  cases m with
  | false => exact sent .normal (.inr rfl)
  | true =>
    dsimp only [evalStep]
    cases shouldFire cfg.n st.hist with
    | false => exact iff_of_false Bool.false_ne_true (fun h => h.1.elim nofun nofun)
    | true => exact sent .firing (.inl rfl)

/-- each evaluation runs under whatever configuration (of which `P` holds) and clock are read at that moment;
`outs` are the evaluations' answers -/
inductive Trace (P : Cfg → Prop) : St → List Out → St → Prop
  | done (st : St) : Trace P st [] st
  | eval {st st' : St} {outs : List Out} (cfg : Cfg) (now : Nat) (m ok : Bool) (hP : P cfg) :
      Trace P (evalStep cfg st now m ok).1 outs st' → Trace P st ((evalStep cfg st now m ok).2 :: outs) st'
  | row {st st' : St} {outs : List Out} : Trace P (configChange st) outs st' → Trace P st outs st'

theorem trace_runOps (cfg : Cfg) (s : Sys) (ops : List Op) :
    Trace (· = cfg) s.st (runOps cfg s ops).2 (runOps cfg s ops).1.st := by
  induction ops generalizing s with
  | nil => exact .done _
  | cons op ops ih =>
    cases op with
    | eval m ok => exact .eval cfg s.now m ok rfl (ih (stepOp cfg s (.eval m ok)).1)
    | tick k => exact ih (stepOp cfg s (.tick k)).1
    | cfgChange => exact .row (ih (stepOp cfg s .cfgChange).1)

/-- nothing is assumed of the clock: each notification was due when it was sent -/
theorem Trace.spaced {P : Cfg → Prop} {gap : Nat} (hP : ∀ cfg, P cfg → gap ≤ cfg.cooldown ∨ gap ≤ cfg.silence)
    {st st' : St} {outs : List Out} (h : Trace P st outs st') :
    (∀ o ∈ outs.filter (fun o => o.notified), ∀ t, st.lastSentTime = some t → t + gap ≤ o.time) ∧
    (outs.filter (fun o => o.notified)).Pairwise (fun a b => a.time + gap ≤ b.time) := by
  induction h with
  | done => exact ⟨fun _ h => (nomatch h), .nil⟩
  | row _ ih => exact ih
  | @eval st _ outs cfg now m ok hg _ ih =>
    have hdue : (evalStep cfg st now m ok).2.notified = true →
        ∀ t, st.lastSentTime = some t → t + gap ≤ now := fun hno t e =>
      have hs := (shouldSend_iff.1 (evalStep_notified_iff.1 hno).2.1).2
      (hP cfg hg).elim (fun g => Nat.le_trans (Nat.add_le_add_left g t) (minutesOver_iff.1 hs.1 t e))
        (fun g => Nat.le_trans (Nat.add_le_add_left g t) (minutesOver_iff.1 hs.2 t e))
    have hlast := evalStep_lastSentTime cfg st now m ok
    have htime := evalStep_time cfg st now m ok
    generalize evalStep cfg st now m ok = r at hdue hlast htime ih ⊢
    obtain ⟨ha, hb⟩ := ih
    cases hno : r.2.notified with
    | false =>
      rw [hno, if_neg Bool.false_ne_true] at hlast
      rw [List.filter_cons_of_neg (hno ▸ Bool.false_ne_true)]
      exact ⟨fun o ho t e => ha o ho t (hlast ▸ e), hb⟩
    | true =>
      rw [hno, if_pos rfl] at hlast
      rw [List.filter_cons_of_pos hno]
      refine ⟨fun o ho t e => ?_, List.pairwise_cons.2 ⟨fun b hb' => htime ▸ ha b hb' _ hlast, hb⟩⟩
      rcases List.mem_cons.1 ho with rfl | ho
      · exact htime ▸ hdue hno t e
      · exact Nat.le_trans (Nat.le_trans (hdue hno t e) (Nat.le_add_right ..)) (ha o ho _ hlast)

theorem Trace.unsent {P : Cfg → Prop} {st st' : St} {outs : List Out} (h : Trace P st outs st')
    (hq : outs.filter (fun o => o.notified) = []) :
    st'.lastSentTime = st.lastSentTime ∧ st'.lastSentState = st.lastSentState := by
  rw [List.filter_eq_nil_iff] at hq
  induction h with
  | done => exact ⟨rfl, rfl⟩
  | row _ ih => exact ih hq
  | @eval st _ outs cfg now m ok _ _ ih =>
    have h := ih fun o ho => hq o (List.mem_cons_of_mem _ ho)
    have hno := hq _ (List.mem_cons_self ..)
    refine ⟨h.1.trans ?_, h.2.trans ?_⟩
    · rw [evalStep_lastSentTime, if_neg hno]
    · rw [evalStep_lastSentState, if_neg hno]

/-- `last`: the state of the notification sent before -/
def chainOk : AState → List Out → Prop
  | _, [] => True
  | last, o :: r => (o.state = .firing ∨ (o.state = .normal ∧ last = .firing)) ∧ chainOk o.state r

theorem Trace.chain {P : Cfg → Prop} {st st' : St} {outs : List Out} (h : Trace P st outs st')
    (hp : st.lastSentState ≠ .pending) :
    chainOk st.lastSentState (outs.filter (fun o => o.notified)) := by
  induction h with
  | done => trivial
  | row _ ih => exact ih hp
  | @eval st _ outs cfg now m ok _ _ ih =>
    have hlast := evalStep_lastSentState cfg st now m ok
    cases hno : (evalStep cfg st now m ok).2.notified with
    | false =>
      rw [hno, if_neg Bool.false_ne_true] at hlast
      rw [List.filter_cons_of_neg (hno ▸ Bool.false_ne_true)]
      exact hlast ▸ ih (hlast ▸ hp)
    | true =>
      rw [hno, if_pos rfl] at hlast
      rw [List.filter_cons_of_pos hno]
      obtain ⟨hst, hdue, _⟩ := evalStep_notified_iff.1 hno
      refine ⟨hst.imp_right fun hn => ⟨hn, ?_⟩, hlast ▸ ih ?_⟩
      · have := (shouldSend_iff.1 hdue).1
        cases hl : st.lastSentState with
        | inactive => exact absurd ⟨hn, .inl hl⟩ this
        | normal => exact absurd ⟨hn, .inr hl⟩ this
        | pending => exact absurd hl hp
        | firing => rfl
      · rw [hlast]; exact hst.elim (fun e => e ▸ AState.noConfusion) (fun e => e ▸ AState.noConfusion)

theorem chainOk.spec {l : List Out} (h : chainOk .inactive l) :
    (∀ o ∈ l, o.state = .firing ∨ o.state = .normal) ∧
    (∀ o rest, l = o :: rest → o.state = .firing) ∧
    (∀ pre a b post, l = pre ++ a :: b :: post → b.state = .normal → a.state = .firing) := by
  refine ⟨?_, ?_, ?_⟩
  · generalize AState.inactive = last at h
    induction l generalizing last with
    | nil => exact fun _ h => nomatch h
    | cons x r ih =>
      intro o ho
      rcases List.mem_cons.1 ho with rfl | ho
      · exact h.1.imp_right (·.1)
      · exact ih _ h.2 o ho
  · rintro o rest rfl
    exact h.1.elim id fun g => nomatch g.2
  · rintro pre a b post rfl hb
    generalize AState.inactive = last at h
    induction pre generalizing last with
    | nil => exact h.2.1.elim (fun g => nomatch g.symm.trans hb) (·.2)
    | cons x r ih => exact ih _ h.2

end SigModel.Lemmas.C20
