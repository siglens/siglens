/-
Association lists.  The models keep their maps as `List (K × V)`, and each has its own read / overwrite / remove,
spelt its own way (`if k' = k` or `==`, key or list first, `Option` or a default value).  What a proof about them
uses is the recursion branch by branch, so the interface is the three branch equations of each function; for a
model's own function they hold by `rfl`, `if_pos rfl`, `if_neg h`.  The laws are proved once from the equations.
The instances: `Tenant.lookupT` / `putT` / `eraseT`, `WalRecover.lookup` / `flushTo` / `writeMnm`, `KV.AL.get` / `put` / `del`,
`TraceE2E.getKV` / `setKV`, `QTable.lookup` / `erase`, and core's `List.lookup` (`isGet_listLookup`: the Promql labels, the
seen-map of dedup).  Core Lean only.
-/
namespace SigModel.Assoc
variable {K V R : Type}

/-- `get k l` reads the first entry under `k`: `f` of its value, `d` when there is none -/
structure IsGet (get : K → List (K × V) → R) (f : V → R) (d : R) : Prop where
  nil : ∀ k, get k [] = d
  hit : ∀ k v r, get k ((k, v) :: r) = f v
  skip : ∀ k k' v r, k' ≠ k → get k ((k', v) :: r) = get k r

/-- `put k v l` overwrites the first entry under `k`, or appends one -/
structure IsPut (put : K → V → List (K × V) → List (K × V)) : Prop where
  nil : ∀ k v, put k v [] = [(k, v)]
  hit : ∀ k v v' r, put k v ((k, v') :: r) = (k, v) :: r
  skip : ∀ k v k' v' r, k' ≠ k → put k v ((k', v') :: r) = (k', v') :: put k v r

/-- `erase k l` drops every entry under `k` -/
structure IsErase (erase : K → List (K × V) → List (K × V)) : Prop where
  nil : ∀ k, erase k [] = []
  hit : ∀ k v r, erase k ((k, v) :: r) = erase k r
  skip : ∀ k k' v r, k' ≠ k → erase k ((k', v) :: r) = (k', v) :: erase k r

variable {get : K → List (K × V) → R} {f : V → R} {d : R} {put : K → V → List (K × V) → List (K × V)}
  {erase : K → List (K × V) → List (K × V)}

theorem IsGet.put_self (g : IsGet get f d) (p : IsPut put) (k : K) (v : V) (l : List (K × V)) :
    get k (put k v l) = f v := by
  induction l with
  | nil => rw [p.nil, g.hit]
  | cons e r ih =>
    obtain ⟨a, b⟩ := e
    by_cases ha : a = k
    · rw [ha, p.hit, g.hit]
    · rw [p.skip _ _ _ _ _ ha, g.skip _ _ _ _ ha, ih]

theorem IsGet.put_ne (g : IsGet get f d) (p : IsPut put) {k k' : K} (h : k' ≠ k) (v : V) (l : List (K × V)) :
    get k' (put k v l) = get k' l := by
  induction l with
  | nil => rw [p.nil, g.skip _ _ _ _ (Ne.symm h)]
  | cons e r ih =>
    obtain ⟨a, b⟩ := e
    by_cases ha : a = k
    · rw [ha, p.hit, g.skip _ _ _ _ (Ne.symm h), g.skip _ _ _ _ (Ne.symm h)]
    · rw [p.skip _ _ _ _ _ ha]
      by_cases hk : a = k'
      · rw [hk, g.hit, g.hit]
      · rw [g.skip _ _ _ _ hk, g.skip _ _ _ _ hk, ih]

theorem IsGet.get_put [DecidableEq K] (g : IsGet get f d) (p : IsPut put) (k : K) (v : V) (l : List (K × V)) (k' : K) :
    get k' (put k v l) = if k' = k then f v else get k' l := by
  split
  · next h => rw [h, g.put_self p]
  · next h => exact g.put_ne p h v l

theorem IsGet.get_filter (g : IsGet get f d) (p : K → Bool) (k : K) (l : List (K × V)) :
    get k (l.filter (fun x => p x.1)) = if p k then get k l else d := by
  induction l with
  | nil => rw [List.filter_nil, g.nil, ite_self]
  | cons x r ih =>
    obtain ⟨a, b⟩ := x
    rw [List.filter_cons]
    by_cases ha : a = k
    · subst ha
      cases hp : p a
      · rw [if_neg Bool.false_ne_true, ih, hp, if_neg Bool.false_ne_true, if_neg Bool.false_ne_true]
      · rw [if_pos rfl, if_pos rfl, g.hit, g.hit]
    · rw [g.skip _ _ _ _ ha]
      split
      · rw [g.skip _ _ _ _ ha, ih]
      · exact ih

theorem IsErase.eq_filter [DecidableEq K] (e : IsErase erase) (k : K) (l : List (K × V)) :
    erase k l = l.filter (fun x => !decide (x.1 = k)) := by
  induction l with
  | nil => exact e.nil k
  | cons x r ih =>
    obtain ⟨a, b⟩ := x
    by_cases ha : a = k
    · rw [ha, e.hit, ih, List.filter_cons_of_neg (by simp)]
    · rw [e.skip _ _ _ _ ha, ih, List.filter_cons_of_pos (by simpa using ha)]

theorem IsGet.get_erase [DecidableEq K] (g : IsGet get f d) (e : IsErase erase) (k : K) (l : List (K × V)) (k' : K) :
    get k' (erase k l) = if k' = k then d else get k' l := by
  rw [e.eq_filter, g.get_filter (fun x => !decide (x = k))]
  by_cases h : k' = k
  · rw [if_pos h, if_neg (by simp [h])]
  · rw [if_neg h, if_pos (by simpa using h)]

theorem IsPut.put_put (p : IsPut put) (k : K) (v w : V) (l : List (K × V)) : put k v (put k w l) = put k v l := by
  induction l with
  | nil => rw [p.nil, p.hit, p.nil]
  | cons x r ih =>
    obtain ⟨a, b⟩ := x
    by_cases ha : a = k
    · rw [ha, p.hit, p.hit, p.hit]
    · rw [p.skip _ _ _ _ _ ha, p.skip _ _ _ _ _ ha, p.skip _ _ _ _ _ ha, ih]

variable {geto : K → List (K × V) → Option V}

theorem IsGet.mem_of_get (g : IsGet geto some none) {k : K} {v : V} {l : List (K × V)} (h : geto k l = some v) :
    (k, v) ∈ l := by
  induction l with
  | nil => rw [g.nil] at h; cases h
  | cons x r ih =>
    obtain ⟨a, b⟩ := x
    by_cases ha : a = k
    · rw [ha, g.hit] at h; cases h; exact ha ▸ List.mem_cons_self
    · rw [g.skip _ _ _ _ ha] at h; exact List.mem_cons_of_mem _ (ih h)

theorem IsGet.mem_keys_iff (g : IsGet geto some none) (l : List (K × V)) (k : K) :
    k ∈ l.map Prod.fst ↔ geto k l ≠ none := by
  induction l with
  | nil => rw [g.nil]; exact ⟨nofun, fun h => absurd rfl h⟩
  | cons x r ih =>
    obtain ⟨a, b⟩ := x
    rw [List.map_cons, List.mem_cons]
    by_cases ha : a = k
    · rw [ha, g.hit]; exact ⟨fun _ => nofun, fun _ => .inl rfl⟩
    · rw [g.skip _ _ _ _ ha, ← ih]; exact ⟨fun h => h.resolve_left (Ne.symm ha), .inr⟩

theorem IsGet.get_of_mem (g : IsGet geto some none) {l : List (K × V)} (hn : (l.map Prod.fst).Nodup) {k : K} {v : V}
    (h : (k, v) ∈ l) : geto k l = some v := by
  induction l with
  | nil => cases h
  | cons x r ih =>
    obtain ⟨a, b⟩ := x
    rw [List.map_cons, List.nodup_cons] at hn
    rcases List.mem_cons.1 h with e | m
    · cases e; exact g.hit ..
    · have hak : a ≠ k := fun e => hn.1 (List.mem_map.2 ⟨(k, v), m, e.symm⟩)
      rw [g.skip _ _ _ _ hak]
      exact ih hn.2 m

theorem IsPut.mem_keys (p : IsPut put) (k : K) (v : V) (l : List (K × V)) (x : K) :
    x ∈ (put k v l).map Prod.fst ↔ x = k ∨ x ∈ l.map Prod.fst := by
  induction l with
  | nil => rw [p.nil]; exact List.mem_cons
  | cons e r ih =>
    obtain ⟨a, b⟩ := e
    by_cases ha : a = k
    · rw [ha, p.hit]
      exact ⟨.inr, fun h => h.elim (· ▸ List.mem_cons_self) id⟩
    · rw [p.skip _ _ _ _ _ ha, List.map_cons, List.map_cons, List.mem_cons, List.mem_cons, ih]
      exact or_left_comm

theorem IsPut.nodup_keys (p : IsPut put) (k : K) (v : V) {l : List (K × V)} (h : (l.map Prod.fst).Nodup) :
    ((put k v l).map Prod.fst).Nodup := by
  induction l with
  | nil => rw [p.nil]; exact List.nodup_cons.2 ⟨List.not_mem_nil, List.nodup_nil⟩
  | cons e r ih =>
    obtain ⟨a, b⟩ := e
    rw [List.map_cons, List.nodup_cons] at h
    by_cases ha : a = k
    · rw [ha, p.hit]; exact List.nodup_cons.2 (ha ▸ h)
    · rw [p.skip _ _ _ _ _ ha]
      exact List.nodup_cons.2 ⟨fun hm => ((p.mem_keys k v r a).1 hm).elim ha h.1, ih h.2⟩

/-- core's `List.lookup` is such a `get` -/
theorem isGet_listLookup [BEq K] [LawfulBEq K] : IsGet (fun k (l : List (K × V)) => l.lookup k) some none :=
  ⟨fun _ => rfl, fun _ _ _ => List.lookup_cons_self, fun _ _ _ _ h => by
    rw [List.lookup_cons, beq_false_of_ne (Ne.symm h)]⟩

end SigModel.Assoc
