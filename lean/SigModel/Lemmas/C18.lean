/-
Lemmas for C18 (checksummed chunk file, pkg/utils/checksumfile.go): what a word read sees, the file of a chunk list as a
concatenation, where chunk `k` stands in it, every way `readChunkAt` can end, and the `ReadAt` loop over intact
chunks.  "What stands at `off`" is always written `f.drop off = …`.
-/
import SigModel.Model.Checksum
import SigModel.Lemmas.C10
namespace SigModel.Lemmas.C18
open SigModel.Wal (Bytes le32 rd32)
open SigModel.Checksum
open SigModel.Lemmas.C10 (rd32_le32)

@[simp] theorem le32_length (n : Nat) : (le32 n).length = 4 := rfl

theorem magic_lt : magic < 4294967296 := by decide

theorem readU32At_le32 {f R : Bytes} {off v : Nat} (hf : f.drop off = le32 v ++ R) (hv : v < 4294967296) :
    readU32At f off = some v := by
  rw [readU32At, hf, rd32_le32 v R hv]

theorem readU32At_some {f : Bytes} {off v : Nat} (h : readU32At f off = some v) :
    ∃ a b c d R, f.drop off = a :: b :: c :: d :: R ∧ a + 256 * b + 65536 * c + 16777216 * d = v := by
  unfold readU32At at h
  generalize f.drop off = l at h ⊢
  revert h
  fun_cases rd32 l with
  | case1 a b c d R => exact fun h => ⟨a, b, c, d, R, rfl, Option.some.inj h⟩
  | case2 => exact fun h => absurd h.symm (Option.some_ne_none v)

theorem readU32At_take {f : Bytes} {n off v : Nat} (h : readU32At (f.take n) off = some v) :
    readU32At f off = some v := by
  obtain ⟨a, b, c, d, R, hd, hv⟩ := readU32At_some h
  -- the cut file from `off` on is a prefix of the whole file from `off` on
  have hf := List.take_append_drop (n - off) (f.drop off)
  rw [← List.drop_take, hd] at hf
  rw [readU32At, ← hf, ← hv]
  rfl

theorem drop_set_behind {f S post : Bytes} {off i : Nat} (b : Nat) (hf : f.drop off = S ++ post)
    (hi : off + S.length ≤ i) : (f.set i b).drop off = S ++ post.set (i - off - S.length) b := by
  rw [List.drop_set, if_neg (Nat.not_lt.mpr (Nat.le_trans (Nat.le_add_right _ _) hi)), hf,
    List.set_append_right _ _ (Nat.le_sub_of_add_le' hi)]

/-- what `AppendChunk(c)` adds to the file (`appendChunk_eq`) -/
def chunkBytes (crc : Bytes → Nat) (c : Bytes) : Bytes :=
  if c.isEmpty then [] else le32 magic ++ (le32 (crc c) ++ (le32 c.length ++ c))

theorem chunkBytes_of_ne (crc : Bytes → Nat) {c : Bytes} (h : c ≠ []) :
    chunkBytes crc c = le32 magic ++ (le32 (crc c) ++ (le32 c.length ++ c)) :=
  if_neg (mt List.isEmpty_iff.mp h)

theorem chunkBytes_length_of_ne (crc : Bytes → Nat) {c : Bytes} (h : c ≠ []) :
    (chunkBytes crc c).length = dataOffset + c.length := by
  rw [chunkBytes_of_ne crc h]
  -- the twelve header bytes are literal cons cells: the length computes to `c.length + 12`
  exact (Nat.add_comm c.length 12 :)

/-- the summand of `chunkStart` -/
theorem chunkBytes_length (crc : Bytes → Nat) (c : Bytes) :
    (chunkBytes crc c).length = if c.isEmpty then 0 else dataOffset + c.length := by
  by_cases h : c.isEmpty = true
  · rw [if_pos h, chunkBytes, if_pos h]
    rfl
  · rw [if_neg h, chunkBytes_length_of_ne crc (mt List.isEmpty_iff.mpr h)]

theorem appendChunk_eq (crc : Bytes → Nat) (f c : Bytes) :
    appendChunk crc f c = f ++ chunkBytes crc c := by
  unfold appendChunk chunkBytes
  by_cases h : c.isEmpty = true
  · rw [if_pos h, if_pos h, List.append_nil]
  · rw [if_neg h, if_neg h, List.append_assoc, List.append_assoc, List.append_assoc]

theorem foldl_appendChunk (crc : Bytes → Nat) (cs : List Bytes) (init : Bytes) :
    cs.foldl (appendChunk crc) init = init ++ (cs.map (chunkBytes crc)).flatten := by
  induction cs generalizing init with
  | nil => exact (List.append_nil _).symm
  | cons c cs ih =>
    rw [List.foldl_cons, ih, appendChunk_eq, List.append_assoc]
    rfl

theorem fileOf_eq (crc : Bytes → Nat) (cs : List Bytes) :
    fileOf crc cs = (cs.map (chunkBytes crc)).flatten :=
  foldl_appendChunk crc cs []

theorem fileOf_snoc (crc : Bytes → Nat) (cs : List Bytes) (c : Bytes) :
    fileOf crc (cs ++ [c]) = appendChunk crc (fileOf crc cs) c := by
  rw [fileOf, List.foldl_append]
  rfl

theorem fileOf_nil (crc : Bytes → Nat) : fileOf crc [] = [] := rfl

theorem fileOf_cons (crc : Bytes → Nat) (c : Bytes) (cs : List Bytes) :
    fileOf crc (c :: cs) = chunkBytes crc c ++ fileOf crc cs := by
  rw [fileOf_eq, fileOf_eq]
  rfl

theorem fileOf_append (crc : Bytes → Nat) (A B : List Bytes) :
    fileOf crc (A ++ B) = fileOf crc A ++ fileOf crc B := by
  rw [fileOf_eq, fileOf_eq, fileOf_eq, List.map_append, List.flatten_append]

theorem chunkStart_eq (crc : Bytes → Nat) (chunks : List Bytes) (k : Nat) :
    chunkStart chunks k = (fileOf crc (chunks.take k)).length := by
  rw [fileOf_eq, List.length_flatten, List.map_map]
  exact congrArg (fun w => ((chunks.take k).map w).sum) (funext fun c => (chunkBytes_length crc c).symm)

theorem chunkStart_mono (chunks : List Bytes) {j k : Nat} (h : j ≤ k) :
    chunkStart chunks j ≤ chunkStart chunks k := by
  rw [← Nat.add_sub_cancel' h, chunkStart, chunkStart, List.take_add, List.map_append, List.sum_append]
  exact Nat.le_add_right _ _

theorem fileOf_drop (crc : Bytes → Nat) (chunks : List Bytes) (k : Nat) :
    (fileOf crc chunks).drop (chunkStart chunks k) = fileOf crc (chunks.drop k) := by
  have h := fileOf_append crc (chunks.take k) (chunks.drop k)
  rw [List.take_append_drop] at h
  rw [h]
  exact List.drop_left' (chunkStart_eq crc chunks k).symm

theorem fileOf_at (crc : Bytes → Nat) (chunks : List Bytes) (k : Nat) (hk : k < chunks.length) :
    chunks[k]! ∈ chunks ∧
      (fileOf crc chunks).drop (chunkStart chunks k) = chunkBytes crc chunks[k]! ++ fileOf crc (chunks.drop (k + 1)) ∧
      chunkStart chunks (k + 1) = chunkStart chunks k + (chunkBytes crc chunks[k]!).length := by
  rw [getElem!_pos chunks k hk, fileOf_drop, List.drop_eq_getElem_cons hk, fileOf_cons]
  refine ⟨List.getElem_mem hk, rfl, ?_⟩
  rw [chunkStart_eq crc, chunkStart_eq crc, List.take_succ_eq_append_getElem hk, fileOf_snoc, appendChunk_eq,
    List.length_append]

theorem readChunkAt_cases (crc : Bytes → Nat) (f : Bytes) (n off : Nat) :
    readChunkAt crc f n off = Rd.fail ∨
    (∃ m m0, readU32At f off = some m ∧ m ≠ magic ∧ readU32At f 0 = some m0 ∧ m0 ≠ magic) ∨
    (∃ sum len, readU32At f (off + 4) = some sum ∧ readU32At f (off + 8) = some len ∧ len ≤ n ∧
      crc ((f.drop (off + dataOffset)).take len) = sum ∧
      readChunkAt crc f n off =
        if ((f.drop (off + dataOffset)).take len).length < len
        then Rd.okEof ((f.drop (off + dataOffset)).take len)
        else Rd.ok ((f.drop (off + dataOffset)).take len)) := by
  -- the branches of `readChunkAt` in source order: 4, 5 the legacy fallback (short, full read); 8, 9 a matching
  -- checksum (short, full read); every other one returns `.fail`
  fun_cases readChunkAt crc f n off
  case case4 m hm hne m0 hm0 hne0 _ _ => exact Or.inr (Or.inl ⟨m, m0, hm, hne, hm0, hne0⟩)
  case case5 m hm hne m0 hm0 hne0 _ _ => exact Or.inr (Or.inl ⟨m, m0, hm, hne, hm0, hne0⟩)
  case case8 sum len h8 h4 hle _ hcrc hlt =>
    exact Or.inr (Or.inr ⟨sum, len, h4, h8, Nat.not_lt.mp hle, Decidable.not_not.mp hcrc, (if_pos hlt).symm⟩)
  case case9 sum len h8 h4 hle _ hcrc hlt =>
    exact Or.inr (Or.inr ⟨sum, len, h4, h8, Nat.not_lt.mp hle, Decidable.not_not.mp hcrc, (if_neg hlt).symm⟩)
  all_goals exact Or.inl rfl

theorem readU32At_hdr (crc : Bytes → Nat) {f post c : Bytes} {off : Nat}
    (hf : f.drop off = chunkBytes crc c ++ post) (hc : c ≠ [])
    (hl : c.length < 4294967296) (hs : crc c < 4294967296) :
    readU32At f off = some magic ∧ readU32At f (off + 4) = some (crc c) ∧
      readU32At f (off + 8) = some c.length ∧ f.drop (off + dataOffset) = c ++ post := by
  rw [chunkBytes_of_ne crc hc, List.append_assoc, List.append_assoc, List.append_assoc] at hf
  -- `drop 4`, `drop 8`, `drop 12` of the header compute on the four-byte literals of `le32`
  exact ⟨readU32At_le32 hf magic_lt, readU32At_le32 (List.drop_drop.symm.trans (congrArg (List.drop 4) hf)) hs,
    readU32At_le32 (List.drop_drop.symm.trans (congrArg (List.drop 8) hf)) hl,
    List.drop_drop.symm.trans (congrArg (List.drop dataOffset) hf)⟩

theorem readChunkAt_chunk (crc : Bytes → Nat) {f post c : Bytes} {n off : Nat}
    (hf : f.drop off = chunkBytes crc c ++ post) (hc : c ≠ [])
    (hl : c.length < 4294967296) (hs : crc c < 4294967296) (hn : c.length ≤ n) :
    readChunkAt crc f n off = Rd.ok c := by
  obtain ⟨h0, h4, h8, hd⟩ := readU32At_hdr crc hf hc hl hs
  unfold readChunkAt
  rw [h0]
  dsimp only
  rw [if_neg (not_not_intro rfl), h4, h8]
  dsimp only
  rw [if_neg (Nat.not_lt.mpr hn), hd, List.take_left, if_neg (not_not_intro rfl), if_neg (Nat.lt_irrefl _)]

/-- the loop's file offset after a chunk of `c` bytes: `a` bytes served before it, `i` headers skipped -/
theorem loop_pos (off a c i : Nat) :
    off + (a + c) + (i + 1) * dataOffset = off + a + i * dataOffset + (dataOffset + c) := by
  rw [Nat.succ_mul, ← Nat.add_assoc off, Nat.add_add_add_comm, Nat.add_comm c]

/-- Stated at the loop's test (the `if`), so that `L = []` is the exit.  The fuel bound: every round uses up one unit
of fuel and at least one byte of the file. -/
theorem readAtLoop_chunks (crc : Bytes → Nat) (f Y : Bytes) (n off : Nat) (L : List Bytes) :
    (∀ c ∈ L, c ≠ [] ∧ c.length < 4294967296 ∧ crc c < 4294967296) →
    ∀ (acc : Bytes) (i fuel : Nat), f.drop (off + acc.length + i * dataOffset) = fileOf crc L ++ Y →
      (fileOf crc L).length ≤ fuel → n = acc.length + L.flatten.length →
      (if acc.length ≥ n then (acc, false) else readAtLoop crc f n off fuel i acc) = (acc ++ L.flatten, false) := by
  induction L with
  | nil =>
    intro _ acc _ _ _ _ hn
    rw [if_pos (Nat.le_of_eq hn : acc.length ≥ n), List.flatten_nil, List.append_nil]
  | cons c cs ih =>
    intro hwf acc i fuel hf hfuel hn
    obtain ⟨hc, hl, hs⟩ := hwf c List.mem_cons_self
    have hw := chunkBytes_length_of_ne crc hc
    rw [fileOf_cons, List.append_assoc] at hf
    rw [fileOf_cons, List.length_append, hw] at hfuel
    rw [List.flatten_cons, List.length_append] at hn
    have hpos : 0 < c.length := List.length_pos_iff.mpr hc
    have hlt : (fileOf crc cs).length < fuel :=
      Nat.lt_of_lt_of_le (Nat.lt_add_of_pos_left (Nat.add_pos_right _ hpos)) hfuel
    obtain ⟨fuel, rfl⟩ := Nat.exists_eq_add_one_of_ne_zero (Nat.ne_zero_of_lt hlt)
    have hread := readChunkAt_chunk crc hf hc hl hs
      (Nat.le_sub_of_add_le' (Nat.le_trans (Nat.add_le_add_left (Nat.le_add_right _ _) _) (Nat.le_of_eq hn.symm)))
    rw [if_neg (Nat.not_le.mpr (Nat.lt_of_lt_of_eq (Nat.lt_add_of_pos_right (Nat.add_pos_left hpos _)) hn.symm))]
    unfold readAtLoop
    rw [hread]
    dsimp only
    refine (ih (fun x hx => hwf x (List.mem_cons_of_mem _ hx)) (acc ++ c) (i + 1) fuel ?_ (Nat.le_of_lt_succ hlt)
      ?_).trans (congrArg (·, false) (List.append_assoc acc c cs.flatten))
    · rw [List.length_append, loop_pos, ← List.drop_drop, hf, ← hw, List.drop_left]
    · rw [hn, List.length_append, Nat.add_assoc]

theorem readAt_chunks (crc : Bytes → Nat) {f Y : Bytes} {off : Nat} (L : List Bytes)
    (hf : f.drop off = fileOf crc L ++ Y)
    (hwf : ∀ c ∈ L, c ≠ [] ∧ c.length < 4294967296 ∧ crc c < 4294967296) (hL : L ≠ []) :
    readAt crc f L.flatten.length off = (L.flatten, false) := by
  obtain ⟨c, cs, rfl⟩ := List.exists_cons_of_ne_nil hL
  have hpos : ¬ ([] : Bytes).length ≥ (c :: cs).flatten.length := by
    rw [List.flatten_cons, List.length_append]
    exact Nat.not_le.mpr (Nat.add_pos_left (List.length_pos_iff.mpr (hwf c List.mem_cons_self).1) _)
  refine (if_neg hpos).symm.trans (readAtLoop_chunks crc f Y _ off _ hwf [] 0 _ hf ?_ (Nat.zero_add _).symm)
  -- the fuel `f.length + 2` is enough: the chunks of `L` are a stretch of `f`
  have h := congrArg List.length hf
  rw [List.length_drop, List.length_append] at h
  exact Nat.le_trans (Nat.le_add_right _ _) (h ▸ Nat.le_trans (Nat.sub_le _ _) (Nat.le_add_right _ _))

end SigModel.Lemmas.C18
