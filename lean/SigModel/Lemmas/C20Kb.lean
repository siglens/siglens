/-
The index-alias store.  Both images — the alias files, (org, index) ↦ alias names, and the in-memory map
`aliasToIndexNames`, (org, alias) ↦ index names — are maps from a key to a set of names: `has` reads either, and
`removeMem` is `removeFile` with the roles of alias and index exchanged.  `MemOk`: the two are inverse to each other.
At the end, the `_aliases` request as a run of operations.
-/
import SigModel.Lemmas.C20K

namespace SigModel.Lemmas.C20K.Alias
open SigModel.KV SigModel.KV.Alias

abbrev M := AL (Nat × Key) (List Key)

def has (m : M) (k : Nat × Key) (x : Key) : Prop := x ∈ (m.get k).getD []

theorem validIndex_ne_nil {i : Key} (h : validIndex i = true) : i ≠ [] :=
  fun e => absurd (e ▸ h) (by decide)

theorem mem_of_get {m : M} (k : Nat × Key) (l : List Key) (h : m.get k = some l) : (k, l) ∈ m :=
  C20K.mem_of_get h

theorem has_nil (k : Nat × Key) (x : Key) : ¬ has [] k x := List.not_mem_nil

theorem has_iff_mem {m : M} (h : m.keys.Nodup) (k : Nat × Key) (x : Key) : has m k x ↔ ∃ l, (k, l) ∈ m ∧ x ∈ l := by
  unfold has
  constructor
  · intro hx
    cases hg : m.get k with
    | none =>
      rw [hg] at hx
      exact absurd hx List.not_mem_nil
    | some l =>
      rw [hg] at hx
      exact ⟨l, C20K.mem_of_get hg, hx⟩
  · intro ⟨l, hm, hx⟩
    rw [(mem_iff_get m h k l).1 hm]
    exact hx

/-- the file side of `AddAliases`, and `putAliasToIndexInMem` -/
theorem has_put_insSet (m : M) (k : Nat × Key) (x : Key) (k' : Nat × Key) (y : Key) :
    has (m.put k (insSet ((m.get k).getD []) x)) k' y ↔ has m k' y ∨ (k' = k ∧ y = x) := by
  unfold has
  by_cases e : k' = k
  · rw [e, get_put, if_pos rfl]
    exact (mem_insSet _ x y).trans (or_congr_right (and_iff_right rfl).symm)
  · rw [get_put_ne _ _ e]
    exact (or_iff_left fun h => e h.1).symm

theorem has_putMem (m : M) (t : Nat) (a i : Key) (k : Nat × Key) (x : Key) :
    has (putMem m t a i) k x ↔ has m k x ∨ (k = (t, a) ∧ x = i ∧ a ≠ [] ∧ i ≠ []) := by
  unfold putMem
  by_cases h : a = [] ∨ i = []
  · rw [if_pos h]
    exact (or_iff_left fun h' => h.elim h'.2.2.1 h'.2.2.2).symm
  · rw [if_neg h, has_put_insSet]
    exact or_congr_right (and_congr_right fun _ => (and_iff_left (not_or.1 h)).symm)

theorem has_foldl {B : Type} (g : M → B → M) (P : B → Nat × Key → Key → Prop)
    (hg : ∀ m b k x, has (g m b) k x ↔ has m k x ∨ P b k x) (l : List B) :
    ∀ m k x, has (l.foldl g m) k x ↔ has m k x ∨ ∃ b ∈ l, P b k x := by
  induction l with
  | nil => intro m k x; simp
  | cons b r ih =>
    intro m k x
    rw [List.foldl_cons, ih, hg, or_assoc]
    simp only [List.mem_cons, exists_eq_or_imp]

/-- the loop of `AddAliases` over the index' aliases -/
theorem has_fold_putMem (cur : List Key) (t : Nat) (i : Key) (m : M) (k : Nat × Key) (x : Key) :
    has (cur.foldl (fun m key => putMem m t key i) m) k x ↔
      has m k x ∨ (k.1 = t ∧ x = i ∧ k.2 ∈ cur ∧ k.2 ≠ [] ∧ i ≠ []) := by
  rw [has_foldl _ (fun key k x => k = (t, key) ∧ x = i ∧ key ≠ [] ∧ i ≠ []) (fun m key => has_putMem m t key i)]
  refine or_congr_right ⟨?_, ?_⟩
  · rintro ⟨key, hk, rfl, hx, h⟩
    exact ⟨rfl, hx, hk, h⟩
  · rintro ⟨rfl, hx, hk, h⟩
    exact ⟨k.2, hk, rfl, hx, h⟩

theorem has_rebuild {files : M} (h : files.keys.Nodup) (t : Nat) (a i : Key) :
    has (rebuild files) (t, a) i ↔ has files (t, i) a ∧ a ≠ [] ∧ i ≠ [] := by
  unfold rebuild
  rw [has_foldl _ (fun e k x => k.1 = e.1.1 ∧ x = e.1.2 ∧ k.2 ∈ e.2 ∧ k.2 ≠ [] ∧ e.1.2 ≠ [])
    (fun m e => has_fold_putMem e.2 e.1.1 e.1.2 m), or_iff_right (has_nil _ _), has_iff_mem h]
  constructor
  · rintro ⟨⟨⟨t', i'⟩, l⟩, he, rfl, rfl, h⟩
    exact ⟨⟨l, he, h.1⟩, h.2⟩
  · rintro ⟨⟨l, he, ha⟩, h⟩
    exact ⟨((t, i), l), he, rfl, rfl, ha, h⟩

/-- `ne`: an emptied set goes with its key (`removeFile`; in the memory map by patch c20-2) -/
structure Wf (m : M) : Prop where
  nodup : m.keys.Nodup
  ne : ∀ k, m.get k ≠ some []

theorem wf_nil : Wf [] := ⟨List.nodup_nil, fun _ => (Option.some_ne_none _).symm⟩

theorem wf_put {m : M} (h : Wf m) (k : Nat × Key) {l : List Key} (hl : l ≠ []) : Wf (m.put k l) :=
  ⟨keys_put_nodup m k l h.nodup, fun k' => by
    rw [get_put]
    exact iteInduction (motive := (· ≠ some [])) (fun _ e => hl (Option.some.inj e)) fun _ => h.ne k'⟩

theorem wf_del {m : M} (h : Wf m) (k : Nat × Key) : Wf (m.del k) :=
  ⟨keys_del_nodup _ _ h.nodup, fun k' e => h.ne k' (get_del_some e)⟩

theorem wf_putMem {m : M} (h : Wf m) (t : Nat) (a i : Key) : Wf (putMem m t a i) :=
  iteInduction (fun _ => h) fun _ => wf_put h _ (insSet_ne_nil _ i)

theorem wf_rebuild (files : M) : Wf (rebuild files) :=
  List.foldlRecOn files _ wf_nil fun _ h e _ => List.foldlRecOn e.2 _ h fun _ h a _ => wf_putMem h e.1.1 a e.1.2

theorem del_of_get_none {m : M} {k : Nat × Key} (h : m.get k = none) : m.del k = m :=
  List.filter_eq_self.2 fun e he =>
    congrArg (!·) (decide_eq_false fun hk : e.1 = k => (mem_keys_iff_get m k).1 (hk ▸ List.mem_map_of_mem he) h)

/-- `removeFile` in the shape of `specStep` and `OutOk` -/
theorem removeFile_eq (f : M) (t : Nat) (i a : Key) :
    removeFile f t i a =
      (if delSet ((f.get (t, i)).getD []) a = [] then f.del (t, i) else f.put (t, i) (delSet ((f.get (t, i)).getD []) a),
       if delSet ((f.get (t, i)).getD []) a = [] ∧ f.get (t, i) = none then .notFound else .ok) := by
  unfold removeFile
  cases hg : f.get (t, i) with
  | none => exact congrArg (·, Res.notFound) (del_of_get_none hg).symm
  | some l =>
    rw [if_neg fun h : _ ∧ _ => Option.some_ne_none l h.2]
    exact (apply_ite (·, Res.ok) _ _ _).symm

theorem get_removeFile (f : M) (t : Nat) (i a : Key) (k' : Nat × Key) :
    (removeFile f t i a).1.get k' =
      if k' = (t, i) then
        if delSet ((f.get (t, i)).getD []) a = [] then none else some (delSet ((f.get (t, i)).getD []) a)
      else f.get k' := by
  rw [removeFile_eq]
  by_cases hc : delSet ((f.get (t, i)).getD []) a = []
  · rw [if_pos hc, if_pos hc]
    exact get_del f (t, i) k'
  · rw [if_neg hc, if_neg hc]
    exact get_put f (t, i) _ k'

theorem wf_removeFile {f : M} (h : Wf f) (t : Nat) (i a : Key) : Wf (removeFile f t i a).1 := by
  rw [removeFile_eq]
  exact iteInduction (motive := Wf) (fun _ => wf_del h _) fun hc => wf_put h _ hc

theorem has_removeFile (f : M) (t : Nat) (i a : Key) (k' : Nat × Key) (x : Key) :
    has (removeFile f t i a).1 k' x ↔ has f k' x ∧ ¬(k'.1 = t ∧ k'.2 = i ∧ x = a) := by
  unfold has
  rw [get_removeFile]
  by_cases e : k' = (t, i)
  · have hd : ∀ l : List Key, (if l = [] then none else some l).getD [] = l := fun l =>
      iteInduction (motive := fun o : Option (List Key) => o.getD [] = l) Eq.symm fun _ => rfl
    rw [if_pos e, e, hd, mem_delSet]
    exact and_congr_right fun _ => not_congr ⟨fun hx => ⟨rfl, rfl, hx⟩, fun hx => hx.2.2⟩
  · rw [if_neg e]
    exact (and_iff_left fun h => e (Prod.ext h.1 h.2.1)).symm

theorem removeMem_eq (m : M) (t : Nat) (i a : Key) : removeMem m t i a = (removeFile m t a i).1 := by
  unfold removeMem removeFile
  cases m.get (t, a) with
  | none => rfl
  | some l =>
    exact (apply_ite Prod.fst (delSet l i = []) (m.del (t, a), Res.ok) (m.put (t, a) (delSet l i), Res.ok)).symm

structure MemOk (st : St) : Prop where
  mem : Wf st.mem
  files : Wf st.files
  inverse : ∀ t a i, has st.mem (t, a) i ↔ has st.files (t, i) a
  /-- the alias' half is patch c20-14; without it `initializeAliasToIndexMap`, which skips empty names, would not
  rebuild the same map -/
  valid : ∀ t i a, has st.files (t, i) a → validIndex i = true ∧ validIndex a = true

theorem memOk_init : MemOk init :=
  ⟨wf_nil, wf_nil, fun _ _ _ => iff_of_false (has_nil _ _) (has_nil _ _), fun _ _ _ h => absurd h (has_nil _ _)⟩

theorem memOk_add {st : St} (h : MemOk st) (t : Nat) {i a : Key} (hi : validIndex i = true) (ha : validIndex a = true) :
    MemOk (addAlias st t i a).1 where
  files := wf_put h.files _ (insSet_ne_nil _ a)
  mem := List.foldlRecOn _ _ h.mem fun _ hm key _ => wf_putMem hm t key i
  inverse t' a' i' := by
    -- the loop puts the aliases the file held before, which memory has already, and the new one
    refine (has_fold_putMem _ t i st.mem (t', a') i').trans (Iff.trans ?_ (has_put_insSet st.files (t, i) a (t', i') a').symm)
    constructor
    · rintro (hm | ⟨rfl, rfl, hc, -⟩)
      · exact Or.inl ((h.inverse t' a' i').1 hm)
      · exact ((mem_insSet _ a a').1 hc).imp id fun e => ⟨rfl, e⟩
    · rintro (hf | ⟨e, rfl⟩)
      · exact Or.inl ((h.inverse t' a' i').2 hf)
      · cases e
        exact Or.inr ⟨rfl, rfl, (mem_insSet _ a' a').2 (Or.inr rfl), validIndex_ne_nil ha, validIndex_ne_nil hi⟩
  valid t' i' a' hf := by
    rcases (has_put_insSet st.files (t, i) a (t', i') a').1 hf with hf | ⟨e, rfl⟩
    · exact h.valid t' i' a' hf
    · cases e
      exact ⟨hi, ha⟩

theorem memOk_remove {st : St} (h : MemOk st) (t : Nat) (i a : Key) :
    MemOk { files := (removeFile st.files t i a).1, mem := removeMem st.mem t i a } where
  files := wf_removeFile h.files t i a
  mem := removeMem_eq st.mem t i a ▸ wf_removeFile h.mem t a i
  inverse t' a' i' := by
    show has (removeMem st.mem t i a) (t', a') i' ↔ has (removeFile st.files t i a).1 (t', i') a'
    rw [removeMem_eq, has_removeFile, has_removeFile]
    exact and_congr (h.inverse t' a' i') (not_congr (and_congr_right fun _ => and_comm))
  valid t' i' a' hf := h.valid t' i' a' ((has_removeFile st.files t i a (t', i') a').1 hf).1

theorem memOk_restart {st : St} (h : MemOk st) : MemOk { st with mem := rebuild st.files } where
  files := h.files
  mem := wf_rebuild _
  inverse t a i := (has_rebuild h.files.nodup t a i).trans (and_iff_left_of_imp fun hf =>
    ⟨validIndex_ne_nil (h.valid t i a hf).2, validIndex_ne_nil (h.valid t i a hf).1⟩)
  valid := h.valid

theorem flush_id {st : St} (h : MemOk st) : flush st.files st.mem = st.files :=
  foldl_fix _ _ _ fun e he => foldl_fix _ _ _ fun i hi =>
    if_pos ((h.inverse e.1.1 e.1.2 i).1 ((has_iff_mem h.mem.nodup _ _).2 ⟨e.2, he, hi⟩))

theorem abs_set {st st' : St} {t : Nat} {i : Key} {o : Option (List Key)}
    (h : ∀ k', st'.files.get k' = if k' = (t, i) then o else st.files.get k') : abs st' = (abs st).set t i o := by
  funext t' i'
  show st'.files.get (t', i') = if t' = t ∧ i' = i then o else st.files.get (t', i')
  simp only [h, Prod.mk.injEq]

theorem list_ok {st : St} (h : MemOk st) (t : Nat) : OutOk (abs st) (.list t) (step st (.list t)).2 := by
  have hl : ∀ a is, (a, is) ∈ (st.mem.filter (fun e => e.1.1 = t)).map (fun e => (e.1.2, e.2)) ↔
      ((t, a), is) ∈ st.mem := fun a is => by
    rw [List.mem_map]
    constructor
    · rintro ⟨⟨⟨t', a'⟩, is'⟩, hm, e⟩
      cases e
      cases of_decide_eq_true (List.mem_filter.1 hm).2
      exact (List.mem_filter.1 hm).1
    · exact fun hm => ⟨((t, a), is), List.mem_filter.2 ⟨hm, decide_eq_true rfl⟩, rfl⟩
  refine ⟨?_, fun a is hm => ?_, fun a i _ hf => ?_⟩
  · rw [List.map_map]
    -- two keys of org `t` with the same name are the same key
    refine List.pairwise_map.2 (((List.pairwise_map.1 h.mem.nodup).filter _).imp_of_mem fun hx hy hne e => hne ?_)
    exact Prod.ext ((of_decide_eq_true (List.mem_filter.1 hx).2).trans (of_decide_eq_true (List.mem_filter.1 hy).2).symm) e
  · have hg := (mem_iff_get _ h.mem.nodup _ _).1 ((hl a is).1 hm)
    refine ⟨fun e => h.mem.ne (t, a) (e ▸ hg), fun i => Iff.trans ?_ (h.inverse t a i)⟩
    unfold has
    rw [hg]
    rfl
  · obtain ⟨is, hm, _⟩ := (has_iff_mem h.mem.nodup _ _).1 ((h.inverse t a i).2 hf)
    exact ⟨is, (hl a is).2 hm⟩

theorem step_ok {st : St} (h : MemOk st) (op : Op) :
    MemOk (step st op).1 ∧ abs (step st op).1 = specStep (abs st) op ∧ OutOk (abs st) op (step st op).2 := by
  cases op with
  | add t i a =>
    dsimp only [step, specStep, OutOk]
    cases hi : validIndex i
    · exact ⟨h, rfl, rfl⟩
    cases ha : validIndex a
    · exact ⟨h, rfl, rfl⟩
    exact ⟨memOk_add h t hi ha, abs_set (get_put st.files (t, i) _), rfl⟩
  | remove t i a =>
    dsimp only [step, specStep, OutOk]
    cases validIndex i
    · exact ⟨h, rfl, rfl⟩
    exact ⟨memOk_remove h t i a, (abs_set (get_removeFile st.files t i a)).trans (apply_ite ((abs st).set t i) _ _ _),
      congrArg (fun r : M × Res => Out.res r.2) (removeFile_eq st.files t i a)⟩
  | get t i =>
    dsimp only [step, OutOk]
    cases validIndex i <;> exact ⟨h, rfl, rfl⟩
  | list t => exact ⟨h, rfl, list_ok h t⟩
  | resolve t a =>
    exact ⟨h, rfl, fun i => (h.inverse t a i).trans
      (and_iff_right_of_imp fun hf => validIndex_ne_nil (h.valid t i a hf).2).symm⟩
  | restart => exact ⟨memOk_restart h, rfl, rfl⟩
  | graceful =>
    dsimp only [step]
    rw [flush_id h]
    exact ⟨memOk_restart h, rfl, rfl⟩

/-- the alias files ARE the keyed store; `MemOk` is needed at the graceful shutdown only, where
`FlushAliasMapToFile` finds every pair of the memory map in the files already -/
theorem abs_step {st : St} (h : MemOk st) (op : Op) : abs (step st op).1 = specStep (abs st) op := (step_ok h op).2.1

theorem refines_of_memOk (ops : List Op) : ∀ (st : St), MemOk st → Refines (abs st) st ops :=
  refines_of_step (step := fun st op => (step st op).1) (next := fun s _ op => specStep s op)
    (ok := fun s st op => OutOk s op (step st op).2) (fun _ _ => trivial) (fun _ _ _ _ h1 h2 h3 => ⟨h1, h2, h3⟩)
    (fun _ op h => step_ok h op) ops

theorem memOk_run (ops : List Op) : MemOk (run init ops).1 :=
  run_keeps (step := step) (P := MemOk) (fun _ => rfl) (fun _ _ _ => rfl) (fun _ op h => (step_ok h op).1) ops init memOk_init

theorem abs_init : abs init = Spec.empty := rfl

theorem post_is_run (l : List (Option Op)) (st : St) : (postRun st l).1 = (run st (executed st l)).1 := by
  fun_induction postRun st l with
  | case1 st => rfl
  | case2 st r => rfl
  | case3 st op r h ih =>
    rw [executed, if_pos h]
    exact ih
  | case4 st op r h =>
    rw [executed, if_neg h]
    rfl

theorem post_ack (l : List (Option Op)) (st : St) (hk : (postRun st l).2 = true) :
    none ∉ l ∧ executed st l = l.filterMap id := by
  fun_induction postRun st l with
  | case1 st => exact ⟨List.not_mem_nil, rfl⟩
  | case2 st r => exact absurd hk Bool.false_ne_true
  | case3 st op r h ih =>
    rw [executed, if_pos h]
    exact ⟨fun hm => (List.mem_cons.1 hm).elim (Option.some_ne_none op).symm (ih hk).1, congrArg (op :: ·) (ih hk).2⟩
  | case4 st op r h => exact absurd hk Bool.false_ne_true

theorem run_append (a b : List Op) : ∀ (st : St), (run st (a ++ b)).1 = (run (run st a).1 b).1 := by
  induction a with
  | nil => intro st; rfl
  | cons op r ih => intro st; simp only [List.cons_append, run]; exact ih _

end SigModel.Lemmas.C20K.Alias
