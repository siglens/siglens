import SigModel.Model.Retention
import SigModel.Lemmas.InsertSort
import SigModel.Lemmas.MachInt
/-! Lemmas for C14 (retention).  The horizon, inside the int64/uint64 range and wrapped.  The micro-steps of
`DeleteSegmentData` are filters on one store each, so a run is one filter of the store: it keeps what none of its steps
removes (`run_eq`), and the complete step list removes what a victim owns (`owns`); on this rest the frame, the pass in
closed form and the interrupted and repeated pass, before and after the repair.  The volume pass: its stable sort and
its marking loop, which marks a prefix. -/
namespace SigModel.Lemmas.C14
open SigModel.Retention

/-! ### horizon arithmetic -/

theorem two64_eq : (two64 : Int) = two63 + two63 := by decide

/-- `Retention.wrapS64` is `MachInt.wrapS64` with the constants named -/
theorem wrapS64_id (x : Int) (h1 : -(two63 : Int) ≤ x) (h2 : x < (two63 : Int)) : wrapS64 x = x :=
  MachInt.wrapS64_id x h1 h2

theorem toU64_id (x : Int) (h1 : 0 ≤ x) (h2 : x < (two64 : Int)) : (toU64 x : Int) = x := by
  unfold toU64
  rw [Int.emod_eq_of_lt h1 h2, Int.toNat_of_nonneg h1]

theorem toU64_neg (x : Int) (h1 : x < 0) (h2 : -(two63 : Int) ≤ x) : two63 ≤ toU64 x := by
  have h0 : 0 ≤ x + two63 := Int.add_nonneg_iff_neg_le.mpr h2
  have hn : 0 ≤ x + two63 + two63 := Int.add_nonneg h0 (Int.natCast_nonneg _)
  have hlt : x + two63 + two63 < two63 + two63 :=
    Int.add_lt_add_right (Int.add_lt_of_lt_sub_right ((Int.sub_self _).symm ▸ h1)) _
  unfold toU64
  rw [← Int.add_emod_right, two64_eq, ← Int.add_assoc, Int.emod_eq_of_lt hn hlt]
  exact (Int.le_toNat hn).mpr (Int.le_add_of_nonneg_left h0)

/-- 2562047 = ⌊2^63 ns / 1 h⌋ (292 years): below it neither int64 operation wraps -/
theorem negRetDur (hours : Int) (h0 : 0 ≤ hours) (h1 : hours < 2562047) :
    wrapS64 (- retDurNs hours) = - (hours * 3600000) * 1000000 := by
  have hd0 : 0 ≤ hours * 3600000000000 := Int.mul_nonneg h0 (by decide)
  have hd : hours * 3600000000000 < two63 :=
    Int.lt_of_lt_of_le (Int.mul_lt_mul_of_pos_right h1 (by decide)) (by decide)
  unfold retDurNs nsPerHour
  rw [wrapS64_id _ (Int.le_trans (by decide) hd0) hd,
    wrapS64_id _ (Int.neg_le_neg (Int.le_of_lt hd)) (Int.lt_of_le_of_lt (Int.neg_nonpos_of_nonneg hd0) (by decide)),
    Int.neg_mul, Int.mul_assoc]
  rfl

theorem horizonNs_toU64 (nowNs : Nat) (hours : Int) (h0 : 0 ≤ hours) (h1 : hours < 2562047) :
    horizonNs nowNs hours = toU64 (((nowNs / 1000000 : Nat) : Int) - hours * 3600000) := by
  unfold horizonNs nsPerMs
  rw [negRetDur hours h0 h1, Int.add_mul_ediv_right _ _ (by decide), Int.natCast_ediv, Int.sub_eq_add_neg]
  rfl

theorem horizonNs_eq (nowNs : Nat) (hours : Int)
    (h0 : 0 ≤ hours) (h1 : hours < 2562047) (h2 : hours * 3600000 ≤ ((nowNs / 1000000 : Nat) : Int)) (h3 : nowNs < two63) :
    (horizonNs nowNs hours : Int) = ((nowNs / 1000000 : Nat) : Int) - hours * 3600000 :=
  -- the difference is a `uint64`: not negative by `h2`, at most `nowNs / 10^6 ≤ nowNs < 2^63`
  horizonNs_toU64 nowNs hours h0 h1 ▸ toU64_id _ (Int.sub_nonneg.mpr h2)
    (Int.lt_of_le_of_lt (Int.sub_le_self _ (Int.mul_nonneg h0 (by decide)))
      (Int.lt_trans (Int.ofNat_lt.mpr (Nat.lt_of_le_of_lt (Nat.div_le_self _ _) h3)) (by decide)))

theorem horizon_eq (nowMs : Nat) (hours : Int)
    (h0 : 0 ≤ hours) (h1 : hours < 2562047) (h2 : hours * 3600000 ≤ nowMs) (h3 : nowMs < 9000000000000) :
    (horizon nowMs hours : Int) = (nowMs : Int) - hours * 3600000 := by
  have := horizonNs_eq (nowMs * 1000000) hours h0 h1
  rw [Nat.mul_div_cancel _ (by decide)] at this
  exact this h2 (Nat.lt_of_lt_of_le (Nat.mul_lt_mul_of_pos_right h3 (by decide)) (by decide))

theorem horizon_wrapped (nowMs : Nat) (hours : Int)
    (h0 : 0 ≤ hours) (h1 : hours < 2562047) (h2 : (nowMs : Int) < hours * 3600000) :
    two63 ≤ horizon nowMs hours := by
  have hlt : hours * 3600000 ≤ two63 :=
    Int.le_trans (Int.le_of_lt (Int.mul_lt_mul_of_pos_right h1 (by decide))) (by decide)
  unfold horizon
  rw [horizonNs_toU64 _ hours h0 h1, Nat.mul_div_cancel _ (by decide)]
  exact toU64_neg _ (Int.sub_neg_of_lt h2)
    (Int.le_trans (Int.neg_le_neg hlt) (Int.le_add_of_nonneg_left (Int.natCast_nonneg nowMs)))

theorem timeMs_eq_trueTime (m : Meta) (h : m.kind = .metrics → m.latest < two32) : timeMs m = trueTimeMs m := by
  unfold timeMs trueTimeMs
  cases hk : m.kind with
  | log => rfl
  | metrics => exact Nat.mod_eq_of_lt (Nat.lt_of_lt_of_le (Nat.mul_lt_mul_of_pos_right (h hk) (by decide)) (by decide))

theorem mem_victims (nowMs : Nat) (hours : Int) (org : Nat) (metas : List Meta) (m : Meta) :
    m ∈ victims nowMs hours org metas ↔ m ∈ metas ∧ m.org = org ∧ timeMs m ≤ horizon nowMs hours := by
  unfold victims expired
  rw [List.mem_filter, Bool.and_eq_true, decide_eq_true_eq, decide_eq_true_eq]

/-! ### a run as one filter of the store -/

/-- one thing a store holds about a segment -/
inductive Item where
  | blob (k : Nat) | files (k : Nat) | mem (k : Nat) | pq (p k : Nat) | line (m : Meta)

def Item.key : Item → Nat
  | .blob k => k | .files k => k | .mem k => k | .pq _ k => k | .line m => m.key

/-- the phase of `DeleteSegmentData` that removes items of this kind -/
def Item.phase : Item → Phase
  | .blob _ => .blob | .files _ => .files | .mem _ => .mem | .pq .. => .pq | .line _ => .segmeta

def keep (s : Store) (p : Item → Bool) : Store :=
  { s with
    blob := s.blob.filter fun k => p (.blob k)
    files := s.files.filter fun k => p (.files k)
    memMeta := s.memMeta.filter fun k => p (.mem k)
    pqMeta := s.pqMeta.filter fun e => p (.pq e.1 e.2)
    segmetaJson := s.segmetaJson.filter fun m => p (.line m) }

def hits : Step → Item → Bool
  | .blob k, .blob x => decide (x = k)
  | .files k, .files x => decide (x = k)
  | .mem k, .mem x => decide (x = k)
  | .pq k ps, .pq p x => decide (x = k) && decide (p ∈ ps)
  | .segmeta ks, .line m => decide (m.key ∈ ks)
  | _, _ => false

def hitBy (L : List Step) (x : Item) : Bool := L.any (hits · x)

theorem filter_true {α} (l : List α) : l.filter (fun _ => true) = l := List.filter_eq_self.mpr fun _ _ => rfl

theorem keep_keep (s : Store) (p q : Item → Bool) : keep (keep s p) q = keep s fun x => q x && p x := by
  simp only [keep, List.filter_filter]

theorem applyStep_eq (s : Store) (t : Step) : applyStep s t = keep s fun x => !hits t x := by
  cases t <;> simp only [applyStep, keep, hits, Bool.not_false, filter_true, decide_not]

theorem run_eq (L : List Step) (s : Store) : L.foldl applyStep s = keep s fun x => !hitBy L x := by
  induction L generalizing s with
  | nil => simp only [keep, hitBy, List.any_nil, Bool.not_false, filter_true]; rfl
  | cons t L ih =>
    rw [List.foldl_cons, ih, applyStep_eq, keep_keep]
    exact congrArg (keep s) (funext fun x => (Bool.and_comm ..).trans (Bool.not_or ..).symm)

theorem run_congr (A B : List Step) (s : Store) (h : ∀ x, hitBy A x = hitBy B x) :
    A.foldl applyStep s = B.foldl applyStep s := by
  rw [run_eq, run_eq]
  exact congrArg (keep s) (funext fun x => congrArg (!·) (h x))

theorem hitBy_of_sub {A B : List Step} (h : ∀ t ∈ A, t ∈ B) {x : Item} (hx : hitBy A x = true) : hitBy B x = true := by
  obtain ⟨t, ht, hh⟩ := List.any_eq_true.mp hx
  exact List.any_eq_true.mpr ⟨t, h t ht, hh⟩

theorem run_absorb (P L : List Step) (hP : ∀ t ∈ P, t ∈ L) (s : Store) :
    L.foldl applyStep (P.foldl applyStep s) = L.foldl applyStep s := by
  rw [← List.foldl_append]
  refine run_congr _ _ s fun x => ?_
  rw [hitBy, List.any_append]
  cases h : P.any (hits · x) with
  | false => rfl
  | true => exact (hitBy_of_sub hP h).symm

theorem sfmPq_foldl (P : List Step) (s : Store) : (P.foldl applyStep s).sfmPq = s.sfmPq := by rw [run_eq]; rfl

structure SameOutside (K : List Nat) (s s' : Store) : Prop where
  blob : ∀ k, k ∉ K → (k ∈ s'.blob ↔ k ∈ s.blob)
  files : ∀ k, k ∉ K → (k ∈ s'.files ↔ k ∈ s.files)
  mem : ∀ k, k ∉ K → (k ∈ s'.memMeta ↔ k ∈ s.memMeta)
  pq : ∀ p k, k ∉ K → ((p, k) ∈ s'.pqMeta ↔ (p, k) ∈ s.pqMeta)
  segmeta : ∀ m : Meta, m.key ∉ K → (m ∈ s'.segmetaJson ↔ m ∈ s.segmetaJson)

theorem sameOutside_run (K : List Nat) (L : List Step) (s : Store) (h : ∀ x, hitBy L x = true → x.key ∈ K) :
    SameOutside K s (L.foldl applyStep s) := by
  have hp : ∀ x : Item, x.key ∉ K → (!hitBy L x) = true := fun x hk =>
    (Bool.not_eq_true' _).mpr (Bool.eq_false_iff.mpr fun hx => hk (h x hx))
  rw [run_eq]
  exact {
    blob := fun k hk => List.mem_filter.trans (and_iff_left (hp (.blob k) hk))
    files := fun k hk => List.mem_filter.trans (and_iff_left (hp (.files k) hk))
    mem := fun k hk => List.mem_filter.trans (and_iff_left (hp (.mem k) hk))
    pq := fun p k hk => List.mem_filter.trans (and_iff_left (hp (.pq p k) hk))
    segmeta := fun m hk => List.mem_filter.trans (and_iff_left (hp (.line m) hk)) }

/-! ### what `DeleteSegmentData` removes -/

/-- what `DeleteSegmentData` removes for the victim `v` -/
def owns (v : Meta) : Item → Bool
  | .blob k | .files k | .mem k => decide (k = v.key)
  | .pq p k => decide (k = v.key) && decide (p ∈ v.pqids)
  | .line m => decide (m.key = v.key)

theorem owns_key {v : Meta} {x : Item} (h : owns v x = true) : x.key = v.key := by
  cases x with
  | pq p k => exact of_decide_eq_true (Bool.and_eq_true_iff.mp h).1
  | _ => exact of_decide_eq_true h

theorem owns_of_key {v : Meta} {x : Item} (hx : x.phase ≠ .pq) (h : x.key = v.key) : owns v x = true := by
  cases x with
  | pq p k => exact absurd rfl hx
  | _ => exact decide_eq_true h

theorem decide_mem_map {α} (f : α → Nat) (a : Nat) (l : List α) :
    decide (a ∈ l.map f) = l.any fun v => decide (a = f v) := by
  induction l with
  | nil => rfl
  | cons v r ih => rw [List.map_cons, List.decide_mem_cons, ih, List.any_cons]; rfl

theorem any_const_and {α} (c : Bool) (g : α → Bool) (l : List α) : l.any (fun v => c && g v) = (c && l.any g) := by
  cases c with
  | false => exact List.any_eq_false.mpr fun _ _ => Bool.false_ne_true
  | true => rfl

theorem hitBy_phaseSteps (vs : List Meta) (ph : Phase) (x : Item) :
    hitBy (phaseSteps vs ph) x = (x.phase == ph && vs.any (owns · x)) := by
  -- the four phases with one step per victim
  have key (f : Meta → Step) (hf : ∀ v, hits (f v) x = (x.phase == ph && owns v x)) :
      hitBy (vs.map f) x = (x.phase == ph && vs.any (owns · x)) :=
    List.any_map.trans ((congrArg vs.any (funext hf)).trans (any_const_and ..))
  cases ph with
  | segmeta =>
    cases x with
    | line m => exact (Bool.or_false _).trans (decide_mem_map ..)
    | _ => rfl
  | _ => exact key _ fun v => by cases x <;> rfl

theorem hitBy_stepsFor (order : List Phase) (vs : List Meta) (x : Item) :
    hitBy (stepsFor order vs) x = (decide (x.phase ∈ order) && vs.any (owns · x)) := by
  rw [hitBy, stepsFor, List.any_flatMap]
  induction order with
  | nil => rfl
  | cons ph r ih =>
    rw [List.any_cons, ih]
    show (hitBy (phaseSteps vs ph) x || _) = _
    rw [hitBy_phaseSteps, ← Bool.and_or_distrib_right, List.decide_mem_cons]

theorem hitBy_deleteOrder (vs : List Meta) (x : Item) : hitBy (stepsFor deleteOrder vs) x = vs.any (owns · x) := by
  rw [hitBy_stepsFor]
  -- every phase is in `deleteOrder`
  cases x <;> rfl

theorem key_of_hitBy_stepsFor {order : List Phase} {vs : List Meta} {x : Item} (h : hitBy (stepsFor order vs) x = true) :
    x.key ∈ vs.map (·.key) := by
  rw [hitBy_stepsFor] at h
  obtain ⟨v, hv, ho⟩ := List.any_eq_true.mp (Bool.and_eq_true_iff.mp h).2
  exact List.mem_map.mpr ⟨v, hv, (owns_key ho).symm⟩

theorem not_hitBy_of_no_phase {order : List Phase} {ws : List Meta} {L : List Step} (hL : ∀ t ∈ L, t ∈ stepsFor order ws)
    {x : Item} (ho : x.phase ∉ order) : (!hitBy L x) = true :=
  -- what `L` removes the whole step list removes, and that only items of the phases in `order`
  (Bool.not_eq_true' _).mpr (Bool.eq_false_iff.mpr fun hx =>
    ho (of_decide_eq_true (Bool.and_eq_true_iff.mp (hitBy_stepsFor order ws x ▸ hitBy_of_sub hL hx)).1))

theorem run_no_victims (order : List Phase) (ws : List Meta) (hw : ws.map (·.key) = []) (L : List Step)
    (hL : ∀ t ∈ L, t ∈ stepsFor order ws) (s : Store) : L.foldl applyStep s = s :=
  -- a removed item would have its key among the victims' keys, of which there are none
  (run_congr L [] s fun _ => Bool.eq_false_iff.mpr fun hx => nomatch hw ▸ key_of_hitBy_stepsFor (hitBy_of_sub hL hx))

/-! ### the step list of `DeleteSegmentData` -/

theorem stepsFor_deleteOrder (vs : List Meta) :
    stepsFor deleteOrder vs = stepsFor [.pq, .blob, .files, .mem] vs ++ [Step.segmeta (vs.map (·.key))] :=
  (List.flatMap_append (xs := [Phase.pq, .blob, .files, .mem]) (ys := [.segmeta])).trans
    (congrArg _ (List.append_nil _))

theorem stepsFor_length_deleteOrder (vs : List Meta) :
    (stepsFor deleteOrder vs).length = 4 * vs.length + 1 := by
  simp only [stepsFor, deleteOrder, phaseSteps, List.flatMap_cons, List.flatMap_nil, List.length_append, List.length_map,
    List.length_cons, List.length_nil]
  omega

/-! ### interrupted and repeated -/

/-- `deleteSegmentData deleteOrder` for `g = withSfmPqids`, `deleteSegmentDataOld deleteOrder` for `g = fun _ vs => vs` -/
def delWith (g : Store → List Meta → List Meta) (vs : List Meta) (s : Store) (cut : Nat) : Store :=
  if vs.isEmpty then s else runSteps s ((stepsFor deleteOrder (g s vs)).take cut)

def passWith (g : Store → List Meta → List Meta) (nowMs : Nat) (hours : Int) (s : Store) : Store :=
  delWith g (victims nowMs hours 0 (readLocal s)) s (stepsFor deleteOrder (victims nowMs hours 0 (readLocal s))).length

section
variable (g : Store → List Meta → List Meta) (hkey : ∀ s vs, (g s vs).map (·.key) = vs.map (·.key))
include hkey

/-- the early return for an empty victim map changes nothing: its only step would rewrite segmeta.json as it is -/
theorem delWith_eq (vs : List Meta) (s : Store) (cut : Nat) :
    delWith g vs s cut = ((stepsFor deleteOrder (g s vs)).take cut).foldl applyStep s := by
  cases vs with
  | nil => exact (run_no_victims _ _ (hkey s []) _ (fun _ => List.mem_of_mem_take) s).symm
  | cons v vs => rfl

theorem passWith_eq (nowMs : Nat) (hours : Int) (s : Store) :
    passWith g nowMs hours s
      = (stepsFor deleteOrder (g s (victims nowMs hours 0 (readLocal s)))).foldl applyStep s := by
  have hlen := congrArg List.length (hkey s (victims nowMs hours 0 (readLocal s)))
  rw [List.length_map, List.length_map] at hlen
  rw [passWith, delWith_eq g hkey, List.take_of_length_le]
  rw [stepsFor_length_deleteOrder, stepsFor_length_deleteOrder, hlen]
  exact Nat.le_refl _

theorem victims_after_run (nowMs : Nat) (hours : Int) (s : Store) :
    victims nowMs hours 0
      (readLocal ((stepsFor deleteOrder (g s (victims nowMs hours 0 (readLocal s)))).foldl applyStep s)) = [] := by
  apply List.filter_eq_nil_iff.mpr
  intro x hx hP
  obtain ⟨m, hm, rfl⟩ := List.mem_map.mp hx
  obtain ⟨hms, hno⟩ : m ∈ s.segmetaJson ∧ (!hitBy _ (.line m)) = true := List.mem_filter.mp (run_eq _ s ▸ hm)
  -- `m` was selected the first time, so one of the completed victims owns its line
  have hk : m.key ∈ (g s (victims nowMs hours 0 (readLocal s))).map (·.key) := by
    rw [hkey]
    exact List.mem_map.mpr ⟨_, List.mem_filter.mpr ⟨List.mem_map.mpr ⟨m, hms, rfl⟩, hP⟩, rfl⟩
  obtain ⟨w, hw, hwk⟩ := List.mem_map.mp hk
  rw [hitBy_deleteOrder, List.any_eq_true.mpr ⟨w, hw, decide_eq_true hwk.symm⟩] at hno
  cases hno

theorem interrupt_repeat_with
    (hrep : ∀ vs s cut s1, ((stepsFor deleteOrder (g s vs)).take cut).foldl applyStep s = s1 →
      (stepsFor deleteOrder (g s1 vs)).foldl applyStep s1 = (stepsFor deleteOrder (g s vs)).foldl applyStep s)
    (nowMs : Nat) (hours : Int) (s : Store) (cut : Nat) :
    passWith g nowMs hours (delWith g (victims nowMs hours 0 (readLocal s)) s cut) = passWith g nowMs hours s := by
  rw [passWith_eq g hkey, passWith_eq g hkey, delWith_eq g hkey]
  generalize hvs : victims nowMs hours 0 (readLocal s) = vs
  have hL := stepsFor_deleteOrder (g s vs)
  -- cut before the segmeta.json step the repeated pass selects the same victims, cut after it none
  by_cases hc : cut ≤ (stepsFor [.pq, .blob, .files, .mem] (g s vs)).length
  · have hsm : (((stepsFor deleteOrder (g s vs)).take cut).foldl applyStep s).segmetaJson = s.segmetaJson := by
      rw [hL, List.take_append_of_le_length hc, run_eq]
      exact List.filter_eq_self.mpr fun m _ =>
        not_hitBy_of_no_phase (fun _ => List.mem_of_mem_take) (show Phase.segmeta ∉ _ by decide)
    rw [readLocal, hsm, ← readLocal, hvs]
    exact hrep vs s cut _ rfl
  · rw [List.take_of_length_le (by rw [hL, List.length_append]; exact Nat.succ_le_of_lt (Nat.lt_of_not_le hc))]
    have hnil := victims_after_run g hkey nowMs hours s
    rw [hvs] at hnil
    rw [hnil]
    exact run_no_victims _ _ (hkey _ []) _ (fun _ h => h) _

end

theorem interrupt_repeat_old (nowMs : Nat) (hours : Int) (s : Store) (cut : Nat) :
    passOld deleteOrder nowMs hours (passCutOld deleteOrder nowMs hours s cut) = passOld deleteOrder nowMs hours s :=
  interrupt_repeat_with (fun _ vs => vs) (fun _ _ => rfl)
    (fun _ s _ _ h => h ▸ run_absorb _ _ (fun _ => List.mem_of_mem_take) s) nowMs hours s cut

/-! ### the repaired protocol: pqids read from the .sfm files -/

def fillPqids (s : Store) (v : Meta) : Meta :=
  if v.pqids.isEmpty then { v with pqids := sfmPqids s v.key } else v

theorem withSfmPqids_eq_map (s : Store) (vs : List Meta) : withSfmPqids s vs = vs.map (fillPqids s) := rfl

theorem fillPqids_key (s : Store) (v : Meta) : (fillPqids s v).key = v.key := by
  unfold fillPqids; split <;> rfl

theorem withSfmPqids_keys (s : Store) (vs : List Meta) :
    (withSfmPqids s vs).map (·.key) = vs.map (·.key) := by
  rw [withSfmPqids_eq_map, List.map_map]
  exact List.map_congr_left fun v _ => fillPqids_key s v

theorem withSfmPqids_congr (s s1 : Store) (hf : s1.files = s.files) (hq : s1.sfmPq = s.sfmPq) (vs : List Meta) :
    withSfmPqids s1 vs = withSfmPqids s vs := by
  unfold withSfmPqids sfmPqids; rw [hf, hq]

theorem withSfmPqids_isEmpty (s : Store) (vs : List Meta) : (withSfmPqids s vs).isEmpty = vs.isEmpty := by
  unfold withSfmPqids; cases vs <;> rfl

theorem owned_iff_key {s : Store} {vs : List Meta} {x : Item} (hx : x.phase ≠ .pq) :
    (withSfmPqids s vs).any (owns · x) = true ↔ x.key ∈ vs.map (·.key) := by
  rw [← withSfmPqids_keys s vs, List.any_eq_true, List.mem_map]
  exact exists_congr fun w => and_congr_right' ⟨fun h => (owns_key h).symm, fun h => owns_of_key hx h.symm⟩

/-- the repeated run reads for a victim the pqids of the first run, or none (its files are gone) -/
theorem fillPqids_sub {s s1 : Store} (hq : s1.sfmPq = s.sfmPq) (hsub : ∀ k ∈ s1.files, k ∈ s.files) (v : Meta) :
    ∀ p ∈ (fillPqids s1 v).pqids, p ∈ (fillPqids s v).pqids := by
  unfold fillPqids
  by_cases he : v.pqids.isEmpty = true
  · rw [if_pos he, if_pos he]
    show ∀ p ∈ sfmPqids s1 v.key, p ∈ sfmPqids s v.key
    unfold sfmPqids
    by_cases h1 : v.key ∈ s1.files
    · rw [if_pos h1, if_pos (hsub _ h1), hq]
      exact fun _ h => h
    · rw [if_neg h1]
      exact fun _ h => absurd h List.not_mem_nil
  · rw [if_neg he, if_neg he]
    exact fun _ h => h

theorem owns_fillPqids_mono {s s1 : Store} (hq : s1.sfmPq = s.sfmPq) (hsub : ∀ k ∈ s1.files, k ∈ s.files) {v : Meta}
    {x : Item} (h : owns (fillPqids s1 v) x = true) : owns (fillPqids s v) x = true := by
  by_cases hx : x.phase = .pq
  · cases x with
    | pq p k =>
      have ⟨hk, hp⟩ := Bool.and_eq_true_iff.mp h
      rw [fillPqids_key] at hk
      exact Bool.and_eq_true_iff.mpr
        ⟨(fillPqids_key s v).symm ▸ hk, decide_eq_true (fillPqids_sub hq hsub v p (of_decide_eq_true hp))⟩
    | _ => cases hx
  · exact owns_of_key hx ((owns_key h).trans ((fillPqids_key s1 v).trans (fillPqids_key s v).symm))

/-- the repeated run reads the pqids again, from the .sfm files that are still there: `withSfmPqids s1`, not `s` -/
theorem repeat_same_result (vs : List Meta) (s : Store) (cut : Nat) (s1 : Store)
    (hs1 : ((stepsFor deleteOrder (withSfmPqids s vs)).take cut).foldl applyStep s = s1) :
    (stepsFor deleteOrder (withSfmPqids s1 vs)).foldl applyStep s1
      = (stepsFor deleteOrder (withSfmPqids s vs)).foldl applyStep s := by
  generalize hws : withSfmPqids s vs = ws at hs1 ⊢
  have hq : s1.sfmPq = s.sfmPq := hs1 ▸ sfmPq_foldl _ s
  -- the empty-PQ phase comes first
  have hL : stepsFor deleteOrder ws = stepsFor [.pq] ws ++ stepsFor [.blob, .files, .mem, .segmeta] ws :=
    List.flatMap_append (xs := [Phase.pq])
  by_cases hc : cut ≤ (stepsFor [.pq] ws).length
  · -- cut inside it: the local files are all there, the repeated run reads the same pqids
    have hf : s1.files = s.files := by
      rw [← hs1, hL, List.take_append_of_le_length hc, run_eq]
      exact List.filter_eq_self.mpr fun k _ =>
        not_hitBy_of_no_phase (fun _ => List.mem_of_mem_take) (show Phase.files ∉ _ by decide)
    rw [withSfmPqids_congr s s1 hf hq, hws, ← hs1]
    exact run_absorb _ _ (fun _ => List.mem_of_mem_take) s
  · -- cut behind it: every empty-PQ step is done; the repeated run may find a victim's files gone and read no pqids
    have hA : ∀ t ∈ stepsFor [.pq] ws, t ∈ (stepsFor deleteOrder ws).take cut := by
      rw [hL, List.take_append, List.take_of_length_le (Nat.le_of_not_le hc)]
      exact fun t ht => List.mem_append_left _ ht
    have hsub : ∀ k ∈ s1.files, k ∈ s.files := by
      rw [← hs1, run_eq]
      exact fun k hk => (List.mem_filter.mp hk).1
    rw [← hs1, ← List.foldl_append, hs1]
    subst hws
    -- an item is removed by the cut run or by the repeated run iff the complete run removes it
    refine run_congr _ _ s fun x => Bool.eq_iff_iff.mpr ?_
    rw [hitBy, List.any_append, ← hitBy, ← hitBy, Bool.or_eq_true, hitBy_deleteOrder, hitBy_deleteOrder]
    constructor
    · rintro (hP | h1)
      · exact hitBy_deleteOrder _ x ▸ hitBy_of_sub (fun _ => List.mem_of_mem_take) hP
      · rw [withSfmPqids_eq_map, List.any_map] at h1 ⊢
        obtain ⟨v, hv, ho⟩ := List.any_eq_true.mp h1
        exact List.any_eq_true.mpr ⟨v, hv, owns_fillPqids_mono hq hsub ho⟩
    · intro h
      by_cases hx : x.phase = .pq
      · refine Or.inl (hitBy_of_sub hA ?_)
        rw [hitBy_stepsFor, hx]
        exact h
      · exact Or.inr ((owned_iff_key hx).mpr ((owned_iff_key hx).mp h))

theorem pass_eq_foldl (nowMs : Nat) (hours : Int) (s : Store) :
    pass deleteOrder nowMs hours s
      = (stepsFor deleteOrder (withSfmPqids s (victims nowMs hours 0 (readLocal s)))).foldl applyStep s :=
  passWith_eq withSfmPqids withSfmPqids_keys nowMs hours s

theorem pass_eq_keep (nowMs : Nat) (hours : Int) (s : Store) :
    pass deleteOrder nowMs hours s
      = keep s fun x => !(withSfmPqids s (victims nowMs hours 0 (readLocal s))).any (owns · x) := by
  rw [pass_eq_foldl, run_eq]
  exact congrArg (keep s) (funext fun x => congrArg (!·) (hitBy_deleteOrder _ x))

theorem pq_owned_iff {s : Store} {nowMs : Nat} {hours : Int} {p k : Nat} (h1 : (p, k) ∈ s.sfmPq) (h2 : k ∈ s.files) :
    (withSfmPqids s (victims nowMs hours 0 (readLocal s))).any (owns · (.pq p k)) = true
      ↔ k ∈ (victims nowMs hours 0 (readLocal s)).map (·.key) := by
  refine ⟨fun h => withSfmPqids_keys s _ ▸ key_of_hitBy_stepsFor ((hitBy_deleteOrder _ _).trans h), fun h => ?_⟩
  obtain ⟨v, hv, rfl⟩ := List.mem_map.mp h
  -- a victim comes from `readLocal`: it carries no pqids, so they are read from the .sfm file
  have hvp : v.pqids.isEmpty = true := by
    obtain ⟨m, _, rfl⟩ := List.mem_map.mp (List.mem_filter.mp hv).1
    rfl
  refine List.any_eq_true.mpr ⟨fillPqids s v, List.mem_map_of_mem hv, Bool.and_eq_true_iff.mpr
    ⟨decide_eq_true (fillPqids_key s v).symm, decide_eq_true ?_⟩⟩
  rw [fillPqids, if_pos hvp, sfmPqids, if_pos h2]
  exact List.mem_map.mpr ⟨_, List.mem_filter.mpr ⟨h1, decide_eq_true rfl⟩, rfl⟩

theorem mem_pqMeta_pass (nowMs : Nat) (hours : Int) (s : Store) (hsfm : ∀ e ∈ s.pqMeta, e ∈ s.sfmPq ∧ e.2 ∈ s.files)
    (p k : Nat) :
    (p, k) ∈ (pass deleteOrder nowMs hours s).pqMeta ↔
      (p, k) ∈ s.pqMeta ∧ k ∉ (victims nowMs hours 0 (readLocal s)).map (·.key) := by
  rw [pass_eq_keep]
  refine List.mem_filter.trans (and_congr_right fun he => ?_)
  rw [Bool.not_eq_true', ← Bool.not_eq_true, pq_owned_iff (hsfm _ he).1 (hsfm _ he).2]

/-! ### outside the empty-PQ meta files the repaired protocol does what the old one did -/

def erasePq : Step → Step
  | .pq k _ => .pq k []
  | t => t

theorem withoutPq_foldl (L : List Step) (s : Store) :
    withoutPq (L.foldl applyStep s) = L.foldl applyStep (withoutPq s) := by
  rw [run_eq, run_eq]; rfl

theorem withoutPq_foldl_erase (L : List Step) (s : Store) :
    withoutPq (L.foldl applyStep s) = (L.map erasePq).foldl applyStep (withoutPq s) := by
  induction L generalizing s with
  | nil => rfl
  | cons t L ih => rw [List.foldl_cons, List.map_cons, List.foldl_cons, ih]; cases t <;> rfl

/-- without the empty-PQ meta files the pqids of the steps do not matter -/
theorem withoutPq_foldl_congr (L L' : List Step) (s : Store) (h : L.map erasePq = L'.map erasePq) :
    withoutPq (L.foldl applyStep s) = L'.foldl applyStep (withoutPq s) := by
  rw [withoutPq_foldl_erase, h, ← withoutPq_foldl_erase, withoutPq_foldl]

theorem phaseSteps_erase (f : Meta → Meta) (hf : ∀ v, (f v).key = v.key) (vs : List Meta) (ph : Phase) :
    (phaseSteps (vs.map f) ph).map erasePq = (phaseSteps vs ph).map erasePq := by
  cases ph <;> simp only [phaseSteps, List.map_map, Function.comp_def, erasePq, hf]

theorem stepsFor_erase (order : List Phase) (s : Store) (vs : List Meta) :
    (stepsFor order (withSfmPqids s vs)).map erasePq = (stepsFor order vs).map erasePq := by
  unfold stepsFor
  rw [List.map_flatMap, List.map_flatMap]
  exact congrArg (fun f => List.flatMap f order) (funext (phaseSteps_erase _ (fillPqids_key s) vs))

theorem withoutPq_passCut (nowMs : Nat) (hours : Int) (s : Store) (cut : Nat) :
    withoutPq (passCut deleteOrder nowMs hours s cut) = passCutOld deleteOrder nowMs hours (withoutPq s) cut := by
  show withoutPq (delWith withSfmPqids _ s cut) = delWith (fun _ vs => vs) _ (withoutPq s) cut
  rw [delWith_eq _ withSfmPqids_keys, delWith_eq _ fun _ _ => rfl]
  exact withoutPq_foldl_congr _ _ s (by rw [List.map_take, List.map_take, stepsFor_erase]; rfl)

/-! ### records after a pass -/

theorem mem_recordEmpty (s : Store) (e x : Nat × Nat) : x ∈ (recordEmpty s e).pqMeta ↔ x ∈ s.pqMeta ∨ x = e := by
  unfold recordEmpty
  split
  · rename_i h
    exact ⟨Or.inl, fun h' => h'.elim id fun e => e ▸ h⟩
  · exact List.mem_append.trans (or_congr_right List.mem_singleton)

theorem mem_recordAll (s : Store) (es : List (Nat × Nat)) (x : Nat × Nat) :
    x ∈ (recordAll s es).pqMeta ↔ x ∈ s.pqMeta ∨ x ∈ es := by
  unfold recordAll
  induction es generalizing s with
  | nil => simp
  | cons e es ih =>
    simp only [List.foldl_cons, ih, mem_recordEmpty, List.mem_cons, or_assoc]

theorem withoutPq_recordAll (s : Store) (es : List (Nat × Nat)) : withoutPq (recordAll s es) = withoutPq s := by
  unfold recordAll
  induction es generalizing s with
  | nil => rfl
  | cons e es ih =>
    simp only [List.foldl_cons, ih]
    unfold recordEmpty
    split <;> rfl

theorem pqMeta_subset_foldl (L : List Step) (s : Store) (e : Nat × Nat) (h : e ∈ (L.foldl applyStep s).pqMeta) :
    e ∈ s.pqMeta :=
  (List.mem_filter.mp (run_eq L s ▸ h)).1

/-! ### the volume pass -/

theorem inserts (key : Meta → Nat) : InsertSort.Inserts (fun x y => ¬ key x ≤ key y) (insertBy key) :=
  ⟨fun _ => rfl, fun x y l => by rw [insertBy, ite_not]⟩

theorem sorts (key : Meta → Nat) : InsertSort.SortsBy (insertBy key) (sortBy key) := ⟨rfl, fun _ _ => rfl⟩

theorem mem_volSort (a : Meta) (l : List Meta) : a ∈ volSort l ↔ a ∈ l := ((sorts volKey).perm (inserts volKey) l).mem_iff

theorem pairwise_volSort (l : List Meta) : (volSort l).Pairwise (fun a b => volKey a ≤ volKey b) :=
  (sorts volKey).pairwise (inserts volKey) (fun _ _ => Nat.le_of_not_le)
    (fun _ _ h => have := Decidable.not_not.mp h; ⟨this, fun _ => Nat.le_trans this⟩) l

/-- `hw`: `LatestEpochSec` is a uint32 -/
theorem pairwise_volSort_trueTime (l : List Meta) (hw : ∀ m ∈ l, m.kind = .metrics → m.latest < two32) :
    (volSort l).Pairwise (fun a b => trueTimeMs a ≤ trueTimeMs b) :=
  (pairwise_volSort l).imp_of_mem fun {a b} ha hb hab => by
    rw [← timeMs_eq_trueTime a (hw a ((mem_volSort a l).mp ha)), ← timeMs_eq_trueTime b (hw b ((mem_volSort b l).mp hb))]
    exact hab

theorem take_closed {α} (f : α → Nat) (l : List α) (n : Nat) (hs : l.Pairwise (fun a b => f a ≤ f b)) :
    ∀ a ∈ l.take n, ∀ b ∈ l, f b < f a → b ∈ l.take n := by
  intro a ha b hb hlt
  rw [← List.take_append_drop n l] at hs hb
  rcases List.mem_append.mp hb with h | h
  · exact h
  · exact absurd ((List.pairwise_append.mp hs).2.2 a ha b h) (Nat.not_le.mpr hlt)

theorem volLoop_prefix (rem : Nat) (l : List Meta) : ∃ n, volLoop rem l = l.take n := by
  induction l generalizing rem with
  | nil => exact ⟨0, rfl⟩
  | cons m r ih =>
    by_cases h : m.size < rem
    · obtain ⟨n, hn⟩ := ih (rem - m.size)
      exact ⟨n + 1, (if_pos h).trans (congrArg (m :: ·) hn)⟩
    · exact ⟨0, if_neg h⟩

theorem volLoop_total_lt (rem : Nat) (l : List Meta) (h : 0 < rem) : totalSize (volLoop rem l) < rem := by
  induction l generalizing rem with
  | nil => exact h
  | cons m r ih =>
    unfold volLoop
    split
    · rename_i hf
      exact Nat.add_lt_of_lt_sub' (ih (rem - m.size) (Nat.sub_pos_of_lt hf))
    · exact h

theorem volLoop_zero (l : List Meta) : volLoop 0 l = [] := by
  cases l with
  | nil => rfl
  | cons m r => exact if_neg (Nat.not_lt_zero _)

theorem volPass_eq_volLoop (limitGB counter : Nat) (metrics logs : List Meta) :
    volPass limitGB counter metrics logs
      = volLoop (volExcess limitGB counter (volSystem metrics logs)) (volSort (metrics ++ logs)) := by
  unfold volPass
  by_cases h0 : volExcess limitGB counter (volSystem metrics logs) = 0
  · rw [if_pos h0, h0, volLoop_zero]
  · exact if_neg h0

end SigModel.Lemmas.C14
