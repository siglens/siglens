/-
`Inv m P`: the rotated-segment metadata `m` holds exactly the segments satisfying `P`, each table's list exactly those of
that name.  It is kept by adding a segment, deleting a key (both overwrite the list of ONE table: `inv_put`) and
deleting a table, and under it `selectRotated` is a filter of `P` (`mem_selectRotated_inv`).
-/
import SigModel.Model.Tenant
import SigModel.Lemmas.Assoc

namespace SigModel.Lemmas.C13
open SigModel.Tenant SigModel.Assoc
variable {m : Meta} {P Q : Seg → Prop}

theorem isGet_lookupT : IsGet lookupT some none := ⟨fun _ => rfl, fun _ _ _ => if_pos rfl, fun _ _ _ _ h => if_neg h⟩

theorem isPut_putT : IsPut putT := ⟨fun _ _ => rfl, fun _ _ _ _ => if_pos rfl, fun _ _ _ _ _ h => if_neg h⟩

theorem isErase_eraseT : IsErase eraseT := ⟨fun _ => rfl, fun _ _ _ => if_pos rfl, fun _ _ _ _ h => if_neg h⟩

def DistinctKeys (segs : List Seg) : Prop := segs.Pairwise (fun a b => a.key ≠ b.key)

structure Inv (m : Meta) (P : Seg → Prop) : Prop where
  all : ∀ s, s ∈ m.all ↔ P s
  tbl : ∀ n s, s ∈ (lookupT n m.byTable).getD [] ↔ P s ∧ s.table = n

def KeyInj (P : Seg → Prop) : Prop := ∀ a b, P a → P b → a.key = b.key → a = b

theorem Inv.congr (h : Inv m P) (hpq : ∀ s, P s ↔ Q s) : Inv m Q :=
  ⟨fun s => (h.all s).trans (hpq s), fun n s => (h.tbl n s).trans (and_congr_left' (hpq s))⟩

theorem inv_put (h : Inv m P) {all' v : List Seg} {t : Name} (hall : ∀ s, s ∈ all' ↔ Q s)
    (hv : ∀ s, s ∈ v ↔ Q s ∧ s.table = t) (hoth : ∀ s, s.table ≠ t → (P s ↔ Q s)) :
    Inv { all := all', byTable := putT t v m.byTable } Q :=
  ⟨hall, fun n s => by
    rw [isGet_lookupT.get_put isPut_putT]
    split
    · next hn => exact hn ▸ hv s
    · next hn => exact (h.tbl n s).trans (and_congr_left fun e => hoth s fun e' => hn (e.symm.trans e'))⟩

/-- an empty list and no list are the same to `Inv` -/
theorem inv_erase_empty (h : Inv m P) {t : Name} (he : (lookupT t m.byTable).getD [] = []) :
    Inv { m with byTable := eraseT t m.byTable } P :=
  ⟨h.all, fun n s => by
    rw [isGet_lookupT.get_erase isErase_eraseT]
    split
    · next hn => exact hn ▸ he ▸ h.tbl t s
    · exact h.tbl n s⟩

theorem inv_add (h : Inv m P) (s' : Seg) (hk : ∀ s, P s → s.key ≠ s'.key) :
    Inv (m.add s') (fun s => P s ∨ s = s') := by
  have hany : ¬ m.all.any (fun x => decide (x.key = s'.key)) = true := fun e =>
    (List.any_eq_true.1 e).elim fun x hx => hk x ((h.all x).1 hx.1) (of_decide_eq_true hx.2)
  unfold Meta.add
  rw [if_neg hany]
  exact inv_put h (fun s => by rw [List.mem_append, List.mem_singleton, h.all])
    (fun s => by
      rw [List.mem_append, List.mem_singleton, h.tbl, or_and_right, and_iff_left_of_imp (congrArg Seg.table)])
    fun s hs => (or_iff_left fun e => hs (congrArg Seg.table e)).symm

theorem inv_ofList {segs : List Seg} (hd : DistinctKeys segs) : Inv (Meta.ofList segs) (· ∈ segs) := by
  suffices ∀ (L : List Seg) (m : Meta), Inv m (· ∈ L) → DistinctKeys (L ++ segs) →
      Inv (segs.foldl Meta.add m) (· ∈ L ++ segs) from
    this [] {} ⟨fun _ => Iff.rfl, fun _ _ => ⟨fun h => absurd h List.not_mem_nil, And.left⟩⟩ hd
  clear hd
  induction segs with
  | nil =>
    intro L m h _
    rwa [List.append_nil]
  | cons a r ih =>
    intro L m h hd
    have hnew : ∀ s, s ∈ L → s.key ≠ a.key := fun s hs => (List.pairwise_append.1 hd).2.2 s hs a List.mem_cons_self
    rw [List.append_cons] at hd ⊢
    exact ih (L ++ [a]) (m.add a)
      ((inv_add h a hnew).congr fun s => (List.mem_append.trans (or_congr_right List.mem_singleton)).symm) hd

theorem keyInj_of_distinct {segs : List Seg} (hd : DistinctKeys segs) : KeyInj (· ∈ segs) := fun _ _ ha hb =>
  List.Pairwise.forall_of_forall_of_flip (R := fun a b : Seg => a.key = b.key → a = b) (fun _ _ _ => rfl)
    (hd.imp fun h e => absurd e h) (hd.imp fun h e => absurd e.symm h) ha hb

theorem mem_selectRotated_inv (hi : Inv m P) (qlo qhi : Int) (names : List Name) (org : Org) (s : Seg) :
    s ∈ selectRotated qlo qhi names org m ↔ P s ∧ s.table ∈ names ∧ s.org = org ∧ overlaps qlo qhi s = true := by
  simp only [selectRotated, List.mem_flatMap, List.mem_filter, hi.tbl, Bool.and_eq_true, decide_eq_true_eq]
  constructor
  · rintro ⟨n, hn, ⟨hs, rfl⟩, hq, ho⟩
    exact ⟨hs, hn, ho, hq⟩
  · rintro ⟨h1, h2, h3, h4⟩
    exact ⟨s.table, h2, ⟨h1, rfl⟩, h4, h3⟩

/-- `hne`: on an empty table name the code returns before it touches the table's list -/
theorem inv_deleteKey (h : Inv m P) (hinj : KeyInj P) (k : Nat) (hne : ∀ s, P s → s.key = k → s.table ≠ []) :
    Inv (m.deleteKey k) (fun s => P s ∧ s.key ≠ k) := by
  unfold Meta.deleteKey
  cases hf : m.all.find? (fun x => decide (x.key = k)) with
  | none =>
    exact h.congr fun s => iff_self_and.2 fun hp e =>
      List.find?_eq_none.1 hf s ((h.all s).2 hp) (decide_eq_true e)
  | some s0 =>
    have hk : s0.key = k := of_decide_eq_true (List.find?_some hf :)
    have hp0 : P s0 := (h.all s0).1 (List.mem_of_find?_eq_some hf)
    have htbl := h.tbl s0.table
    dsimp only
    rw [if_neg (hne s0 hp0 hk)]
    generalize lookupT s0.table m.byTable = ol at htbl ⊢
    cases ol with
    | none => exact absurd ((htbl s0).2 ⟨hp0, rfl⟩) List.not_mem_nil
    | some l =>
      -- `KeyInj`: on the other tables no segment has the key
      exact inv_put h (fun s => List.mem_filter.trans (and_congr (h.all s) decide_eq_true_iff))
        (fun s => List.mem_filter.trans ((and_congr (htbl s) decide_eq_true_iff).trans and_right_comm))
        fun s hs => iff_self_and.2 fun hp e => hs (congrArg Seg.table (hinj s s0 hp hp0 (e.trans hk.symm)))

theorem inv_foldl_deleteKey (keys : List Nat) : ∀ {m : Meta} {P : Seg → Prop}, Inv m P → KeyInj P →
    (∀ s, P s → s.key ∈ keys → s.table ≠ []) →
    Inv (keys.foldl Meta.deleteKey m) (fun s => P s ∧ s.key ∉ keys) := by
  induction keys with
  | nil => exact fun h _ _ => h.congr fun s => (and_iff_left List.not_mem_nil).symm
  | cons k ks ih =>
    intro m P h hinj hne
    have h1 := inv_deleteKey h hinj k fun s hp e => hne s hp (e ▸ List.mem_cons_self)
    have h2 := ih h1 (fun a b ha hb => hinj a b ha.1 hb.1) fun s hp hm => hne s hp.1 (List.mem_cons_of_mem _ hm)
    exact h2.congr fun s =>
      and_assoc.trans (and_congr_right' (not_or.symm.trans (not_congr List.mem_cons.symm)))

theorem inv_deleteTable (h : Inv m P) (hinj : KeyInj P) (t : Name) (ht : t ≠ []) (o : Org) :
    Inv (m.deleteTable t o) (fun s => P s ∧ ¬ (s.table = t ∧ s.org = o)) := by
  unfold Meta.deleteTable
  have htbl := h.tbl t
  generalize lookupT t m.byTable = ol at htbl ⊢
  cases ol with
  | none =>
    exact h.congr fun s => iff_self_and.2 fun hp e => absurd ((htbl s).2 ⟨hp, e.1⟩) List.not_mem_nil
  | some segs =>
    have hkeys : ∀ s, P s → (s.key ∈ (segs.filter (·.org = o)).map (·.key) ↔ s.table = t ∧ s.org = o) := fun s hp =>
      ⟨fun hm => (List.mem_map.1 hm).elim fun x hx =>
        have hf := List.mem_filter.1 hx.1
        have hx' := (htbl x).1 hf.1
        hinj x s hx'.1 hp hx.2 ▸ ⟨hx'.2, of_decide_eq_true hf.2⟩,
      fun e => List.mem_map_of_mem (List.mem_filter.2 ⟨(htbl s).2 ⟨hp, e.1⟩, decide_eq_true e.2⟩)⟩
    have h' := (inv_foldl_deleteKey _ h hinj fun s hp hm => ((hkeys s hp).1 hm).1 ▸ ht).congr fun s =>
      and_congr_right fun hp => not_congr (hkeys s hp)
    dsimp only
    exact iteInduction (motive := fun x => Inv x _) (fun he => inv_erase_empty h' (List.isEmpty_iff.1 he)) fun _ => h'

end SigModel.Lemmas.C13
