import SigModel.Model.Retention
/-! Lemmas about `SigModel.Retention.SegDir` (utils.GetSegBaseDirFromFilename): first occurrence of a pattern behind a
prefix that does not hold it, path components.  For §9 of Props/C14.lean. -/
namespace SigModel.Lemmas.C14Dir
open SigModel.Retention.SegDir

theorem findSub_of_isPrefixOf (pat s : List Char) (h : pat.isPrefixOf s = true) : findSub pat s = some 0 := by
  cases s with
  | nil =>
    cases pat with
    | nil => rfl
    | cons => cases h
  | cons c r => exact if_pos h

/-- `pre ++ body`, not `pre` alone, must hold no occurrence: one could begin in `pre` and end inside the pattern -/
theorem findSub_behind (pat body : List Char) (e : Char) (hf : pat = body ++ [e]) (rest pre : List Char)
    (h : findSub pat (pre ++ body) = none) : findSub pat (pre ++ (pat ++ rest)) = some pre.length := by
  subst hf
  induction pre with
  | nil => exact findSub_of_isPrefixOf _ _ (List.isPrefixOf_iff_prefix.mpr (List.prefix_append _ rest))
  | cons c p ih =>
    dsimp only [List.cons_append, findSub] at h ⊢
    split at h
    · cases h
    · rename_i hp
      -- `c :: (p ++ body)` is a prefix of the longer string, and the pattern fits into it
      have hsub := (List.prefix_cons_inj c).mpr ((List.prefix_append_right_inj p).mpr
        ((List.prefix_append body [e]).trans (List.prefix_append _ rest)))
      have hfit := Nat.le_trans (Nat.le_of_eq (List.length_append (as := body) (bs := [e])))
        (Nat.succ_le_succ (List.suffix_append p body).length_le)
      rw [if_neg fun hq => hp (List.isPrefixOf_iff_prefix.mpr
        (List.prefix_of_prefix_length_le (List.isPrefixOf_iff_prefix.mp hq) hsub hfit)), ih (Option.map_eq_none_iff.mp h)]
      rfl

theorem takeParts_zero (s : List Char) : takeParts 0 s = some [] := by
  unfold takeParts
  rfl

theorem takeParts_component (k : Nat) (rest w d : List Char) (h : '/' ∉ w) (hd : takeParts k rest = some d) :
    takeParts (k + 1) (w ++ '/' :: rest) = some (w ++ '/' :: d) := by
  induction w with
  | nil => exact (if_pos rfl).trans (hd ▸ rfl)
  | cons c r ih => exact (if_neg (List.ne_of_not_mem_cons h).symm).trans (ih (List.not_mem_of_not_mem_cons h) ▸ rfl)

theorem segBaseDir_at (pre rest d : List Char) (hp : findSub finalStr (pre ++ (finalStr ++ rest)) = some pre.length)
    (hd : takeParts depthAfterFinal rest = some d) :
    segBaseDir (pre ++ (finalStr ++ rest)) = some (pre ++ (finalStr ++ d)) := by
  simp only [segBaseDir, hp]
  rw [← List.append_assoc, List.drop_left' List.length_append, List.take_left' List.length_append, hd, Option.map_some,
    List.append_assoc]

end SigModel.Lemmas.C14Dir
