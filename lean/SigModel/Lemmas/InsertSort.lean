/-
Insertion sort is written out again in several models (`Sched.insertBy`, `Trace.insertBy`, `WalRecover.insertByName`
and `insertByIndex`, `Crash.insertQ`, `Retention.insertBy`, `SegSelect.insertDesc`), as "walk past `y` while …, then put
`x` down".  `Inserts` and `SortsBy` are the equations all of them satisfy (by `rfl`, or after `ite_not`); from these alone
the result is a permutation of the input and sorted under every relation the test respects.  Core Lean only.
-/
namespace SigModel.Lemmas.InsertSort
open List
universe u

/-- `ins x` walks past `y` while `past x y` and then puts `x` down (`past x y` is `before y x`, or `¬ le x y`) -/
structure Inserts {α : Type u} (past : α → α → Prop) [∀ x y, Decidable (past x y)] (ins : α → List α → List α) :
    Prop where
  nil : ∀ x, ins x [] = [x]
  cons : ∀ x y l, ins x (y :: l) = if past x y then y :: ins x l else x :: y :: l

/-- `sort` is the insertion sort built on `ins`, written as a recursion or as `foldr ins []` -/
structure SortsBy {α : Type u} (ins : α → List α → List α) (sort : List α → List α) : Prop where
  nil : sort [] = []
  cons : ∀ x l, sort (x :: l) = ins x (sort l)

variable {α : Type u} {past : α → α → Prop} [∀ x y, Decidable (past x y)] {ins : α → List α → List α}
  {sort : List α → List α}

theorem Inserts.perm (h : Inserts past ins) (x : α) : ∀ l, ins x l ~ x :: l
  | [] => h.nil x ▸ .refl _
  | y :: l => by
    rw [h.cons]
    split
    · exact ((h.perm x l).cons y).trans (.swap x y l)
    · exact .refl _

/-- `R`-sortedness is kept when walking past `y` puts `y` before `x` (`fwd`), and stopping in front of `y` puts `x`
before `y` and before all that `y` is before (`stop`) -/
theorem Inserts.pairwise (h : Inserts past ins) {R : α → α → Prop} (x : α)
    (fwd : ∀ y, past x y → R y x) (stop : ∀ y, ¬ past x y → R x y ∧ ∀ z, R y z → R x z) :
    ∀ l, l.Pairwise R → (ins x l).Pairwise R
  | [], _ => h.nil x ▸ pairwise_singleton R x
  | y :: l, hl => by
    have hy := pairwise_cons.mp hl
    rw [h.cons]
    split
    · next hp =>
      exact pairwise_cons.mpr ⟨fun z hz => (mem_cons.mp ((h.perm x l).mem_iff.mp hz)).elim (· ▸ fwd y hp) (hy.1 z),
        h.pairwise x fwd stop l hy.2⟩
    · next hp =>
      exact pairwise_cons.mpr
        ⟨fun z hz => (mem_cons.mp hz).elim (· ▸ (stop y hp).1) fun hz => (stop y hp).2 z (hy.1 z hz), hl⟩

theorem SortsBy.perm (hs : SortsBy ins sort) (h : Inserts past ins) : ∀ l, sort l ~ l
  | [] => hs.nil.symm ▸ .refl _
  | x :: l => hs.cons x l ▸ (h.perm x _).trans ((hs.perm h l).cons x)

theorem SortsBy.pairwise (hs : SortsBy ins sort) (h : Inserts past ins) {R : α → α → Prop}
    (fwd : ∀ x y, past x y → R y x) (stop : ∀ x y, ¬ past x y → R x y ∧ ∀ z, R y z → R x z) :
    ∀ l, (sort l).Pairwise R
  | [] => hs.nil.symm ▸ .nil
  | x :: l => hs.cons x l ▸ h.pairwise x (fwd x) (stop x) _ (hs.pairwise h fwd stop l)

end SigModel.Lemmas.InsertSort
