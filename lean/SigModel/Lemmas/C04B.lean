/- Arithmetic behind the time cells of Props/C04.lean.  Timechart (`FindTimeRangeBucket`): the uint64 computation of a
   cell does not wrap; the last cell of a range whose end lies on the grid.  bin/aligntime (bin_align_*): floor of a
   quotient of integers in Rat, truncation of an integral rational, the Time primitives on millisecond instants.  Core only. -/
import SigModel.Lemmas.MachInt
import SigModel.Model.TimePrims
import SigModel.Model.BinAlign
import SigModel.Spec.Logs

namespace SigModel.Lemmas.C04B
open SigModel.MachInt SigModel.TimePrims SigModel.BinAlign

theorem cell_noWrap (start step ts : Int) (h0 : 0 ≤ start) (hs : 0 < step) (h1 : start ≤ ts)
    (hmax : ts < 18446744073709551616) :
    wrapU64 (start + wrapU64 (wrapU64 (Int.tdiv (wrapU64 (ts - start)) step) * step)) =
      start + (ts - start) / step * step := by
  have hd : 0 ≤ ts - start := Int.sub_nonneg.mpr h1
  have hdt : ts - start ≤ ts := Int.sub_le_self ts h0
  have hq := Int.ediv_nonneg hd (Int.le_of_lt hs)
  have hp := Int.mul_nonneg hq (Int.le_of_lt hs)
  have hpd := Int.ediv_mul_le (ts - start) (Int.ne_of_gt hs)
  -- every intermediate value lies in `[0, ts]`
  have w {x : Int} (hx0 : 0 ≤ x) (hx : x ≤ ts) : wrapU64 x = x := wrapU64_id hx0 (Int.lt_of_le_of_lt hx hmax)
  rw [w hd hdt, Int.tdiv_eq_ediv_of_nonneg hd, w hq (Int.le_trans (Int.ediv_le_self step hd) hdt),
    w hp (Int.le_trans hpd hdt), w (Int.add_nonneg h0 hp) (Int.add_le_of_le_sub_left hpd)]

theorem pred_div_mul (d step : Nat) (hd : 0 < d) (hg : d % step = 0) :
    (d - 1) / step * step = d - step := by
  obtain ⟨k, rfl⟩ := Nat.dvd_of_mod_eq_zero hg
  have e : (step * k - 1) / step = k - (0 / step + 1) := Nat.mul_sub_div 0 step k hd
  rw [e, Nat.zero_div, Nat.sub_one_mul, Nat.mul_comm]

theorem tcBucket_end (start end_ span : Nat) (h : start < end_) :
    Spec.tcBucket start end_ span end_ = Spec.bucketOf start span (end_ - 1) :=
  if_pos ((Bool.and_eq_true _ _).mpr ⟨decide_eq_true rfl, decide_eq_true h⟩)

theorem ratFloor_div (a b : Int) (hb : 0 < b) : Rat.floor ((a : Rat) / (b : Rat)) = a / b := by
  have hbq : (0 : Rat) < (b : Rat) := Rat.intCast_lt_intCast.mpr hb
  -- both sides are below the same integers
  have H (x : Int) : Rat.floor ((a : Rat) / (b : Rat)) < x ↔ a / b < x := by
    rw [Rat.floor_lt_iff, Rat.div_lt_iff hbq, ← Rat.intCast_mul, Rat.intCast_lt_intCast, Int.ediv_lt_iff_lt_mul hb]
  exact Int.le_antisymm (Int.not_lt.mp fun h => Int.lt_irrefl _ ((H _).mpr h))
    (Int.not_lt.mp fun h => Int.lt_irrefl _ ((H _).mp h))

theorem ratTrunc_intCast (n : Int) : ratTrunc ((n : Int) : Rat) = n := by
  unfold ratTrunc
  rw [← Rat.intCast_neg, Rat.floor_intCast, Rat.floor_intCast, Int.neg_neg, ite_self]

/-- `n` units of `m` ms in nanoseconds, as the kernel's int64 steps compute it -/
theorem spanNs (n m : Int) (hn : 0 < n) (hm : 0 < m) (hspan : n * m * 1000000 < 9223372036854775808) :
    wrapS64 (wrapS64 (ratTrunc ((n : Int) : Rat)) * (m * 1000000)) = n * m * 1000000 := by
  have hk : 0 < m * 1000000 := Int.mul_pos hm (by decide)
  have hle : n * 1 ≤ n * (m * 1000000) := Int.mul_le_mul_of_nonneg_left hk (Int.le_of_lt hn)
  rw [Int.mul_one] at hle
  rw [Int.mul_assoc] at hspan
  rw [ratTrunc_intCast, wrapS64_id n (Int.le_trans (by decide) (Int.le_of_lt hn)) (Int.lt_of_le_of_lt hle hspan),
    wrapS64_id _ (Int.le_trans (by decide) (Int.le_of_lt (Int.mul_pos hn hk))) hspan, Int.mul_assoc]

theorem sub_emod_le (x a span : Int) (hs : 0 < span) : x - a % span ≤ x ∧ x < x - a % span + span :=
  ⟨Int.sub_le_self x (Int.emod_nonneg a (Int.ne_of_gt hs)),
    Int.lt_add_of_sub_left_lt ((Int.sub_sub_self x _).symm ▸ Int.emod_lt_of_pos a hs)⟩

theorem gridPoint_eq (span T ts : Int) : gridPoint span T ts = ts - (ts - T) % span := by
  unfold gridPoint
  rw [Int.emod_def, Int.mul_comm span, Int.sub_sub, Int.sub_sub_self]

theorem gridPoint_le (span T ts : Int) (hs : 0 < span) :
    gridPoint span T ts ≤ ts ∧ ts < gridPoint span T ts + span :=
  gridPoint_eq span T ts ▸ sub_emod_le ts (ts - T) span hs

theorem gridPoint_unique (span T ts g : Int) (h1 : (g - T) % span = 0) (h2 : g ≤ ts)
    (h3 : ts < g + span) : g = gridPoint span T ts := by
  obtain ⟨k, hk⟩ := Int.dvd_of_emod_eq_zero h1
  -- `ts − T = (ts − g) + span·k` has remainder `ts − g`, which lies in `[0, span)`
  have e : ts - g + (g - T) = ts - T := by rw [← Int.add_sub_assoc, Int.sub_add_cancel]
  rw [gridPoint_eq, ← e, hk, Int.add_mul_emod_self_left,
    Int.emod_eq_of_lt (Int.sub_nonneg.mpr h2) (Int.sub_left_lt_of_lt_add h3), Int.sub_sub_self]

theorem gridPoint_on_grid (span T ts : Int) : (gridPoint span T ts - T) % span = 0 := by
  unfold gridPoint
  rw [Int.add_comm, Int.add_sub_cancel]
  exact Int.mul_emod_left _ _

theorem bucketNoAlign_le (span ts : Int) (hs : 0 < span) :
    bucketNoAlign span ts ≤ ts ∧ ts < bucketNoAlign span ts + span :=
  sub_emod_le ts (ts + zeroOffsetMs) span hs

theorem wrapS64_cell (span b ts : Int) (hspan : span * 1000000 < 9223372036854775808)
    (hts0 : -4611686018427387904 < ts) (hts : ts < 4611686018427387904) (h1 : b ≤ ts) (h2 : ts < b + span) :
    wrapS64 b = b := by
  -- a span whose nanoseconds fit int64 is below 2^62 ms, so `ts − span < b ≤ ts` with `|ts| < 2^62` keeps `b` in int64
  have hsp : span < 4611686018427387904 :=
    Int.lt_of_mul_lt_mul_right (Int.lt_of_lt_of_le hspan (by decide)) (by decide : (0 : Int) ≤ 1000000)
  exact wrapS64_id b
    (Int.le_of_lt (Int.lt_of_le_of_lt (Int.le_trans (by decide) (Int.sub_le_sub (Int.le_of_lt hts0) (Int.le_of_lt hsp)))
      (Int.sub_right_lt_of_lt_add h2)))
    (Int.lt_of_le_of_lt h1 (Int.lt_trans hts (by decide)))

theorem timeTruncate_ofMilli (span ts : Int) (hs : 0 < span) :
    timeTruncate (timeOfUnixMilli ts) (span * 1000000) = timeOfUnixMilli (bucketNoAlign span ts) := by
  have hz : zeroOffsetNs = zeroOffsetMs * 1000000 := by decide
  unfold timeTruncate timeOfUnixMilli bucketNoAlign
  rw [if_neg (Int.not_le.mpr (Int.mul_pos hs (by decide))), hz, ← Int.add_mul, Int.mul_comm (ts + zeroOffsetMs),
    Int.mul_comm span, Int.mul_emod_mul_of_pos _ _ (by decide : (0:Int) < 1000000), Int.sub_mul, Int.mul_comm 1000000]

/-- the left side is what the kernel's float64 steps compute, read exactly -/
theorem gridPoint_cast (span T ts : Int) (hs : 0 < span) :
    ((T : Int) : Rat) + ((Rat.floor ((((ts : Int) : Rat) - ((T : Int) : Rat)) / ((span : Int) : Rat)) : Int) : Rat) *
      ((span : Int) : Rat) = ((gridPoint span T ts : Int) : Rat) := by
  rw [← Rat.intCast_sub, ratFloor_div _ _ hs, ← Rat.intCast_mul, ← Rat.intCast_add]; rfl

theorem timeUnixMilli_ofMilli (ts : Int) : timeUnixMilli (timeOfUnixMilli ts) = ts :=
  Int.mul_ediv_cancel ts (by decide)

end SigModel.Lemmas.C04B
