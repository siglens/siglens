/-
C07, part 4: induction over the history; the crash at step `k`.
-/
import SigModel.Lemmas.C07c

namespace SigModel.Lemmas.C07
open SigModel.Crash

theorem inv_cmd {sl w fs} (I : Inv sl w fs) (c : Cmd) : ∃ sl', Inv sl' (next w c) (run fs (cmdSteps w c)) := by
  cases c with
  | fl ws => exact ⟨sl, inv_flush I ws⟩
  | ro =>
    dsimp only [cmdSteps, next]
    by_cases hne : w.fls = []
    · rw [rotateSteps, if_pos hne, if_pos hne]
      exact ⟨sl, I⟩
    · rw [if_neg hne]
      exact ⟨_, inv_rotate I hne⟩

/-- `Good` at the cut `k` of `stepsFrom w h`: a flush counts as completed when it lies below `w.nf` or was completed
by `h` within the cut -/
structure GoodH (w : W) (h : Hist) (k : Nat) (fs : FS) : Prop where
  nodup : (visible fs).Nodup
  torn : torn fs = []
  sound : ∀ f ∈ visible fs, f < w.nf ∨ f ∈ completedFrom w h k ∨ inflightFrom w h k = some f
  complete : ∀ f, (f < w.nf ∨ f ∈ completedFrom w h k) → f ∈ visible fs
  fresh : ∀ s ∈ fs.dirs, s < nextSuffix fs
  untouched : ∀ s, s ∉ fs.dirs → fs.seg s = {}
  prov : ∀ f, (f < w.nf ∨ f ∈ completedFrom w h k) → ∃ p ∈ metas fs, f ∈ p.2 ∧ f ∈ segVisible (fs.seg p.1)
  provAll : ∀ p ∈ metas fs, ∀ f ∈ segVisible (fs.seg p.1), f ∈ p.2

namespace GoodH

theorem of_good {w h k fs e} (G : Good w.nf e fs) (he : inflightFrom w h k = e)
    (hc : completedFrom w h k = []) : GoodH w h k fs :=
  have hb : ∀ f, f < w.nf ∨ f ∈ completedFrom w h k → f < w.nf := fun _ hf =>
    hf.elim id fun h => absurd (hc ▸ h) List.not_mem_nil
  ⟨G.nodup, G.torn, fun f hf => (G.sound f hf).imp_right fun h => Or.inr (he.trans h), fun f hf => G.complete f (hb f hf), G.fresh,
    G.untouched, fun f hf => G.prov f (hb f hf), G.provAll⟩

theorem of_next {w c h k fs} (hk : (cmdSteps w c).length ≤ k)
    (G : GoodH (next w c) h (k - (cmdSteps w c).length) fs) : GoodH w (c :: h) k fs := by
  have hnf : ∀ f, f < (next w c).nf ↔ f < w.nf ∨ f ∈ cmdFlush w c := fun f => by
    cases c with
    | fl ws => exact Nat.lt_succ_iff_lt_or_eq.trans (or_congr_right List.mem_singleton.symm)
    | ro =>
      have : (next w .ro).nf = w.nf := (apply_ite W.nf _ _ _).trans (ite_self _)
      rw [this]
      exact (or_iff_left (List.not_mem_nil)).symm
  have hcf : completedFrom w (c :: h) k = cmdFlush w c ++ _ := if_pos hk
  have hc : ∀ f, (f < w.nf ∨ f ∈ completedFrom w (c :: h) k) ↔
      (f < (next w c).nf ∨ f ∈ completedFrom (next w c) h _) := fun f => by
    rw [hcf, List.mem_append, hnf, or_assoc]
  have hi : inflightFrom w (c :: h) k = _ := if_pos hk
  exact ⟨G.nodup, G.torn, fun f hf => or_assoc.1 ((or_assoc.2 (G.sound f hf)).imp (hc f).2 hi.trans),
    fun f hf => G.complete f ((hc f).1 hf), G.fresh, G.untouched, fun f hf => G.prov f ((hc f).1 hf), G.provAll⟩

end GoodH

theorem goodH_stepsFrom (h : Hist) : ∀ {sl : List (Nat × List Nat)} {w : W} {fs : FS} (k : Nat),
    Inv sl w fs → GoodH w h k (run fs ((stepsFrom w h).take k)) := by
  intro sl w
  fun_induction stepsFrom w h generalizing sl with
  | case1 w =>
    intro fs k I
    rw [List.take_nil]
    exact GoodH.of_good (good_inv I) rfl rfl
  | case2 w c h ih =>
    intro fs k I
    by_cases hk : (cmdSteps w c).length ≤ k
    · rw [List.take_append, List.take_of_length_le hk, run_append]
      have ⟨_, I'⟩ := inv_cmd I c
      exact GoodH.of_next hk (ih _ I')
    · have hk' := Nat.lt_of_not_le hk
      rw [List.take_append_of_le_length (Nat.le_of_lt hk')]
      cases c with
      | fl ws => exact GoodH.of_good (flush_prefix I ws k hk') (if_neg hk) (if_neg hk)
      | ro => exact GoodH.of_good (rotate_prefix I k hk') (if_neg hk) (if_neg hk)

theorem preopen_empty : PreOpen [] 0 0 ({} : FS) :=
  ⟨⟨rfl, List.nodup_nil, List.forall_mem_nil _, List.forall_mem_nil _, List.forall_mem_nil _, fun _ _ => rfl,
    List.forall_mem_nil _⟩, List.not_mem_nil, rfl⟩

theorem completedFrom_zero (h : Hist) : ∀ (w : W), completedFrom w h 0 = [] := by
  induction h with
  | nil => exact fun _ => rfl
  | cons c h ih =>
    intro w
    by_cases hc : (cmdSteps w c).length ≤ 0
    · cases c with
      | fl ws => exact absurd (flushSteps_length w ws ▸ hc) (Nat.not_succ_le_zero _)
      -- a rotation of an empty segment is no step at all: go on with the rest of the history
      | ro => exact (if_pos hc).trans (by rw [Nat.zero_sub]; exact ih _)
    · exact if_neg hc

theorem inflightFrom_zero : ∀ (h : Hist) (w : W), inflightFrom w h 0 = none := by
  intro h
  induction h with
  | nil => exact fun _ => rfl
  | cons c h ih =>
    intro w
    by_cases hc : (cmdSteps w c).length ≤ 0
    · exact (if_pos hc).trans (by rw [Nat.zero_sub]; exact ih _)
    · exact (if_neg hc).trans (by cases c <;> rfl)

/-- `3`: the steps of the very first `resetSegStore` (`openSteps 0`) -/
theorem crashAfter_goodH (h : Hist) (k : Nat) : GoodH {} h (k - 3) (crashAfter h k) := by
  by_cases hk : k < 3
  · rw [crashAfter, steps, List.take_append_of_le_length (Nat.le_of_lt hk), Nat.sub_eq_zero_of_le (Nat.le_of_lt hk)]
    exact GoodH.of_good (open_prefix preopen_empty k hk) (inflightFrom_zero h _) (completedFrom_zero h _)
  · rw [crashAfter, steps, List.take_append, List.take_of_length_le (Nat.le_of_not_lt hk), run_append]
    exact goodH_stepsFrom h _ (inv_open preopen_empty)

end SigModel.Lemmas.C07
