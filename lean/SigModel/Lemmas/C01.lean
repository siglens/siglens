/-
C01 lemmas, part a: little-endian integers, one TLV record (encode / frame / decode / GetCvalFromRec).
Framing and decoding are stated for EVERY value, the decoding up to `norm` (what the writer cuts off,
`decTLV_encTLV_norm`); the guarded round trip `decTLV_encTLV` is the corollary.
-/
import SigModel.Model.Tlv

namespace SigModel.Lemmas.C01
open SigModel.Tlv

theorem tBool_eq : tBool = 1 := rfl
theorem tStr_eq : tStr = 2 := rfl
theorem tU8_eq : tU8 = 3 := rfl
theorem tU16_eq : tU16 = 4 := rfl
theorem tU32_eq : tU32 = 5 := rfl
theorem tU64_eq : tU64 = 6 := rfl
theorem tI8_eq : tI8 = 7 := rfl
theorem tI16_eq : tI16 = 8 := rfl
theorem tI32_eq : tI32 = 9 := rfl
theorem tI64_eq : tI64 = 16 := rfl
theorem tF64_eq : tF64 = 17 := rfl
theorem tBackfill_eq : tBackfill = 19 := rfl
theorem tDictArr_eq : tDictArr = 20 := rfl
theorem tRawJson_eq : tRawJson = 21 := rfl
theorem encTsTopdiff_eq : encTsTopdiff = 2 := rfl
theorem maxRecordSize_eq : maxRecordSize = 63000 := rfl
theorem maxRecsPerWip_eq : maxRecsPerWip = 65534 := rfl
theorem cardLimit_eq : cardLimit = 501 := rfl

theorem leN_length (w n : Nat) : (leN w n).length = w := by
  induction w generalizing n with
  | zero => rfl
  | succ w ih => exact congrArg Nat.succ (ih (n / 256))

theorem rdN_leN_mod (w n : Nat) (r : Bytes) : rdN w (leN w n ++ r) = some (n % 256 ^ w, r) := by
  induction w generalizing n with
  | zero => rw [Nat.pow_zero, Nat.mod_one]; rfl
  | succ w ih => simp only [leN, List.cons_append, rdN, ih (n / 256), Nat.pow_succ, Nat.mul_comm _ 256, Nat.mod_mul]

theorem rdN_leN (w n : Nat) (r : Bytes) (h : n < 256 ^ w) : rdN w (leN w n ++ r) = some (n, r) := by
  rw [rdN_leN_mod, Nat.mod_eq_of_lt h]

theorem rdN_none_of_short (w : Nat) (bs : Bytes) (h : bs.length < w) : rdN w bs = none := by
  induction w generalizing bs with
  | zero => exact absurd h (Nat.not_lt_zero _)
  | succ w ih =>
    cases bs with
    | nil => rfl
    | cons b r => simp only [rdN, ih r (Nat.lt_of_succ_lt_succ h)]

theorem rdN_some_of_long (w : Nat) (bs : Bytes) (h : w ≤ bs.length) : ∃ v, rdN w bs = some (v, bs.drop w) := by
  induction w generalizing bs with
  | zero => exact ⟨0, rfl⟩
  | succ w ih =>
    cases bs with
    | nil => exact absurd h (Nat.not_succ_le_zero w)
    | cons b r =>
      obtain ⟨v, hv⟩ := ih r (Nat.le_of_succ_le_succ h)
      exact ⟨b + 256 * v, by simp only [rdN, hv, List.drop_succ_cons]⟩

theorem kindOfTag_tag (k : NumKind) : kindOfTag k.tag = some k := by
  cases k <;> decide +kernel

theorem tag_ne (k : NumKind) : k.tag ≠ tStr ∧ k.tag ≠ tBool ∧ k.tag ≠ tBackfill ∧ k.tag ≠ tDictArr ∧ k.tag ≠ tRawJson :=
  have ne {t : Nat} (h : kindOfTag t = none) : k.tag ≠ t := fun e =>
    Option.some_ne_none k ((kindOfTag_tag k).symm.trans ((congrArg kindOfTag e).trans h))
  ⟨ne rfl, ne rfl, ne rfl, ne rfl, ne rfl⟩

theorem fixedLen_tag (k : NumKind) : fixedLen k.tag = some (1 + k.width) := by
  cases k <;> decide +kernel

theorem encTLV_length_pos (v : Val) : 1 ≤ (encTLV v).length := by
  cases v <;> exact Nat.le_add_left 1 _

theorem encTLV_str_wf (s : Bytes) (h : s.length < 65536) : encTLV (.str s) = tStr :: (leN 2 s.length ++ s) := by
  simp [encTLV, Nat.mod_eq_of_lt h]

theorem encTLV_str_length (s : Bytes) (h : s.length < 65536) : (encTLV (.str s)).length = 3 + s.length := by
  rw [encTLV_str_wf s h, List.length_cons, List.length_append, leN_length, Nat.add_comm 2, Nat.add_comm 3]

/-- no guard: the writer cuts an over-long string to the length it announces -/
theorem recLen_encTLV (v : Val) (r : Bytes) : recLen (encTLV v ++ r) = .ok (encTLV v).length := by
  cases v with
  | str s =>
    have hlt : s.length % 65536 < 65536 := Nat.mod_lt _ (by decide)
    simp [recLen, encTLV, rdN_leN 2 _ _ hlt, leN_length, Nat.min_eq_left (Nat.mod_le _ _)]
    exact Nat.add_right_comm 2 1 _
  | bool b => cases b <;> rfl
  | num k bits =>
    simp [recLen, encTLV, tag_ne k, fixedLen_tag, leN_length, Nat.add_comm]
  | backfill => rfl

/-- the value as the writer stores it -/
def norm : Val → Val
  | .str s => .str (s.take (s.length % 65536))
  | .num k bits => .num k (bits % 256 ^ k.width)
  | v => v

theorem norm_of_wf (v : Val) (h : wf v) : norm v = v := by
  cases v with
  | str s => exact congrArg Val.str ((congrArg s.take (Nat.mod_eq_of_lt h)).trans List.take_length)
  | num k bits => exact congrArg (Val.num k) (Nat.mod_eq_of_lt h)
  | bool b | backfill => rfl

/-- in particular a string whose length is a multiple of 65536 comes back empty -/
theorem decTLV_encTLV_norm (v : Val) (r : Bytes) : decTLV (encTLV v ++ r) = some (norm v, r) := by
  cases v with
  | str s =>
    have hlt : s.length % 65536 < 65536 := Nat.mod_lt _ (by decide)
    have hlen : (s.take (s.length % 65536)).length = s.length % 65536 := List.length_take_of_le (Nat.mod_le _ _)
    simp [decTLV, encTLV, norm, rdN_leN 2 _ _ hlt, hlen, List.take_left' hlen, List.drop_left' hlen]
  | bool b => cases b <;> rfl
  | num k bits => simp [decTLV, encTLV, norm, tag_ne k, kindOfTag_tag, rdN_leN_mod]
  | backfill => rfl

theorem decTLV_encTLV (v : Val) (r : Bytes) (h : wf v) : decTLV (encTLV v ++ r) = some (v, r) := by
  rw [decTLV_encTLV_norm, norm_of_wf v h]

/-- what `GetCvalFromRec` can address: its end index is a uint16 -/
def wfDec : Val → Prop
  | .str s => s.length + 3 < 65536
  | .num k bits => bits < 256 ^ k.width
  | _ => True

theorem wf_of_wfDec (v : Val) (h : wfDec v) : wf v := by
  cases v with
  | str s => exact Nat.lt_of_le_of_lt (Nat.le_add_right _ 3) h
  | num k bits => exact h
  | bool b | backfill => trivial

theorem getCval_str (s r : Bytes) (h : s.length < 65536) :
    getCval (encTLV (.str s) ++ r) =
      if (s.length + 3) % 65536 < 3 then .panic else .ok (.str s, (s.length + 3) % 65536) := by
  -- the end index, at most `len + 3`, is within the record (its length in `simp`'s normal form)
  have hle : (s.length + 3) % 65536 ≤ 2 + (s.length + r.length) + 1 := Nat.le_trans (Nat.mod_le _ _) (by omega)
  simp [getCval, encTLV_str_wf s h, rdN_leN 2 _ _ h, leN_length, hle]

theorem sext_emod (w a : Nat) (ha : a < 256 ^ w) : sext w a % ((256 ^ w : Nat) : Int) = a := by
  rw [sext, apply_ite (· % ((256 ^ w : Nat) : Int)), Int.sub_emod_right, ite_self]
  exact Int.emod_eq_of_lt (Int.natCast_nonneg a) (Int.ofNat_lt.mpr ha)

theorem sext_inj (w a b : Nat) (ha : a < 256 ^ w) (hb : b < 256 ^ w) (h : sext w a = sext w b) : a = b :=
  Int.ofNat_inj.mp (by rw [← sext_emod w a ha, h, sext_emod w b hb])

theorem cvalOfNum_inj (k : NumKind) (a b : Nat) (ha : a < 256 ^ k.width) (hb : b < 256 ^ k.width)
    (h : cvalOfNum k a = cvalOfNum k b) : a = b := by
  cases k with
  | u8 | u16 | u32 | u64 => exact CVal.unsigned.inj h
  | f64 => exact CVal.float.inj h
  | i8 | i16 | i32 | i64 => exact sext_inj _ a b ha hb (CVal.signed.inj h)

theorem num_of_cvalOf_eq (k : NumKind) (b : Nat) (v : Val) (h : cvalOfNum k b = cvalOf v) : ∃ k' b', v = .num k' b' := by
  cases v with
  | num k' b' => exact ⟨k', b', rfl⟩
  | _ => cases k <;> contradiction

end SigModel.Lemmas.C01
