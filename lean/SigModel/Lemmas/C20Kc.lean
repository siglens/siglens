/-
Lookup files, contact points, alert definitions, dashboards / folders: for each store the invariant its steps keep
and what one step does to the abstract state or to the other tenants.
-/
import SigModel.Lemmas.C20K

namespace SigModel.Lemmas.C20K
open SigModel.KV

namespace Lookup
open SigModel.KV.Lookup

theorem endsWithCI_append (name suf : Key) (h : suf.map asciiLower = suf) : endsWithCI (name ++ suf) suf = true := by
  simp only [endsWithCI, List.map_append, List.reverse_append, h, decide_eq_true_eq]
  have hl : suf.reverse.length = suf.length := List.length_reverse
  rw [← hl, List.take_left']
  rfl

theorem hasExt_norm (name : Key) (gz : Bool) : hasExt (norm name gz) = true := by
  unfold norm
  by_cases h : (endsWithCI name csv || endsWithCI name csvgz) = true
  · rewrite [if_pos h]
    exact h
  · rewrite [if_neg h]
    cases gz with
    | true => exact Bool.or_eq_true_iff.2 (Or.inr (endsWithCI_append name csvgz rfl))
    | false => exact Bool.or_eq_true_iff.2 (Or.inl (endsWithCI_append name csv rfl))

def DirOk (m : AL Key String) : Prop := m.keys.Nodup ∧ ∀ k, m.get k ≠ none → hasExt k = true

def Inv (st : St) : Prop := ∀ t, DirOk (st.files t)

theorem inv_init : Inv init := fun _ => ⟨List.nodup_nil, fun _ h => absurd rfl h⟩

theorem abs_upd (st : St) (t : Nat) (k : Key) (o : Option String) {m' : AL Key String}
    (hm : ∀ k', m'.get k' = if k' = k then o else (st.files t).get k') :
    abs { files := upd st.files t m' } = (abs st).set t k o :=
  set_eq (fun _ e k' => congrArg (AL.get · k') (upd_other st.files e m'))
    fun k' => (congrArg (AL.get · k') (upd_same st.files t m')).trans (hm k')

theorem dirOk_put {m : AL Key String} (h : DirOk m) (k : Key) (c : String) (hk : hasExt k = true) : DirOk (m.put k c) :=
  ⟨keys_put_nodup _ _ _ h.1, fun k' hg => by
    by_cases e : k' = k
    · exact e ▸ hk
    · exact h.2 k' (get_put_ne _ c e ▸ hg)⟩

theorem dirOk_del {m : AL Key String} (h : DirOk m) (k : Key) : DirOk (m.del k) :=
  ⟨keys_del_nodup _ _ h.1, fun k' hg => h.2 k' (get_del_sub hg)⟩

theorem inv_upd {st : St} (h : Inv st) (t : Nat) {m' : AL Key String} (hm : DirOk m') : Inv { files := upd st.files t m' } :=
  upd_all h t hm

theorem outOk_delete {s : Spec Nat Key String} {t : Nat} {name : Key} {x : Spec Nat Key String × Res}
    (h : s.delete t name = x) : OutOk s (.delete t name) (.res x.2) :=
  h ▸ rfl

theorem get_noExt {st : St} (h : Inv st) (t : Nat) {name : Key} (he : hasExt name = false) :
    (st.files t).get name = none :=
  Classical.byContradiction fun hg => Bool.false_ne_true (he.symm.trans ((h t).2 name hg))

theorem step_ok {st : St} (h : Inv st) (op : Op) :
    Inv (step st op).1 ∧ abs (step st op).1 = specStep (abs st) op ∧ OutOk (abs st) op (step st op).2 := by
  cases op with
  | upload t name content overwrite gz =>
    dsimp only [step, specStep, OutOk]
    cases Alias.validIndex name with
    | false => exact ⟨h, rfl, rfl⟩
    | true =>
      have hw := inv_upd h t (dirOk_put (h t) (norm name gz) content (hasExt_norm name gz))
      have ha := abs_upd st t (norm name gz) (some content) (get_put (st.files t) (norm name gz) content)
      cases hg : (st.files t).get (norm name gz) with
      | none =>
        rewrite [create_none (s := abs st) hg]
        cases overwrite <;> exact ⟨hw, ha, rfl⟩
      | some c =>
        rewrite [create_some (s := abs st) hg]
        cases overwrite
        · exact ⟨h, rfl, rfl⟩
        · exact ⟨hw, ha, rfl⟩
  | get t name =>
    dsimp only [step, specStep, OutOk, abs]
    cases he : hasExt name with
    | false =>
      rewrite [get_noExt h t he]
      exact ⟨h, rfl, rfl⟩
    | true => cases (st.files t).get name <;> exact ⟨h, rfl, rfl⟩
  | delete t name =>
    dsimp only [step, specStep, OutOk]
    have hdel : abs st t name = none →
        Inv st ∧ abs st = ((abs st).delete t name).1 ∧ Out.res .notFound = .res ((abs st).delete t name).2 :=
      fun hn => ⟨h, congrArg Prod.fst (delete_none hn).symm, outOk_delete (delete_none hn)⟩
    cases he : hasExt name with
    | false => exact hdel (get_noExt h t he)
    | true =>
      cases hg : (st.files t).get name with
      | none => exact hdel hg
      | some c =>
        have hs := delete_some (s := abs st) (t := t) hg
        exact ⟨inv_upd h t (dirOk_del (h t) name), (abs_upd st t _ none (get_del _ _)).trans (congrArg Prod.fst hs).symm,
          outOk_delete hs⟩
  | list t => exact ⟨h, rfl, (h t).1, fun k => mem_keys_iff_get _ k⟩
  | restart => exact ⟨h, rfl, rfl⟩

theorem refines_of_inv (ops : List Op) : ∀ (st : St), Inv st → Refines (abs st) st ops :=
  refines_of_step (step := fun st op => (step st op).1) (next := fun s _ op => specStep s op)
    (ok := fun s st op => OutOk s op (step st op).2) (P := Inv) (fun _ _ => trivial)
    (fun _ _ _ _ h1 h2 h3 => ⟨h1, h2, h3⟩) (fun _ op h => step_ok h op) ops

theorem abs_init : abs init = Spec.empty := rfl

theorem frame (st : St) (op : Op) (t : Nat) (ht : op.tenant = some t) (t' : Nat) (hne : t' ≠ t) :
    (step st op).1.files t' = st.files t' := by
  let P := fun s : St => s.files t' = st.files t'
  cases op with
  | upload t0 name content overwrite gz =>
    cases ht
    dsimp only [step]
    refine ite_fst (P := P) (fun _ => rfl) fun _ => ?_
    cases (st.files t).get (norm name gz) with
    | none => exact upd_other _ hne _
    | some _ => exact ite_fst (P := P) (fun _ => upd_other _ hne _) fun _ => rfl
  | get t0 name =>
    dsimp only [step]
    refine ite_fst (P := P) (fun _ => rfl) fun _ => ?_
    cases (st.files t0).get name <;> rfl
  | delete t0 name =>
    cases ht
    dsimp only [step]
    refine ite_fst (P := P) (fun _ => rfl) fun _ => ?_
    cases (st.files t).get name with
    | none => rfl
    | some _ => exact upd_other _ hne _
  | list t0 => rfl
  | restart => rfl
end Lookup

namespace Contact
open SigModel.KV.Contact

structure Inv (st : St) : Prop where
  nodup : st.rows.keys.Nodup
  fresh : ∀ id, st.rows.get id ≠ none → id < st.next

theorem inv_init : Inv init := ⟨List.nodup_nil, fun _ h => absurd rfl h⟩

theorem abs_get {st : St} {id : Nat} {r : Row} (h : st.rows.get id = some r) (t : Nat) :
    abs st t id = if r.org = t then some (r.name, r.pager, r.slack) else none := by
  unfold abs; rw [h]

theorem abs_none {st : St} {id : Nat} (h : st.rows.get id = none) (t : Nat) : abs st t id = none := by
  unfold abs; rw [h]

theorem nameUsed_iff {st : St} (h : Inv st) (name : Key) (ex : Option Nat) :
    nameUsed st.rows name ex = true ↔ NameUsed (abs st) name ex := by
  unfold nameUsed NameUsed
  simp only [List.any_eq_true, Bool.and_eq_true, decide_eq_true_eq]
  constructor
  · rintro ⟨e, hm, hn, hx⟩
    have hg : st.rows.get e.1 = some e.2 := (mem_iff_get _ h.nodup e.1 e.2).1 hm
    exact ⟨e.2.org, e.1, _, (abs_get hg _).trans (if_pos rfl), hn, hx⟩
  · rintro ⟨t, id, v, hs, hn, hx⟩
    cases hg : st.rows.get id with
    | none => rewrite [abs_none hg] at hs; cases hs
    | some r =>
      rewrite [abs_get hg] at hs
      split at hs
      · cases hs; exact ⟨(id, r), (mem_iff_get _ h.nodup id r).2 hg, hn, hx⟩
      · cases hs

theorem abs_org {st : St} {id t : Nat} (h : ∀ r, st.rows.get id = some r → r.org = t) (t' : Nat) :
    abs st t' id = if t' = t then (st.rows.get id).map (fun r => (r.name, r.pager, r.slack)) else none := by
  cases hg : st.rows.get id with
  | none => rewrite [abs_none hg]; exact (ite_self _).symm
  | some r =>
    rewrite [abs_get hg, h r hg]
    by_cases e : t' = t
    · rewrite [if_pos e, if_pos e.symm]; rfl
    · rw [if_neg e, if_neg (Ne.symm e)]

theorem abs_write {st st' : St} {t id : Nat} {o : Option Row}
    (hg : ∀ id', st'.rows.get id' = if id' = id then o else st.rows.get id')
    (ho : ∀ r, o = some r → r.org = t) (hold : ∀ r0, st.rows.get id = some r0 → r0.org = t) :
    abs st' = (abs st).set t id (o.map fun r => (r.name, r.pager, r.slack)) := by
  funext t' id'
  show abs st' t' id' = if t' = t ∧ id' = id then _ else abs st t' id'
  by_cases hid : id' = id
  · subst hid
    have h1 : st'.rows.get id' = o := (hg id').trans (if_pos rfl)
    rewrite [abs_org (t := t) (fun r e => ho r (h1 ▸ e)), abs_org hold, h1]
    by_cases ht : t' = t
    · rw [if_pos ht, if_pos ⟨ht, rfl⟩]
    · rw [if_neg ht, if_neg ht, if_neg fun h => ht h.1]
  · rw [if_neg fun h => hid h.2]
    unfold abs
    rw [hg, if_neg hid]

theorem outOk_delete {s : Spec Nat Nat CVal} {next t id : Nat} {x : Spec Nat Nat CVal × Res} (h : s.delete t id = x) :
    OutOk s next (.delete t id) (.res x.2) :=
  h ▸ rfl

theorem step_ok {st : St} (h : Inv st) (op : Op) :
    Inv (step st op).1 ∧ abs (step st op).1 = specNext (abs st) op (step st op).2 ∧
    OutOk (abs st) st.next op (step st op).2 := by
  cases op with
  | create t name pager slack =>
    dsimp only [step]
    by_cases hu : nameUsed st.rows name none = true
    · rewrite [if_pos hu]
      exact ⟨h, rfl, Or.inr ⟨(nameUsed_iff h name none).1 hu, rfl⟩⟩
    · rewrite [if_neg hu]
      refine ⟨⟨keys_put_nodup _ _ _ h.nodup, fun id hid => ?_⟩, ?_,
        Or.inl ⟨fun hn => hu ((nameUsed_iff h name none).2 hn), rfl⟩⟩
      · by_cases e : id = st.next
        · exact e ▸ Nat.lt_succ_self _
        · exact Nat.lt_succ_of_lt (h.fresh id (get_put_ne _ _ e ▸ hid))
      · -- no org reads anything under the id the generator hands out
        exact abs_write (o := some ⟨name, t, pager, slack⟩) (get_put _ _ _) (fun _ e => by cases e; rfl) fun r0 h0 =>
          absurd (h.fresh _ (h0 ▸ Option.some_ne_none r0)) (Nat.lt_irrefl _)
  | update t id name pager slack =>
    dsimp only [step]
    cases hg : st.rows.get id with
    | none => exact ⟨h, rfl, Or.inl ⟨abs_none hg t, rfl⟩⟩
    | some r =>
      dsimp only
      by_cases hc : r.org = t
      · rewrite [if_neg (not_not_intro hc)]
        have hne : abs st t id ≠ none := by rewrite [abs_get hg, if_pos hc]; exact Option.some_ne_none _
        by_cases hu : nameUsed st.rows name (some id) = true
        · rewrite [if_pos hu]
          exact ⟨h, rfl, Or.inr (Or.inr ⟨hne, (nameUsed_iff h name (some id)).1 hu, rfl⟩)⟩
        · rewrite [if_neg hu]
          exact ⟨⟨keys_put_nodup _ _ _ h.nodup, fun id' hid =>
              h.fresh id' (get_put_sub (hg ▸ Option.some_ne_none r) (fun h => h) hid)⟩,
            abs_write (o := some ⟨name, r.org, pager, slack⟩) (get_put _ _ _) (fun _ e => by cases e; exact hc)
              fun r0 h0 => Option.some.inj (hg.symm.trans h0) ▸ hc,
            Or.inr (Or.inl ⟨hne, fun hx => hu ((nameUsed_iff h name (some id)).2 hx), rfl⟩)⟩
      · -- a contact of another org: answered like a contact that does not exist, nothing changes
        rewrite [if_pos hc]
        exact ⟨h, rfl, Or.inl ⟨(abs_get hg t).trans (if_neg hc), rfl⟩⟩
  | delete t id =>
    dsimp only [step]
    cases hg : st.rows.get id with
    | none => exact ⟨h, rfl, outOk_delete (delete_none (abs_none hg t))⟩
    | some r =>
      dsimp only
      by_cases hc : r.org = t
      · rewrite [if_neg (not_not_intro hc)]
        exact ⟨⟨keys_del_nodup _ _ h.nodup, fun id' hid => h.fresh id' (get_del_sub hid)⟩,
          abs_write (o := none) (get_del _ _) (fun _ e => nomatch e) fun r0 h0 => Option.some.inj (hg.symm.trans h0) ▸ hc,
          outOk_delete (delete_some ((abs_get hg t).trans (if_pos hc)))⟩
      · rewrite [if_pos hc]
        exact ⟨h, rfl, outOk_delete (delete_none ((abs_get hg t).trans (if_neg hc)))⟩
  | list t =>
    refine ⟨h, rfl, keys_filter_nodup _ _ h.nodup, fun id r => ?_⟩
    rewrite [List.mem_filter, mem_iff_get _ h.nodup, decide_eq_true_eq]
    constructor
    · rintro ⟨hg, horg⟩
      exact ⟨(abs_get hg t).trans (if_pos horg), horg⟩
    · rintro ⟨hs, horg⟩
      cases hg : st.rows.get id with
      | none => rewrite [abs_none hg] at hs; cases hs
      | some r' =>
        rewrite [abs_get hg] at hs
        by_cases ho : r'.org = t
        · -- the stored row and the listed one agree in all four fields
          rewrite [if_pos ho] at hs
          cases r
          cases r'
          cases hs
          cases ho.trans horg.symm
          exact ⟨rfl, horg⟩
        · rewrite [if_neg ho] at hs
          cases hs
  | restart => exact ⟨h, rfl, rfl⟩

theorem refines_of_inv (ops : List Op) : ∀ (st : St), Inv st → Refines (abs st) st ops :=
  refines_of_step (step := fun st op => (step st op).1) (next := fun s st op => specNext s op (step st op).2)
    (ok := fun s st op => OutOk s st.next op (step st op).2) (fun _ _ => trivial)
    (fun _ _ _ _ h1 h2 h3 => ⟨h1, h2, h3⟩) (fun _ op h => step_ok h op) ops

theorem inv_run (ops : List Op) : Inv (run init ops).1 :=
  run_keeps (P := Inv) (fun _ => rfl) (fun _ _ _ => rfl) (fun _ op h => (step_ok h op).1) ops init inv_init

theorem specNext_other (s : Spec Nat Nat CVal) (op : Op) (o : Out) (t : Nat) (ht : op.tenant = some t) (t' : Nat)
    (hne : t' ≠ t) (id : Nat) : specNext s op o t' id = s t' id := by
  unfold specNext
  split
  · cases ht; exact set_other s hne _ _ id
  · cases ht; exact set_other s hne _ _ id
  · cases ht; exact set_other s hne _ _ id
  · rfl

theorem abs_init : abs init = Spec.empty := rfl

end Contact

namespace AlertDB
open SigModel.KV.AlertDB

/-- `put`: an insert or save that the UNIQUE index on the name let through (`hu`), under the next id or over a row of
the request's org (`hid`) -/
inductive Change (st : St) (op : Op) (st' : St) : Prop
  | same (ha : st'.alerts = st.alerts) (hn : st'.nextA = st.nextA)
  | put (id : Nat) (r : Row) (ha : st'.alerts = st.alerts.put id r) (ho : op.tenant = some r.org)
      (hu : ∀ id' r', st.alerts.get id' = some r' → r'.name = r.name → id' = id)
      (hid : (id = st.nextA ∧ st'.nextA = st.nextA + 1) ∨
        (∃ r0, st.alerts.get id = some r0 ∧ r0.org = r.org ∧ st'.nextA = st.nextA))
  | del (id : Nat) (r0 : Row) (hg : st.alerts.get id = some r0) (ho : op.tenant = some r0.org)
      (ha : st'.alerts = st.alerts.del id) (hn : st'.nextA = st.nextA)

theorem not_used {alerts : AL Nat Row} {name : Key} {ex : Option Nat} (h : ¬ nameUsed alerts name ex = true)
    (id : Nat) (r : Row) (hg : alerts.get id = some r) (hn : r.name = name) : some id = ex := by
  unfold nameUsed at h
  rewrite [List.any_eq_true] at h
  refine Classical.byContradiction fun hx => h ⟨(id, r), mem_of_get hg, ?_⟩
  rewrite [Bool.and_eq_true, decide_eq_true_eq, decide_eq_true_eq]
  exact ⟨hn, hx⟩

theorem step_change (st : St) (op : Op) : Change st op (step st op).1 := by
  cases op with
  | contact t name => exact ite_fst (fun _ => .same rfl rfl) (fun _ => .same rfl rfl)
  | create t name msg cid =>
    refine ite_fst (fun _ => .same rfl rfl) fun _ => ?_
    cases st.contacts.get cid with
    | none => exact .same rfl rfl
    | some cn =>
      exact ite_fst (fun _ => .same rfl rfl) fun hu =>
        .put st.nextA _ rfl rfl (fun id' r' hg hn => nomatch not_used hu id' r' hg hn) (Or.inl ⟨rfl, rfl⟩)
  | update t id name msg cid =>
    dsimp only [step]
    cases hg : st.alerts.get id with
    | none => exact .same rfl rfl
    | some r0 =>
      refine ite_fst (fun _ => .same rfl rfl) fun horg => ite_fst (fun _ => .same rfl rfl) fun _ => ?_
      split
      · exact .same rfl rfl
      · exact ite_fst (fun _ => .same rfl rfl) fun hu =>
          .put id _ rfl (congrArg some (Classical.not_not.1 horg).symm)
            (fun id' r' hg' hn => Option.some.inj (not_used hu id' r' hg' hn)) (Or.inr ⟨r0, hg, rfl, rfl⟩)
  | delete t id =>
    dsimp only [step]
    cases hg : st.alerts.get id with
    | none => exact .same rfl rfl
    | some r0 =>
      exact ite_fst (fun _ => .same rfl rfl) fun horg =>
        .del id r0 hg (congrArg some (Classical.not_not.1 horg).symm) rfl rfl
  | get t id =>
    dsimp only [step]
    cases st.alerts.get id with
    | none => exact .same rfl rfl
    | some r0 => exact ite_fst (fun _ => .same rfl rfl) (fun _ => .same rfl rfl)
  | list t => exact .same rfl rfl
  | restart => exact .same rfl rfl

def Unique (a : AL Nat Row) : Prop :=
  ∀ id id' r r', a.get id = some r → a.get id' = some r' → r.name = r'.name → id = id'

theorem unique_step {st : St} (h : Unique st.alerts) (op : Op) : Unique (step st op).1.alerts := by
  cases step_change st op with
  | same ha _ => exact ha ▸ h
  | put id0 r0 ha _ hu _ =>
    -- a row off `id0` with the name of the row written there would have been in the way of the write (`hu`)
    rewrite [ha]
    intro id id' r r' hg hg' hn
    rewrite [get_put] at hg hg'
    by_cases e : id = id0 <;> by_cases e' : id' = id0
    · exact e.trans e'.symm
    · rewrite [if_pos e] at hg; rewrite [if_neg e'] at hg'
      exact absurd (hu id' r' hg' (hn.symm.trans (congrArg Row.name (Option.some.inj hg).symm))) e'
    · rewrite [if_neg e] at hg; rewrite [if_pos e'] at hg'
      exact absurd (hu id r hg (hn.trans (congrArg Row.name (Option.some.inj hg').symm))) e
    · rewrite [if_neg e] at hg; rewrite [if_neg e'] at hg'
      exact h id id' r r' hg hg' hn
  | del id0 _ _ _ ha _ =>
    rewrite [ha]
    intro id id' r r' hg hg' hn
    exact h id id' r r' (get_del_some hg) (get_del_some hg') hn

def Fresh (st : St) : Prop := ∀ id, st.alerts.get id ≠ none → id < st.nextA

theorem fresh_step {st : St} (h : Fresh st) (op : Op) : Fresh (step st op).1 := by
  unfold Fresh
  cases step_change st op with
  | same ha hn => exact ha ▸ hn ▸ h
  | put id0 r0 ha _ _ hid =>
    rewrite [ha]
    intro id hg
    rcases hid with ⟨e, hn⟩ | ⟨r1, hg1, _, hn⟩
    · rewrite [hn]
      by_cases e' : id = id0
      · exact e' ▸ e ▸ Nat.lt_succ_self _
      · exact Nat.lt_succ_of_lt (h id (get_put_ne _ r0 e' ▸ hg))
    · exact hn ▸ h id (get_put_sub (hg1 ▸ Option.some_ne_none r1) (fun h => h) hg)
  | del id0 _ _ _ ha hn => exact ha ▸ hn ▸ fun id hg => h id (get_del_sub hg)

theorem frame_step {st : St} (h : Fresh st) (op : Op) (t : Nat) (ht : op.tenant = some t) (id : Nat) (r : Row)
    (hne : r.org ≠ t) : (step st op).1.alerts.get id = some r ↔ st.alerts.get id = some r := by
  cases step_change st op with
  | same ha _ => rw [ha]
  | put id0 r0 ha ho _ hid =>
    have horg : r0.org = t := Option.some.inj (ho.symm.trans ht)
    rw [ha, get_put]
    by_cases e : id = id0
    · -- the row written, and the row it may replace, belong to `t`
      rw [if_pos e]
      refine ⟨fun hr => absurd (Option.some.inj hr ▸ horg) hne, fun hg => ?_⟩
      rcases hid with ⟨e0, _⟩ | ⟨r1, hg1, h1, _⟩
      · exact absurd (h id (hg ▸ Option.some_ne_none r)) (e ▸ e0 ▸ Nat.lt_irrefl _)
      · exact absurd (Option.some.inj ((e ▸ hg).symm.trans hg1) ▸ h1.trans horg) hne
    · rw [if_neg e]
  | del id0 r0 hg0 ho ha _ =>
    rw [ha, get_del]
    by_cases e : id = id0
    · rw [if_pos e]
      refine ⟨fun hr => (nomatch hr), fun hg => ?_⟩
      exact absurd (Option.some.inj ((e ▸ hg).symm.trans hg0) ▸ Option.some.inj (ho.symm.trans ht)) hne
    · rw [if_neg e]

theorem unique_fresh_run (ops : List Op) : Unique (run init ops).1.alerts ∧ Fresh (run init ops).1 :=
  run_keeps (P := fun st => Unique st.alerts ∧ Fresh st) (fun _ => rfl) (fun _ _ _ => rfl)
    (fun _ op h => ⟨unique_step h.1 op, fresh_step h.2 op⟩) ops init ⟨fun _ _ _ _ h => (nomatch h), fun _ h => absurd rfl h⟩

end AlertDB

namespace Dash
open SigModel.KV.Dash

/-- the reads, which refresh stale folder metadata, and by patch c20-5 the favourite flag: nothing is written but
details files of `t`'s own objects -/
structure DetOnly (st : St) (t : Nat) (st' : St) : Prop where
  fs : st'.fs = st.fs
  next : st'.next = st.next
  det : ∀ id, st'.det.get id = st.det.get id ∨ (st.fs t).items.get id ≠ none

theorem DetOnly.refl (st : St) (t : Nat) : DetOnly st t st := ⟨rfl, rfl, fun _ => Or.inl rfl⟩

theorem DetOnly.put {st : St} {t id : Nat} (h : (st.fs t).items.get id ≠ none) (d : Det) :
    DetOnly st t { st with det := st.det.put id d } :=
  ⟨rfl, rfl, get_off h fun _ => get_put_ne _ d⟩

theorem DetOnly.trans {st st1 st2 : St} {t : Nat} (h1 : DetOnly st t st1) (h2 : DetOnly st1 t st2) : DetOnly st t st2 :=
  ⟨h2.fs.trans h1.fs, h2.next.trans h1.next, fun id =>
    (h2.det id).elim (fun e => e ▸ h1.det id) fun hi => Or.inr (h1.fs ▸ hi)⟩

theorem getDashG_detOnly (old : Bool) (st : St) (t id : Nat) : DetOnly st t (getDashG old st t id).1 := by
  unfold getDashG
  dsimp only
  refine ite_fst (fun _ => .refl st t) fun _ => ?_
  cases st.det.get id with
  | none => exact .refl st t
  | some d =>
    dsimp only
    cases hi : (st.fs t).items.get id with
    | none => exact .refl st t
    | some it =>
      dsimp only
      cases it.parent with
      | none => exact .refl st t
      | some fid =>
        dsimp only
        cases (st.fs t).items.get fid with
        | none => exact .refl st t
        | some _ => exact ite_fst (fun _ => .refl st t) fun _ => .put (hi ▸ Option.some_ne_none it) _

theorem listFold_detOnly (old : Bool) (fs0 : FS) (t : Nat) (items : List (Nat × Item)) :
    ∀ acc : St × List Row, DetOnly acc.1 t (listFold old fs0 t items acc).1 := by
  induction items with
  | nil => exact fun acc => .refl acc.1 t
  | cons e r ih =>
    intro acc
    refine .trans ?_ (ih (listRow old fs0 t acc e))
    unfold listRow
    exact ite_fst (fun _ => .refl acc.1 t) fun _ => getDashG_detOnly old acc.1 t e.1

theorem get_foldl_del {V : Type} (dead : List Nat) : ∀ (m : AL Nat V) (y : Nat),
    (dead.foldl (fun m x => m.del x) m).get y ≠ none → m.get y ≠ none := by
  induction dead with
  | nil => exact fun _ _ h => h
  | cons x r ih => exact fun m y h => get_del_sub (ih _ y h)

theorem det_foldl_del (fs : FS) (dead : List Nat) : ∀ (d : AL Nat Det) (y : Nat),
    (dead.foldl (fun d x => match fs.items.get x with
        | some ix => if ix.ty = .dash then d.del x else d
        | none => d) d).get y = d.get y ∨ fs.items.get y ≠ none := by
  induction dead with
  | nil => exact fun _ _ => Or.inl rfl
  | cons x r ih =>
    intro d y
    refine (ih (match fs.items.get x with | some ix => if ix.ty = .dash then d.del x else d | none => d) y).elim
      (fun e => ?_) Or.inr
    rw [List.foldl_cons, e]
    cases hx : fs.items.get x with
    | none => exact Or.inl rfl
    | some ix =>
      refine iteInduction (motive := fun d' : AL Nat Det => d'.get y = d.get y ∨ _) (fun _ => ?_) fun _ => Or.inl rfl
      exact get_off (P := fun y => fs.items.get y ≠ none) (hx ▸ Option.some_ne_none ix) (fun _ => get_del_ne d) y

theorem owns_of {old : Bool} {st : St} {t id : Nat} (ho : ¬ (!old && !ownsDash st t id) = true) (hold : old = false) :
    (st.fs t).items.get id ≠ none := by
  subst hold
  intro hn
  refine ho ?_
  unfold ownsDash
  rw [hn]
  rfl

/-- `det` is patch c20-5 (`old = false`) -/
structure Effect (old : Bool) (st : St) (t : Nat) (st' : St) : Prop where
  frame : ∀ t', t' ≠ t → st'.fs t' = st.fs t'
  next_le : st.next ≤ st'.next
  ids : ∀ id, (st'.fs t).items.get id ≠ none → (st.fs t).items.get id ≠ none ∨ (id = st.next ∧ st'.next = st.next + 1)
  det : old = false → ∀ id, st'.det.get id = st.det.get id ∨ id = st.next ∨ (st.fs t).items.get id ≠ none

theorem Effect.refl (old : Bool) (st : St) (t : Nat) : Effect old st t st :=
  ⟨fun _ _ => rfl, Nat.le_refl _, fun _ h => Or.inl h, fun _ _ => Or.inl rfl⟩

theorem DetOnly.effect {old : Bool} {st st' : St} {t : Nat} (h : DetOnly st t st') : Effect old st t st' :=
  ⟨fun _ _ => h.fs ▸ rfl, Nat.le_of_eq h.next.symm, fun _ hi => Or.inl (h.fs ▸ hi), fun _ id => (h.det id).imp_right Or.inr⟩

theorem Effect.write {old : Bool} {st : St} {t : Nat} {fs' : FS} {det' : AL Nat Det} {n' : Nat} (hn : st.next ≤ n')
    (hids : ∀ id, fs'.items.get id ≠ none → (st.fs t).items.get id ≠ none ∨ (id = st.next ∧ n' = st.next + 1))
    (hdet : ∀ id, det'.get id = st.det.get id ∨ id = st.next ∨ (st.fs t).items.get id ≠ none) :
    Effect old st t { fs := upd st.fs t fs', det := det', next := n' } :=
  ⟨fun _ h => upd_other _ h _, hn, fun id h => hids id (upd_same st.fs t fs' ▸ h), fun _ => hdet⟩

/-- the root, id 0, is in every tenant's structure -/
structure Inv (st : St) : Prop where
  fresh : ∀ t id, (st.fs t).items.get id ≠ none → id < st.next
  disjoint : ∀ t t' id, t ≠ t' → id ≠ 0 → (st.fs t).items.get id ≠ none → (st.fs t').items.get id = none

theorem Inv.unused {st : St} (h : Inv st) (t : Nat) : (st.fs t).items.get st.next = none :=
  Classical.byContradiction fun hn => Nat.lt_irrefl _ (h.fresh t _ hn)

section
variable {old : Bool} {st st' : St} {t : Nat}

theorem Effect.apart (e : Effect old st t st') (h : Inv st) {id t' : Nat} (hid : id ≠ 0) (hne : t' ≠ t)
    (hi : (st'.fs t).items.get id ≠ none) : (st.fs t').items.get id = none :=
  (e.ids id hi).elim (h.disjoint t t' id (Ne.symm hne) hid) fun e1 => e1.1 ▸ h.unused t'

theorem Effect.inv (e : Effect old st t st') (h : Inv st) : Inv st' where
  fresh t1 id hi := by
    by_cases h1 : t1 = t
    · subst h1
      exact (e.ids id hi).elim (fun ho => Nat.lt_of_lt_of_le (h.fresh _ id ho) e.next_le) fun e1 =>
        e1.2 ▸ e1.1 ▸ Nat.lt_succ_self _
    · exact Nat.lt_of_lt_of_le (h.fresh t1 id (e.frame t1 h1 ▸ hi)) e.next_le
  disjoint t1 t2 id hne hid hi := by
    by_cases h1 : t1 = t
    · subst h1
      rw [e.frame t2 (Ne.symm hne)]
      exact e.apart h hid (Ne.symm hne) hi
    · rw [e.frame t1 h1] at hi
      by_cases h2 : t2 = t
      · subst h2
        exact Classical.byContradiction fun hn => hi (e.apart h hid h1 hn)
      · rw [e.frame t2 h2]
        exact h.disjoint t1 t2 id hne hid hi

theorem Effect.det_frame (e : Effect false st t st') (h : Inv st) {t' id : Nat} (hne : t' ≠ t) (hid : id ≠ 0)
    (hown : (st.fs t').items.get id ≠ none) : st'.det.get id = st.det.get id :=
  (e.det rfl id).elim (fun e0 => e0) fun hh => hh.elim (fun e1 => absurd (e1 ▸ h.unused t') hown)
    fun ho => absurd (h.disjoint t t' id (Ne.symm hne) hid ho) hown
end

/-- in the shape of the `hids` of `Effect.write` with `n' := st.next + 1`, hence the trivial second equation -/
theorem put_next {st : St} {t : Nat} {x : Item} (id : Nat) (h : ((st.fs t).items.put st.next x).get id ≠ none) :
    (st.fs t).items.get id ≠ none ∨ (id = st.next ∧ st.next + 1 = st.next + 1) := by
  by_cases e : id = st.next
  · exact Or.inr ⟨e, rfl⟩
  · exact Or.inl (get_put_ne _ x e ▸ h)

/-- for the first half of updateDashboard / updateFolder: move below a new parent, or stay -/
def Outcome (E : Res → Prop) (Q : FS → Item → Prop) : Except Res (FS × Item) → Prop
  | .error e => E e
  | .ok (fs1, it1) => Q fs1 it1

theorem except_elim {α : Type} {P : α → Prop} {E : Res → Prop} {Q : FS → Item → Prop} {r : Except Res (FS × Item)}
    {f : Res → α} {g : FS → Item → α} (hr : Outcome E Q r) (he : ∀ e, E e → P (f e))
    (hk : ∀ fs1 it1, Q fs1 it1 → P (g fs1 it1)) :
    P (match (generalizing := false) r with | .error e => f e | .ok (fs1, it1) => g fs1 it1) := by
  cases r with
  | error e => exact he e hr
  | ok x => exact hk x.1 x.2 hr

theorem item_elim {α : Type} {P : α → Prop} {o : Option Item} {a : α} {f : Item → α}
    (hn : P a) (hs : ∀ x, o = some x → P (f x)) :
    P (match (generalizing := false) o with | none => a | some x => f x) := by
  cases o with
  | none => exact hn
  | some x => exact hs x rfl

theorem nameTaken_put_self (fs : FS) (id : Nat) (x : Item) (p : Nat) (n : Key) :
    nameTaken { fs with items := fs.items.put id x } p n none (some id) = nameTaken fs p n none (some id) := by
  unfold nameTaken
  congr 1
  funext c
  by_cases e : c = id
  · subst e
    simp only [get_put, if_true]
    cases fs.items.get c <;> simp
  · simp only [get_put, e, if_false]

/-- updateFolder as an elimination rule.  The last hypothesis of `hok` is patch c20-13: the name test is made for a
folder that is moved as for one that is renamed -/
theorem updateFolder_cases {old : Bool} {st : St} {t id : Nat} {name : Option Key} {newParent : Option Nat}
    {P : St × Out → Prop} (hno : ∀ e, e ≠ .ok → P (st, .res e))
    (hok : ∀ it it2 fs', (st.fs t).items.get id = some it → fs'.items.get id = some it2 →
      (∀ y, fs'.items.get y ≠ none → (st.fs t).items.get y ≠ none) →
      (old = false → ((∃ np, newParent = some np ∧ some np ≠ it.parent) ∨ ∃ n, name = some n ∧ n ≠ it.name) →
        ∀ p, it2.parent = some p → nameTaken fs' p it2.name none (some id) = false) →
      P (setFS st t fs', .res .ok)) :
    P (stepG old st (.updateFolder t id name newParent)) := by
  refine iteInduction (fun _ => hno _ (by decide)) fun _ => item_elim (hno _ (by decide)) fun it hg => ?_
  refine iteInduction (fun _ => hno _ (by decide)) fun _ => except_elim (E := fun e => e ≠ .ok)
    (Q := fun fs1 it1 => fs1.items = (st.fs t).items ∧ it1.name = it.name ∧ ∀ np, newParent = some np → it1.parent = some np)
    ?_ hno fun fs1 it1 hq => ?_
  · -- the first half: a move rewrites `order` alone and hands on the item under its new parent
    refine iteInduction (fun _ => ?_) fun hm => ⟨rfl, rfl, fun np e => ?_⟩
    · refine item_elim (fun h => nomatch h) fun p _ => iteInduction (fun _ h => nomatch h) fun _ =>
        iteInduction (fun _ h => nomatch h) fun _ => ⟨rfl, rfl, fun np e => ?_⟩
      rw [e]
      rfl
    · subst e
      exact Classical.byContradiction fun h => hm (decide_eq_true fun e => h e.symm)
  · obtain ⟨hitems, hname, hpar⟩ := hq
    refine iteInduction (fun _ => hno _ (by decide)) fun hnt => hok it _ _ hg ((get_put _ _ _ _).trans (if_pos rfl))
      (fun _ => get_put_sub (hg ▸ Option.some_ne_none it) fun h' => hitems ▸ h') fun hold hchg p hp => ?_
    subst hold
    rw [nameTaken_put_self]
    rw [apply_ite Item.parent] at hp
    have hp' : it1.parent = some p := (ite_self _).symm.trans hp
    -- the name `it2` carries is the `newName` the test was made for
    refine Eq.trans (congrArg (fun k => nameTaken fs1 p k none (some id))
      (?_ : _ = match (generalizing := false) name with | some n => n | none => it1.name)) ?_
    · cases name with
      | none => rfl
      | some n =>
        dsimp only [Option.getD_some]
        split
        · rfl
        · next hr => exact Classical.byContradiction fun e => hr (decide_eq_true fun e' => e e'.symm)
    -- the request moves or renames, so the test was made, against the siblings below `p`
    · refine Bool.eq_false_iff.2 fun htk => hnt (Bool.and_eq_true_iff.2 ⟨Bool.or_eq_true_iff.2 ?_, ?_⟩)
      · rcases hchg with ⟨np, rfl, hnp⟩ | ⟨n, rfl, hn⟩
        · exact Or.inr (decide_eq_true hnp)
        · exact Or.inl (decide_eq_true (hname ▸ hn))
      · cases newParent with
        | none =>
          dsimp only
          rw [hp']
          exact htk
        | some np =>
          cases (hpar np rfl).symm.trans hp'
          exact htk

section
variable {old : Bool} {st : St} {t : Nat}

theorem Effect.ite {c : Prop} [Decidable c] {r : Out} {b : St × Out} (h : ¬c → Effect old st t b.1) :
    Effect old st t (if c then (st, r) else b).1 :=
  ite_fst (fun _ => .refl old st t) h

theorem Effect.item {o : Option Item} {r : Out} {f : Item → St × Out} (h : ∀ x, o = some x → Effect old st t (f x).1) :
    Effect old st t (match o with | none => (st, r) | some x => f x).1 :=
  item_elim (P := fun x : St × Out => Effect old st t x.1) (.refl old st t) h

end

theorem getDash_fst (old : Bool) (st : St) (t id : Nat) :
    (stepG old st (.getDash t id)).1 = (getDashG old st t id).1 := by
  change (match getDashG old st t id with
    | (st', none) => (st', Out.res .notFound)
    | (st', some d) => (st', .dash d)).1 = _
  cases getDashG old st t id with
  | mk s o =>
    cases o with
    | none => rfl
    | some d => rfl

/-- stated over `op.tenant`, which computes in every case, so that no case has an equation `op.tenant = some t` to
take apart -/
theorem stepG_effect (old : Bool) (st : St) (op : Op) :
    match op.tenant with
    | some t => Effect old st t (stepG old st op).1
    | none => (stepG old st op).1 = st := by
  cases op with
  | restart => rfl
  | createDash t name payload parent =>
    refine .ite fun _ => .item fun p _ => .ite fun _ => .ite fun _ => ?_
    exact .write (Nat.le_succ _) put_next (get_off (Or.inl rfl) fun _ => get_put_ne _ _)
  | createFolder t name parent =>
    exact .ite fun _ => .item fun p _ => .ite fun _ => .ite fun _ => .write (Nat.le_succ _) put_next fun _ => Or.inl rfl
  | updateDash t id name payload newParent =>
    refine .item fun it hg => .ite fun _ => ?_
    have hi : (st.fs t).items.get id ≠ none := hg ▸ Option.some_ne_none it
    refine except_elim (P := fun x : St × Out => Effect old st t x.1) (E := fun _ => True)
      (Q := fun fs1 _ => ∀ y, fs1.items.get y ≠ none → (st.fs t).items.get y ≠ none) ?_ (fun _ _ => .refl old st t)
      fun fs1 it1 hq => ?_
    · -- a refusal has nothing to show; a move puts the item at `id`, a key already; otherwise the structure stays
      refine iteInduction
        (fun _ => item_elim trivial fun p _ => iteInduction (fun _ => trivial) fun _ => iteInduction (fun _ => trivial) fun _ => ?_)
        fun _ => iteInduction (fun _ => trivial) fun _ _ h => h
      exact fun y => get_put_sub hi fun h => h
    · refine .write (Nat.le_refl _) (fun y h => Or.inl ?_) (get_off (Or.inr hi) fun _ => get_put_ne _ _)
      split at h
      · exact get_put_sub hi (hq y) h
      · exact hq y h
  | updateFolder t id name newParent =>
    exact updateFolder_cases (P := fun x => Effect old st t x.1) (fun _ _ => .refl old st t) fun _ _ _ _ _ hsub _ =>
      .write (Nat.le_refl _) (fun y h => Or.inl (hsub y h)) fun _ => Or.inl rfl
  | deleteDash t id =>
    exact .item fun it hg => .ite fun _ => .write (Nat.le_refl _) (fun y h => Or.inl (get_del_sub h))
      (get_off (Or.inr (hg ▸ Option.some_ne_none it)) fun _ => get_del_ne _)
  | deleteFolder t id =>
    exact .ite fun _ => .item fun it _ => .write (Nat.le_refl _) (fun y h => Or.inl (get_foldl_del _ _ y h))
      fun y => (det_foldl_del (st.fs t) _ st.det y).imp_right Or.inr
  | getDash t id => exact getDash_fst old st t id ▸ (getDashG_detOnly old st t id).effect
  | contents t id =>
    exact .item fun _ _ => .refl old st t
  | list t =>
    exact (listFold_detOnly old _ t _ (st, [])).effect
  | favorite t id =>
    refine .ite fun ho => ?_
    cases st.det.get id with
    | none => exact .refl old st t
    | some d => exact ⟨fun _ _ => rfl, Nat.le_refl _, fun _ h => Or.inl h, fun hold y =>
        ((DetOnly.put (owns_of ho hold) _).det y).imp_right Or.inr⟩

theorem step_effect (old : Bool) (st : St) (op : Op) (t : Nat) (ht : op.tenant = some t) :
    Effect old st t (stepG old st op).1 := by
  have h := stepG_effect old st op
  rw [ht] at h
  exact h

theorem inv_init : Inv init where
  fresh t id h := by
    by_cases e : id = 0
    · exact e ▸ Nat.zero_lt_one
    · exact absurd (if_neg (Ne.symm e)) h
  disjoint t t' id _ hid h := absurd (if_neg (Ne.symm hid)) h

theorem inv_step {st : St} (h : Inv st) (op : Op) : Inv (step st op).1 := by
  have e := stepG_effect false st op
  revert e
  cases op.tenant with
  | none => exact fun e => e.symm ▸ h
  | some t => exact fun e => e.inv h

theorem inv_run (ops : List Op) : Inv (run init ops).1 :=
  run_keeps (step := step) (run := run) (P := Inv) (fun _ => rfl) (fun _ _ _ => rfl) (fun _ op h => inv_step h op) ops init
    inv_init

end Dash

end SigModel.Lemmas.C20K
