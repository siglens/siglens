import SigModel.Model.Retention
/-! The line-level rewrites of segmeta.json (`smRemove`) and metricmeta.json (`mmRemove`): the scanner with its token
limit, and the shape both rewrites have — the file stays as it is, or exactly the kept lines are written (`rewritten`);
one step of `bufio.ScanLines` over the bytes of a file. -/
namespace SigModel.Lemmas.C14
open SigModel.Retention

theorem smScanWith_allShorter (limit : Nat) (ls : List SmLine) (h : AllShorter limit ls) :
    smScanWith limit ls = (ls, false) := by
  fun_induction smScanWith limit ls with
  | case1 => rfl
  | case2 l r hl => exact absurd (h l List.mem_cons_self) (Nat.not_lt.mpr hl)
  | case3 l r hl ih => rw [ih fun x hx => h x (List.mem_cons_of_mem _ hx)]

theorem smScanWith_prefix (limit : Nat) (pre post : List SmLine) (long : SmLine)
    (hp : AllShorter limit pre) (hl : limit ≤ long.len) :
    smScanWith limit (pre ++ long :: post) = (pre, true) := by
  induction pre with
  | nil => exact if_pos hl
  | cons a r ih =>
    exact (if_neg (Nat.not_le.mpr (hp a List.mem_cons_self))).trans
      (congrArg (fun p => (a :: p.1, p.2)) (ih fun x hx => hp x (List.mem_cons_of_mem _ hx)))

theorem allShorter_of_noErr (limit : Nat) (ls : List SmLine) (h : (smScanWith limit ls).2 = false) :
    AllShorter limit ls := by
  fun_induction smScanWith limit ls with
  | case1 => exact List.forall_mem_nil _
  | case2 l r hl => cases h
  | case3 l r hl ih => exact List.forall_mem_cons.mpr ⟨Nat.not_le.mp hl, ih h⟩

theorem smScanWith_tooLong (limit : Nat) (ls : List SmLine) (h : ∃ l ∈ ls, limit ≤ l.len) :
    (smScanWith limit ls).2 = true :=
  (Bool.not_eq_false _).mp fun hf => h.elim fun l hl => Nat.not_le.mpr (allShorter_of_noErr limit ls hf l hl.1) hl.2

theorem smScanWith_noErr (limit : Nat) (ls : List SmLine) (h : (smScanWith limit ls).2 = false) :
    (smScanWith limit ls).1 = ls :=
  congrArg Prod.fst (smScanWith_allShorter limit ls (allShorter_of_noErr limit ls h))

theorem allShorter_filter (limit : Nat) (p : SmLine → Bool) (ls : List SmLine) (h : AllShorter limit ls) :
    AllShorter limit (ls.filter p) :=
  fun l hl => h l (List.mem_filter.mp hl).1

theorem mmReadWith_allShorter (limit : Nat) (ls : List SmLine) (h : AllShorter limit ls) :
    mmReadWith limit (.lines ls) = (ls.filter (·.isEntry), false) := by
  show ((smScanWith limit ls).1.filter _, (smScanWith limit ls).2) = _
  rw [smScanWith_allShorter limit ls h]

theorem smEntries_eq (f : SmFile) : smEntries f = (mmReadWith smScanLimit f).1 := by
  cases f <;> rfl

theorem smEntries_short (ls : List SmLine) (h : AllShort ls) : smEntries (.lines ls) = ls.filter (·.isEntry) := by
  rw [smEntries_eq, mmReadWith_allShorter _ ls h]

theorem smEntries_smAppend (l : SmLine) (hl : l.len < smScanLimit) (f : SmFile) (h : FileShort f) :
    smEntries (smAppend l f) = smEntries f ++ [l].filter (·.isEntry) := by
  have hnew : AllShort [l] := List.forall_mem_singleton.mpr hl
  cases f with
  | missing => exact smEntries_short _ hnew
  | lines ms =>
    rw [smEntries_short ms h, ← List.filter_append]
    exact smEntries_short _ (List.forall_mem_append.mpr ⟨h, hnew⟩)

def rewritten (stay : Bool) (ls keep : List SmLine) : SmFile :=
  bif stay then .lines ls else if keep.isEmpty then .missing else .lines keep

theorem rewritten_stay (ls keep : List SmLine) : rewritten true ls keep = .lines ls := rfl

theorem lineList_rewritten (ls keep : List SmLine) : (rewritten false ls keep).lineList = keep := by
  cases keep <;> rfl

theorem rewritten_all_or_nothing (stay : Bool) (ls keep : List SmLine) :
    rewritten stay ls keep = .lines ls ∨ (rewritten stay ls keep).lineList = keep := by
  cases stay
  · exact Or.inr (lineList_rewritten ls keep)
  · exact Or.inl rfl

theorem mem_rewritten {stay : Bool} {ls keep : List SmLine} {l : SmLine} (hl : l ∈ ls) (hk : l ∈ keep) :
    l ∈ (rewritten stay ls keep).lineList := by
  cases stay
  · rwa [lineList_rewritten]
  · exact hl

theorem fileShort_rewritten (stay : Bool) (ls keep : List SmLine) (hl : AllShort ls) (hk : AllShort keep) :
    FileShort (rewritten stay ls keep) := by
  cases stay
  · cases keep
    · trivial
    · exact hk
  · exact hl

theorem mmReadWith_rewritten (limit : Nat) (ls keep : List SmLine) (hk : AllShorter limit keep) :
    mmReadWith limit (rewritten false ls keep) = (keep.filter (·.isEntry), false) := by
  cases keep with
  | nil => rfl
  | cons a r => exact mmReadWith_allShorter limit _ hk

/-- the `dirs` of `smRemove`: `len(segbaseDirs) != 0` when the loop is over -/
def smHasDirs (a : SmArgs) (ls : List SmLine) : Bool :=
  a.anyValid || (a.index.isSome && (ls.filter (·.isEntry)).any a.removes)

theorem smRemove_lines (a : SmArgs) (ls : List SmLine) :
    (smRemove a (.lines ls)).1
      = rewritten ((a.nilMap && a.index.isNone) || (smScan ls).2 || !smHasDirs a ls) ls (smPreserved a ls) := by
  dsimp only [smRemove, smHasDirs, rewritten]
  cases (a.nilMap && a.index.isNone) with
  | true => rfl
  | false =>
    cases h2 : (smScan ls).2 with
    | true => rfl
    | false =>
      rw [show (smScan ls).1 = ls from smScanWith_noErr _ ls h2, List.any_filter]
      cases (a.anyValid || (a.index.isSome && ls.any (fun l => l.isEntry && a.removes l))) with
      | false => rfl
      | true => cases (smPreserved a ls).isEmpty <;> rfl

theorem mmRemove_lines (nilMap : Bool) (victim : Nat → Bool) (ls : List SmLine) :
    mmRemove nilMap victim (.lines ls)
      = rewritten (nilMap || (smScanWith mmScanLimit ls).2 || !(ls.filter (·.isEntry)).any (fun l => victim l.key)) ls
          ((ls.filter (·.isEntry)).filter (fun l => !victim l.key)) := by
  dsimp only [mmRemove, rewritten]
  cases nilMap with
  | true => rfl
  | false =>
    cases h2 : (smScanWith mmScanLimit ls).2 with
    | true => rfl
    | false =>
      rw [smScanWith_noErr _ ls h2]
      cases (ls.filter (·.isEntry)).any (fun l => victim l.key) <;> rfl

theorem smPreserved_eq (a : SmArgs) (ls : List SmLine) :
    smPreserved a ls = (ls.filter (·.isEntry)).filter (fun l => !a.removes l) := by
  rw [List.filter_filter]
  exact List.filter_congr fun l _ => Bool.and_comm _ _

theorem filter_union (v1 v2 : Nat → Bool) (L : List SmLine) :
    (L.filter (fun l => !v1 l.key)).filter (fun l => !v2 l.key) = L.filter (fun l => !(v1 l.key || v2 l.key)) := by
  rw [List.filter_filter]
  exact List.filter_congr fun l _ => (Bool.and_comm _ _).trans (Bool.not_or _ _).symm

theorem read_rewritten (limit : Nat) (stay : Bool) (ls : List SmLine) (r : SmLine → Bool) (h : AllShorter limit ls)
    (hstay : stay = true → (ls.filter (·.isEntry)).any r = false) :
    mmReadWith limit (rewritten stay ls ((ls.filter (·.isEntry)).filter (fun l => !r l)))
      = ((ls.filter (·.isEntry)).filter (fun l => !r l), false) := by
  cases stay with
  | true =>
    rw [rewritten_stay, mmReadWith_allShorter _ ls h, List.filter_eq_self.mpr fun l hl =>
      (Bool.not_eq_true' _).mpr (Bool.eq_false_iff.mpr (List.any_eq_false.mp (hstay rfl) l hl))]
  | false =>
    rw [mmReadWith_rewritten _ _ _ (allShorter_filter _ _ _ (allShorter_filter _ _ ls h)),
      List.filter_eq_self.mpr fun _ hl => (List.mem_filter.mp (List.mem_filter.mp hl).1).2]

/-- `hd`: where `len(segbaseDirs) == 0` leaves the file as it is, there was nothing to remove -/
theorem smRemove_exact (a : SmArgs) (ls : List SmLine) (h : AllShort ls) (hn : (a.nilMap && a.index.isNone) = false)
    (hd : smHasDirs a ls = false → (ls.filter (·.isEntry)).any a.removes = false) (q : SmLine → Bool)
    (hq : ∀ l, l.isEntry = true → a.removes l = q l) :
    smEntries (smRemove a (.lines ls)).1 = (ls.filter (·.isEntry)).filter (fun l => !q l) := by
  rw [smRemove_lines, smPreserved_eq, smEntries_eq, show smScan ls = (ls, false) from smScanWith_allShorter _ ls h, hn]
  exact (congrArg Prod.fst (read_rewritten _ _ ls a.removes h fun hstay => hd ((Bool.not_eq_true' _).mp hstay))).trans
    (List.filter_congr fun l hl => congrArg not (hq l (List.mem_filter.mp hl).2))

theorem smRemove_fileShort (a : SmArgs) (ls : List SmLine) (h : AllShort ls) : FileShort (smRemove a (.lines ls)).1 := by
  rw [smRemove_lines]
  exact fileShort_rewritten _ ls _ h (allShorter_filter _ _ ls h)

/-- `acc.reverseAux l` is `acc.reverse ++ l`: the bytes of the line in file order -/
theorem smSplitAux_line (l rest acc : List Nat) (h : 10 ∉ l) :
    smSplitAux (l ++ [10] ++ rest) acc = smDropCR (acc.reverseAux l) :: smSplitAux rest [] := by
  induction l generalizing acc with
  | nil => exact if_pos rfl
  | cons b r ih =>
    exact (if_neg fun e => h (List.mem_cons.mpr (.inl e.symm))).trans (ih (b :: acc) fun e => h (List.mem_cons_of_mem _ e))

end SigModel.Lemmas.C14
