/-
C08, the stream around the points: the header, the bits of the points one after the other, the finish marker; and the
decoder's loop over them.
-/
import SigModel.Lemmas.C08

namespace SigModel.Lemmas.C08
open SigModel SigModel.Gorilla

def encodeFrom (c : Enc) (pts : List (Nat × Nat)) : Bits :=
  (encodePts c pts).2 ++ finish (encodePts c pts).1

theorem encodeFrom_nil (c : Enc) : encodeFrom c [] = finish c := rfl

-- by unfolding: `encodePts` on a `cons` is the pair of its two `let`s
theorem encodeFrom_cons (c : Enc) (t v : Nat) (ps : List (Nat × Nat)) :
    encodeFrom c ((t, v) :: ps) = (compress c t v).2 ++ encodeFrom (compress c t v).1 ps :=
  List.append_assoc (compress c t v).2 (encodePts (compress c t v).1 ps).2 _

theorem encodeAll_eq (header : Nat) (pts : List (Nat × Nat)) :
    encodeAll header pts = writeBits header 32 ++ encodeFrom (Enc.new header).1 pts :=
  List.append_assoc ..

theorem decodeLoop_succ_ok (fuel : Nat) (d d1 : Dec) (bs r : Bits) (h : next d bs = .ok (d1, r)) :
    decodeLoop (fuel + 1) d bs = ((d1.t, d1.value) :: (decodeLoop fuel d1 r).1, (decodeLoop fuel d1 r).2) := by
  dsimp only [decodeLoop]
  rw [h]

theorem decodeLoop_succ_eof (fuel : Nat) (d : Dec) (bs : Bits) (h : next d bs = .eof) :
    decodeLoop (fuel + 1) d bs = ([], .eof) := by
  dsimp only [decodeLoop]
  rw [h]

/-- the decoder state right after `NewDecompressIterator` -/
def dec0 (header : Nat) : Dec :=
  { header := header, t := 0, delta := 0, lead := 0, trail := 0, value := 0 }

theorem decodeAll_header (header : Nat) (r : Bits) (ps : List (Nat × Nat)) (st : Status) (h : header < P32)
    (hl : decodeLoop ((writeBits header 32 ++ r).length + 1) (dec0 header) r = (ps, st)) :
    decodeAll (writeBits header 32 ++ r) = some (header, ps, st) := by
  dsimp only [decodeAll, Dec.new]
  rw [readBits_writeBits_lt header 32 r h]
  exact congrArg (fun p : List (Nat × Nat) × Status => some (header, p.1, p.2)) hl

end SigModel.Lemmas.C08
