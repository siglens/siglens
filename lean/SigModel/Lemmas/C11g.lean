/-
Concurrent flushes of different segstores (Model/ConcFlush.lean).  In the real configuration (the work buffer
belongs to the call) a step of store `j` rewrites the entry of `j` by a function of that entry alone (`adv`).  What
the entry of a store becomes when its flush runs to completion (`fin`) is therefore the same before and after any
step of any store, and the end of the round completes every flush once.
-/
import SigModel.Model.ConcFlush

namespace SigModel.Lemmas.C11g
open SigModel.ConcFlush

variable {cur : Nat → ConcFlush.Sum} {x : ConcFlush.Sum} {s : St} {t : Th} {j k : Nat}

def adv (x : ConcFlush.Sum) (t : Th) : Th :=
  match t.pc with
  | .idle => { t with pc := .atEnc }
  | .atEnc => { t with pc := .atWr, buf := some x }
  | .atWr => { t with pc := .done, file := t.file ++ t.buf.toList }
  | .done => t

theorem step_th : (step Cfg.real cur s j).th k = if k = j then adv (cur j) (s.th j) else s.th k := by
  unfold step adv
  cases (s.th j).pc
  -- a finished flush: `s.th k = if k = j then s.th j else s.th k`
  case done => exact iteInduction (motive := (s.th k = ·)) (congrArg s.th) fun _ => rfl
  all_goals rfl

/-- Three steps complete a flush from wherever it stands: `done` is a fixed point of `adv`. -/
def fin (x : ConcFlush.Sum) (t : Th) : Th := adv x (adv x (adv x t))

theorem fin_adv : fin x (adv x t) = fin x t := by
  obtain ⟨pc, buf, file⟩ := t
  cases pc
  all_goals rfl

theorem step_fin : fin (cur k) ((step Cfg.real cur s j).th k) = fin (cur k) (s.th k) := by
  rw [step_th]
  by_cases h : k = j
  · rw [if_pos h, h, fin_adv]
  · rw [if_neg h]

theorem run_fin (sched : List Nat) : ∀ s, fin (cur k) ((run Cfg.real cur s sched).th k) = fin (cur k) (s.th k) := by
  induction sched with
  | nil => exact fun _ => rfl
  | cons j rest ih => exact fun _ => (ih _).trans step_fin

theorem finish_own : (finish Cfg.real cur s j).th j = fin (cur j) (s.th j) := by
  rw [finish, step_th, step_th, step_th, if_pos rfl, if_pos rfl, if_pos rfl]
  rfl

theorem finish_other (h : k ≠ j) : (finish Cfg.real cur s j).th k = s.th k := by
  rw [finish, step_th, if_neg h, step_th, if_neg h, step_th, if_neg h]

theorem drain_succ (c : Cfg) (cur : Nat → ConcFlush.Sum) (s : St) (n : Nat) :
    drain c cur s (n + 1) = finish c cur (drain c cur s n) n := by
  simp only [drain, List.range_succ, List.foldl_append, List.foldl_cons, List.foldl_nil]

theorem drain_th (n : Nat) :
    (n ≤ k → (drain Cfg.real cur s n).th k = s.th k) ∧
      (k < n → (drain Cfg.real cur s n).th k = fin (cur k) (s.th k)) := by
  induction n with
  | zero => exact ⟨fun _ => rfl, fun hk => absurd hk (Nat.not_lt_zero k)⟩
  | succ n ih =>
    rw [drain_succ]
    refine ⟨fun hk => ?_, fun hk => ?_⟩
    · rw [finish_other (Nat.ne_of_gt hk), ih.1 (Nat.le_of_succ_le hk)]
    · obtain hlt | rfl := Nat.lt_succ_iff_lt_or_eq.mp hk
      · rw [finish_other (Nat.ne_of_lt hlt), ih.2 hlt]
      · rw [finish_own, ih.1 (Nat.le_refl k)]

end SigModel.Lemmas.C11g
