/- C12: the OTLP ingest boundary. A stretch of the loop of `ProcessTraceIngest` is summed up by `Adv` (documents appended,
spans counted, each stored or counted as failed), which composes over the three nested loops (`Adv.foldl`). A document
`spanToJson` builds is `setAll` of the fixed fields over the attribute columns, so every fixed field reads back the span's
own value (`stored_field`), and since every OTLP value kind converts, every span gets its document
(`spanToJson_isSome`). -/
import SigModel.Model.TraceE2E
import SigModel.Lemmas.C12a
import SigModel.Lemmas.Assoc

namespace SigModel.Lemmas.C12
open SigModel.Trace SigModel.TraceE2E SigModel.Assoc List

/-- `Adv` for the innermost loop, where `numSpans` stays: `ingestScope` adds the whole count before it -/
structure SpanAdv (st st' : IngState) (ds : List (List (String × JVal))) (n : Nat) : Prop where
  service : st'.service = st.service
  numSpans : st'.numSpans = st.numSpans
  docs : st'.docs = st.docs ++ ds
  settled : st'.numFailed + st'.docs.length = st.numFailed + st.docs.length + n

theorem ingestSpan_adv (svc : String) (st : IngState) (sp : OSpan) :
    SpanAdv st (ingestSpan svc st sp) (spanToJson sp svc).toList 1 := by
  unfold ingestSpan
  cases spanToJson sp svc with
  | none => exact ⟨rfl, rfl, (append_nil _).symm, Nat.add_right_comm _ 1 _⟩
  | some d => exact ⟨rfl, rfl, rfl, by rw [length_append, ← Nat.add_assoc]; rfl⟩

theorem foldl_ingestSpan (svc : String) (sc : List OSpan) : ∀ st : IngState,
    SpanAdv st (sc.foldl (ingestSpan svc) st) (sc.filterMap fun sp => spanToJson sp svc) sc.length := by
  induction sc with
  | nil => exact fun st => ⟨rfl, rfl, (append_nil _).symm, rfl⟩
  | cons sp sc ih =>
    intro st
    have h := ingestSpan_adv svc st sp
    have h' := ih (ingestSpan svc st sp)
    refine ⟨h'.service.trans h.service, h'.numSpans.trans h.numSpans, ?_, ?_⟩
    · rw [foldl_cons, h'.docs, h.docs, append_assoc, filterMap_cons]
      cases spanToJson sp svc <;> rfl
    · rw [foldl_cons, h'.settled, h.settled, length_cons, Nat.add_assoc, Nat.add_comm 1]

structure Adv (st st' : IngState) (ds : List (List (String × JVal))) (n : Nat) : Prop where
  docs : st'.docs = st.docs ++ ds
  numSpans : st'.numSpans = st.numSpans + n
  settled : st'.numFailed + st'.docs.length = st.numFailed + st.docs.length + n

theorem Adv.trans {a b c : IngState} {ds ds' : List (List (String × JVal))} {n n' : Nat}
    (h : Adv a b ds n) (h' : Adv b c ds' n') : Adv a c (ds ++ ds') (n + n') where
  docs := by rw [h'.docs, h.docs, append_assoc]
  numSpans := by rw [h'.numSpans, h.numSpans, Nat.add_assoc]
  settled := by rw [h'.settled, h.settled, Nat.add_assoc]

/-- `P`: what a step needs of the state it starts from (the value of `service`, or nothing) -/
theorem Adv.foldl {α : Type} {step : IngState → α → IngState} {P : IngState → Prop}
    {out : α → List (List (String × JVal))} {items : α → List OSpan}
    (hstep : ∀ st a, P st → P (step st a) ∧ Adv st (step st a) (out a) (items a).length) (l : List α) :
    ∀ st : IngState, P st →
      P (l.foldl step st) ∧ Adv st (l.foldl step st) (l.flatMap out) (l.flatMap items).length := by
  induction l with
  | nil => exact fun st h => ⟨h, (append_nil _).symm, rfl, rfl⟩
  | cons a l ih =>
    intro st h
    obtain ⟨hp, ha⟩ := hstep st a h
    obtain ⟨hp', hl⟩ := ih (step st a) hp
    rw [flatMap_cons, flatMap_cons, length_append]
    exact ⟨hp', ha.trans hl⟩

theorem ingestScope_adv (s : String) (st : IngState) (sc : List OSpan) (hs : st.service = s) :
    (ingestScope st sc).service = s ∧ Adv st (ingestScope st sc) (sc.filterMap fun sp => spanToJson sp s) sc.length := by
  subst hs
  have h := foldl_ingestSpan st.service sc { st with numSpans := st.numSpans + sc.length }
  exact ⟨h.service, h.docs, h.numSpans, h.settled⟩

theorem ingestRes_adv (st : IngState) (r : ResSpans) :
    Adv st (ingestRes st r) (docsOfRes r) (r.scopes.flatMap id).length := by
  -- `Adv` reads no `service`, so the state the variable was reset in starts the same advance as `st`
  have reset (s : String) : Adv st (r.scopes.foldl ingestScope { st with service := s })
      (r.scopes.flatMap fun sc => sc.filterMap fun sp => spanToJson sp s) (r.scopes.flatMap id).length :=
    have ⟨_, h1, h2, h3⟩ := Adv.foldl (ingestScope_adv s) r.scopes { st with service := s } rfl
    ⟨h1, h2, h3⟩
  unfold ingestRes docsOfRes serviceOfRes
  rw [filterMap_flatMap]
  cases r.res with
  | none => exact reset ""
  | some attrs => exact reset (findService attrs "")

theorem foldl_ingestRes (rs : List ResSpans) (st : IngState) :
    Adv st (rs.foldl ingestRes st) (rs.flatMap docsOfRes) (rs.flatMap fun r => r.scopes.flatMap id).length :=
  (Adv.foldl (P := fun _ => True) (fun st r _ => ⟨trivial, ingestRes_adv st r⟩) rs st trivial).2

theorem isGet_getKV {β : Type} : IsGet (fun k (m : List (String × β)) => getKV m k) some none :=
  ⟨fun _ => rfl, fun k _ _ => if_pos (beq_self_eq_true k), fun _ _ _ _ h => if_neg (mt beq_iff_eq.mp h)⟩

theorem isPut_setKV {β : Type} : IsPut (fun k v (m : List (String × β)) => setKV m k v) :=
  ⟨fun _ _ => rfl, fun k _ _ _ => if_pos (beq_self_eq_true k), fun _ _ _ _ _ h => if_neg (mt beq_iff_eq.mp h)⟩

theorem getKV_setAll_of_not_mem (k : String) (d : List (String × JVal)) : ∀ m : List (String × JVal),
    k ∉ d.map (·.1) → getKV (setAll m d) k = getKV m k := by
  induction d with
  | nil => exact fun _ _ => rfl
  | cons kv d ih =>
    intro m h
    rw [map_cons, mem_cons, not_or] at h
    exact (ih _ h.2).trans (isGet_getKV.put_ne isPut_setKV h.1 kv.2 m)

theorem getKV_setAll (d : List (String × JVal)) : ∀ (m : List (String × JVal)) (k : String),
    (d.map (·.1)).Nodup → k ∈ d.map (·.1) → getKV (setAll m d) k = getKV d k := by
  induction d with
  | nil => exact fun _ _ _ hk => absurd hk not_mem_nil
  | cons ab d ih =>
    intro m k hnd hk
    rw [map_cons, nodup_cons] at hnd
    show getKV (setAll (setKV m ab.1 ab.2) d) k = getKV ((ab.1, ab.2) :: d) k
    by_cases hak : ab.1 = k
    · rw [← hak, getKV_setAll_of_not_mem ab.1 d _ hnd.1]
      exact (isGet_getKV.put_self isPut_setKV ab.1 ab.2 m).trans (isGet_getKV.hit ab.1 ab.2 d).symm
    · rw [ih (setKV m ab.1 ab.2) k hnd.2 ((mem_cons.1 hk).resolve_left fun h => hak h.symm)]
      exact (isGet_getKV.skip k ab.1 ab.2 d hak).symm

/-- by position, so that no key strings are compared -/
theorem getKV_setAll_getElem (d m : List (String × JVal)) (hn : (d.map (·.1)).Nodup) (i : Nat) (hi : i < d.length) :
    getKV (setAll m d) d[i].1 = some d[i].2 :=
  (getKV_setAll d m _ hn (mem_map_of_mem (getElem_mem hi))).trans (isGet_getKV.get_of_mem hn (getElem_mem hi))

theorem fixedKeys_nodup : fixedKeys.Nodup := by simp [fixedKeys]

theorem spanToJson_eq {sp : OSpan} {service : String} {d : List (String × JVal)} (hd : spanToJson sp service = some d) :
    ∃ m, d = setAll m (baseDoc sp service) := by
  cases ha : attrDoc sp with
  | none => rw [spanToJson, ha] at hd; exact nomatch hd
  | some m => rw [spanToJson, ha] at hd; exact ⟨m, (Option.some.inj hd).symm⟩

theorem stored_field {sp : OSpan} {service : String} {d : List (String × JVal)} (hd : spanToJson sp service = some d)
    (i : Nat) (hi : i < 9) : getKV d ((baseDoc sp service)[i]'hi).1 = some ((baseDoc sp service)[i]'hi).2 := by
  obtain ⟨m, rfl⟩ := spanToJson_eq hd
  exact getKV_setAll_getElem (baseDoc sp service) m fixedKeys_nodup i hi

theorem durationOf_le (sp : OSpan) : durationOf sp ≤ sp.end_ := by
  unfold durationOf
  split
  · exact Nat.sub_le _ _
  · exact Nat.zero_le _

theorem attrVal_isSome (v : AVal) : ∃ j, attrVal v = some j := by
  cases v <;> exact ⟨_, rfl⟩

theorem attrFold_eq (attrs : List (String × AVal)) : ∀ m : List (String × JVal),
    ∃ vs : List (String × JVal), vs.map (·.1) = attrs.map (·.1) ∧
      attrs.foldlM (fun m kv => (attrVal kv.2).map (setKV m kv.1)) m = some (setAll m vs) := by
  induction attrs with
  | nil => exact fun m => ⟨[], rfl, rfl⟩
  | cons kv attrs ih =>
    intro m
    obtain ⟨j, hj⟩ := attrVal_isSome kv.2
    obtain ⟨vs, hk, he⟩ := ih (setKV m kv.1 j)
    refine ⟨(kv.1, j) :: vs, congrArg (kv.1 :: ·) hk, ?_⟩
    rw [foldlM_cons, hj]
    exact he

theorem foldlM_setKV_keeps (k : String) (attrs : List (String × AVal)) (m d : List (String × JVal))
    (hk : ∀ kv ∈ attrs, kv.1 ≠ k)
    (h : attrs.foldlM (fun m kv => (attrVal kv.2).map (setKV m kv.1)) m = some d) : getKV d k = getKV m k := by
  obtain ⟨vs, hvs, he⟩ := attrFold_eq attrs m
  rw [← Option.some.inj (he.symm.trans h)]
  refine getKV_setAll_of_not_mem k vs m fun hm => ?_
  obtain ⟨kv, hkv, e⟩ := mem_map.1 (hvs ▸ hm)
  exact hk kv hkv e

theorem spanToJson_isSome (sp : OSpan) (service : String) : ∃ d, spanToJson sp service = some d := by
  obtain ⟨vs, _, he⟩ := attrFold_eq sp.attrs []
  exact ⟨_, congrArg (Option.map fun m => setAll m (baseDoc sp service)) he⟩

theorem length_filterMap_total {α β} (f : α → Option β) (hf : ∀ a, ∃ b, f a = some b) (l : List α) :
    (l.filterMap f).length = l.length := by
  induction l with
  | nil => rfl
  | cons a l ih =>
    obtain ⟨b, hb⟩ := hf a
    rw [filterMap_cons_some hb, length_cons, length_cons, ih]

theorem length_docsOfRes (r : ResSpans) : (docsOfRes r).length = (r.scopes.flatMap id).length := by
  unfold docsOfRes
  exact length_filterMap_total _ (fun sp => spanToJson_isSome sp _) _

theorem length_flatMap_docsOfRes (rs : List ResSpans) :
    (rs.flatMap docsOfRes).length = (rs.flatMap (fun r => r.scopes.flatMap id)).length := by
  rw [length_flatMap, length_flatMap, map_congr_left fun r _ => length_docsOfRes r]

end SigModel.Lemmas.C12
