/- `wrapS64` and `wrapU64` of Model/MachInt.lean leave a value of the type's range as it is, and `wrapU64` lands in the
uint64 range whatever it is given.  Core Lean only. -/
import SigModel.Model.MachInt

namespace SigModel.MachInt

theorem wrapS64_id (x : Int) (h1 : -9223372036854775808 ≤ x) (h2 : x < 9223372036854775808) : wrapS64 x = x := by
  unfold wrapS64
  rw [Int.emod_eq_of_lt (by omega) (by omega), Int.add_sub_cancel]

theorem wrapU64_id {x : Int} (h0 : 0 ≤ x) (h : x < 18446744073709551616) : wrapU64 x = x :=
  Int.emod_eq_of_lt h0 h

theorem wrapU64_range (x : Int) : 0 ≤ wrapU64 x ∧ wrapU64 x < 18446744073709551616 :=
  ⟨Int.emod_nonneg x (by decide), Int.emod_lt_of_pos x (by decide)⟩

theorem wrapU64_toNat_lt (x : Int) : (wrapU64 x).toNat < 18446744073709551616 :=
  (Int.toNat_lt (wrapU64_range x).1).mpr (wrapU64_range x).2

end SigModel.MachInt
