/-
C07, part 2: the writer invariant `Inv`, what the property asks of the directory a restart finds (`Good`), and the
lemma every cut goes through (`Frame.good`): a frame whose open segment holds the blocks its running .sfm was built
from, or one more, is such a directory.
-/
import SigModel.Lemmas.C07

namespace SigModel.Lemmas.C07
open SigModel.Crash

def flat (sl : List (Nat × List Nat)) : List Nat := sl.flatMap (·.2)

theorem flat_append (a b : List (Nat × List Nat)) : flat (a ++ b) = flat a ++ flat b :=
  List.flatMap_append

/-- holds of the directory between two commands of the writer -/
structure Inv (sl : List (Nat × List Nat)) (w : W) (fs : FS) : Prop where
  frame : Frame sl w.cur fs
  cur_in : w.cur ∈ fs.dirs
  cur_ok : SegOK (fs.seg w.cur) w.fls
  cur_sfm : (fs.seg w.cur).sfm = if w.fls = [] then Sfm.absent else Sfm.json w.fls
  suffix : fs.suffix = some (w.cur + 1)
  ids : flat sl ++ w.fls = List.range w.nf

/-- `nf` flushes had completed; `extra`: the flush in progress, if any -/
structure Good (nf : Nat) (extra : Option Nat) (fs : FS) : Prop where
  nodup : (visible fs).Nodup
  torn : torn fs = []
  sound : ∀ f ∈ visible fs, f < nf ∨ extra = some f
  complete : ∀ f, f < nf → f ∈ visible fs
  fresh : ∀ s ∈ fs.dirs, s < nextSuffix fs
  untouched : ∀ s, s ∉ fs.dirs → fs.seg s = {}
  prov : ∀ f, f < nf → ∃ p ∈ metas fs, f ∈ p.2 ∧ f ∈ segVisible (fs.seg p.1)
  /-- not only for `f < nf`: also for the block of the flush in progress -/
  provAll : ∀ p ∈ metas fs, ∀ f ∈ segVisible (fs.seg p.1), f ∈ p.2

theorem segVisible_sub_reconciled {st : SegSt} {f : Nat} (h : f ∈ segVisible st) : f ∈ reconciled st :=
  List.mem_append.2 <| (Decidable.em (f ∈ st.sfm.blocks)).imp_right fun hc =>
    List.mem_filter.2 ⟨(List.filter_sublist.map _).subset h, by simpa using hc⟩

theorem provAll_frame {sl cur fs} (F : Frame sl cur fs) :
    ∀ p ∈ metas fs, ∀ f ∈ segVisible (fs.seg p.1), f ∈ p.2 := by
  intro p hp f hf
  rcases List.mem_append.1 hp with h | h
  · exact (F.sealed_ok p (F.segmeta_eq ▸ h)).visible ▸ hf
  · obtain ⟨s, _, rfl⟩ := List.mem_map.1 h
    exact segVisible_sub_reconciled hf

theorem Frame.good {sl cur fs nf extra} {fls X : List Nat} (F : Frame sl cur fs)
    (hsfm : (fs.seg cur).sfm = if fls = [] then Sfm.absent else Sfm.json fls)
    (hok : SegOK (fs.seg cur) X) (ids : flat sl ++ fls = List.range nf)
    (hX : X = fls ∨ X = fls ++ [nf] ∧ extra = some nf) : Good nf extra fs := by
  have hv := hok.visible ▸ hsfm ▸ visible_frame F
  -- what is served is `0, …, m-1`, and `m` is `nf` or one more
  suffices hr : ∀ m, visible fs = List.range m → nf ≤ m → (∀ f, f < m → f < nf ∨ extra = some f) →
      Good nf extra fs by
    -- `hv` by evaluation: no .sfm yet, the open segment is not adopted; a parsable .sfm, it serves `X`
    cases fls with
    | nil => exact hr nf (hv.trans ids) (Nat.le_refl _) fun f hf => Or.inl hf
    | cons a l =>
      rcases hX with rfl | ⟨rfl, he⟩
      · exact hr nf (hv.trans ids) (Nat.le_refl _) fun f hf => Or.inl hf
      · refine hr (nf + 1) (hv.trans ?_) (Nat.le_succ _) fun f hf => ?_
        · rw [List.range_succ, ← ids]
          exact (List.append_assoc ..).symm
        · exact (Nat.lt_succ_iff_lt_or_eq.1 hf).imp_right fun h => he.trans (congrArg some h.symm)
  intro m hm hle hs
  have hc : ∀ f, f < nf → f ∈ visible fs := fun f hf => hm ▸ List.mem_range.2 (Nat.lt_of_lt_of_le hf hle)
  refine ⟨hm ▸ List.nodup_range, F.torn hok, fun f hf => hs f (List.mem_range.1 (hm ▸ hf)), hc, F.suffix_ok,
    F.untouched, fun f hf => ?_, provAll_frame F⟩
  obtain ⟨p, hp, hfp⟩ := List.mem_flatMap.1 (visible_eq_metas fs ▸ hc f hf)
  exact ⟨p, hp, provAll_frame F p hp f hfp, hfp⟩

theorem good_inv {sl w fs extra} (I : Inv sl w fs) : Good w.nf extra fs :=
  I.frame.good I.cur_sfm I.cur_ok I.ids (Or.inl rfl)

/-- `S` and `hseg` are what `run_onSeg` gives -/
theorem Inv.onSeg {sl w fs fs'} {st' : SegSt} {fls' : List Nat} {nf' : Nat} (I : Inv sl w fs)
    (S : SameBut w.cur fs fs') (hseg : fs'.seg w.cur = st') (hok : SegOK st' fls')
    (hsfm : st'.sfm = if fls' = [] then Sfm.absent else Sfm.json fls') (ids : flat sl ++ fls' = List.range nf') :
    Inv sl { cur := w.cur, fls := fls', nf := nf' } fs' := by
  subst hseg
  exact ⟨I.frame.sameBut S I.cur_in, S.dirs ▸ I.cur_in, hok, hsfm, S.suffix.trans I.suffix, ids⟩

end SigModel.Lemmas.C07
