/-
The sequential schedule `seqOf` of a concurrent schedule leads to the same flush history and the same stores (`Rel`);
hence, at quiescence, to the same contents of the two maps.
-/
import SigModel.Lemmas.C11
namespace SigModel.Lemmas.C11
open SigModel.Conc

variable {d : Bool}

/-- `sc` in the concurrent run, `sa` in the sequential one, which is always between rotations -/
def Agree (sc sa : Store) : Prop := sc.seq = sa.seq ∧ sc.nblocks = sa.nblocks ∧ sa.todo = []

structure Rel (c a : St) : Prop where
  total : c.total = a.total
  segs : c.segs = a.segs
  store : ∀ i, Agree (c.store i) (a.store i)

theorem rel_refl_init : Rel init init := ⟨rfl, rfl, fun _ => ⟨rfl, rfl, rfl⟩⟩

theorem upd_rel {α β : Type} {P : α → β → Prop} {f : Nat → α} {g : Nat → β} (h : ∀ j, P (f j) (g j)) (i : Nat)
    {v : α} {w : β} (hvw : P v w) (j : Nat) : P (upd f i v j) (upd g i w j) := by
  unfold upd
  split
  · exact hvw
  · exact h j

theorem upd_rel_left {α β : Type} {P : α → β → Prop} {f : Nat → α} {g : Nat → β} (h : ∀ j, P (f j) (g j)) (i : Nat)
    {v : α} (hv : P v (g i)) (j : Nat) : P (upd f i v j) (g j) :=
  upd_eq_self g i ▸ upd_rel h i hv j

/-- the whole rotation: 4 is `(Cfg.of d).rotOrder.length`, as in `seqOf` -/
theorem rot4 (a : St) (i : Nat) (h0 : (a.store i).todo = []) (hn : (a.store i).nblocks ≠ 0) :
    run (Cfg.of d) a (List.replicate 4 (Label.rot i)) =
      { a with segmetaJson := a.segmetaJson ++ [⟨i, (a.store i).seq⟩],
               rot := updS a.rot ⟨i, (a.store i).seq⟩ (a.store i).nblocks,
               unrot := updS a.unrot ⟨i, (a.store i).seq⟩ 0,
               store := upd a.store i { seq := (a.store i).seq + 1, nblocks := 0, todo := [],
                                        rotSeg := ⟨i, (a.store i).seq⟩, rotN := (a.store i).nblocks } } := by
  simp only [run, List.replicate, List.foldl_cons, List.foldl_nil, step, rotStep, applyRot, Cfg.of, h0, hn, if_false,
    upd_self, upd_upd]

theorem seqOf_cons (c : St) (l : Label) (ls : List Label) :
    seqOf (Cfg.of d) c (l :: ls) = seqOf (Cfg.of d) c [l] ++ seqOf (Cfg.of d) (step (Cfg.of d) c l) ls :=
  congrArg (· ++ seqOf (Cfg.of d) (step (Cfg.of d) c l) ls) (List.append_nil _).symm

theorem rel_step (c a : St) (hc : Inv c) (l : Label) (h : Rel c a) :
    Rel (step (Cfg.of d) c l) (run (Cfg.of d) a (seqOf (Cfg.of d) c [l])) := by
  -- `seqOf c [l]` is what `l` contributes, followed by the empty rest
  show Rel _ (run _ a (_ ++ []))
  rw [List.append_nil]
  cases l with
  | q j k =>
    obtain ⟨q, hq⟩ := qStep_frame (d := d) c j k
    show Rel (qStep (Cfg.of d) c j k) a
    rw [hq]
    exact ⟨h.total, h.segs, h.store⟩
  | flush i =>
    show Rel (flush c i) (run (Cfg.of d) a (if (c.store i).todo = [] then [Label.flush i] else []))
    cases h0 : (c.store i).todo with
    | cons x rest =>
      rw [flush_busy h0, if_neg (List.cons_ne_nil x rest)]
      exact h
    | nil =>
      obtain ⟨hseq, hnb, ha⟩ := h.store i
      rw [if_pos rfl, flush_idle h0]
      show Rel _ (flush a i)
      rw [flush_idle ha, ← hseq, ← h.total, ← h.segs]
      exact ⟨rfl, rfl, upd_rel h.store i ⟨hseq, congrArg (· + 1) hnb, rfl⟩⟩
  | rot i =>
    show Rel (rotStep (Cfg.of d) c i)
      (run (Cfg.of d) a (if (c.store i).todo.length = 1 then List.replicate 4 (Label.rot i) else []))
    rcases hc.todoOk i with h0 | h0 | h0 | h0
    · rw [h0, if_neg (by decide)]
      by_cases hn : (c.store i).nblocks = 0
      · rw [rotStep_noBlocks h0 hn]
        exact h
      · rw [rotStep_start h0 hn]
        exact ⟨h.total, h.segs, upd_rel_left h.store i (h.store i)⟩
    · rw [h0, if_neg (by decide), rotStep_addMeta h0]
      exact ⟨h.total, h.segs, upd_rel_left h.store i (h.store i)⟩
    · rw [h0, if_neg (by decide), rotStep_removeUnrot h0]
      exact ⟨h.total, h.segs, upd_rel_left h.store i (h.store i)⟩
    · -- last step: the sequential schedule runs the whole rotation here
      obtain ⟨hseq, hnb, ha⟩ := h.store i
      rw [h0, if_pos (by decide), rotStep_reset h0, rot4 a i ha (hnb ▸ (hc.cap i (h0 ▸ List.cons_ne_nil _ _)).2.2)]
      exact ⟨h.total, h.segs, upd_rel h.store i ⟨congrArg (· + 1) hseq, rfl, rfl⟩⟩

theorem rel_run (ls : List Label) (c a : St) (hc : Inv c) (h : Rel c a) :
    Rel (run (Cfg.of d) c ls) (run (Cfg.of d) a (seqOf (Cfg.of d) c ls)) := by
  induction ls generalizing c a with
  | nil => exact h
  | cons l ls ih =>
    rw [seqOf_cons, run_append, run_cons]
    exact ih _ _ (inv_step c l hc) (rel_step c a hc l h)

theorem contents_eq (c a : St) (hc : Inv c) (ha : Inv a) (h : Rel c a) (hq : Quiescent c) :
    ∀ g, c.unrot g = a.unrot g ∧ c.rot g = a.rot g := by
  intro ⟨i, k⟩
  obtain ⟨hseq, hnb, ha0⟩ := h.store i
  rw [hc.unrot_eq, ha.unrot_eq, hc.rot_eq, ha.rot_eq, hseq, hnb, h.total]
  -- both stores are between rotations: `removed` and `added` read the same on the two sides
  simp only [removed, added, hq i, ha0, and_self]

end SigModel.Lemmas.C11
