/-
The read of one request against a concurrent rotation of its segment (`Conc.ReadOne`).  The reader sees the rotation
only through `inUnrot` / `inRot`, and the key is always in one of the two maps: the reader as it is ends having read
the segment (`Good`).  The reader before the repair differs from it only at a look-up that finds the key gone; under
the schedule guard the key stays in the unrotated map between a check and its look-up (`Window`), and the two readers
take the same steps.
-/
import SigModel.Model.Conc
namespace SigModel.Lemmas.C11.ReadOne
open SigModel.Conc.ReadOne

def Good (s : RSt) : Prop :=
  match s.pc with
  | .done => s.outcome = some .readUnrotated ∨ s.outcome = some .readRotated
  | _ => s.outcome = none

/-- add-before-remove (`Conc.Cfg.real.rotOrder`) -/
theorem inRot_of_not_inUnrot (r : RotPc) : ¬ r.inUnrot = true → r.inRot = true := by
  cases r
  case removed | reset => exact fun _ => rfl
  all_goals exact (absurd rfl ·)

theorem good_readStep (s : RSt) (h : Good s) : Good (readStep .real s) := by
  obtain ⟨rot, pc, out⟩ := s
  cases pc
  case checkSsr | lookupSsr =>
    -- on the answer "not unrotated" the rotated map is asked, and add-before-remove gives its answer
    exact iteInduction (fun _ => h) fun hu => if_pos (inRot_of_not_inUnrot rot hu) ▸ h
  case checkReader => exact iteInduction (fun _ => h) fun _ => .inr rfl
  case lookupReader => exact iteInduction (fun _ => .inl rfl) fun _ => .inr rfl
  case done => exact h

theorem good_run (ls : List RLabel) (s : RSt) (h : Good s) : Good (rrun .real s ls) :=
  List.foldlRecOn ls _ h fun s hs l _ => by
    cases l
    · exact hs
    · exact good_readStep s hs

def Window (s : RSt) : Prop :=
  (s.pc == .lookupSsr || s.pc == .lookupReader) = true → s.rot.inUnrot = true

theorem window_readStep (s : RSt) : Window (readStep .old s) := by
  obtain ⟨rot, pc, out⟩ := s
  cases pc
  -- any other target than a look-up makes the premise of `Window` read `false = true`
  case checkSsr =>
    exact iteInduction (fun hu _ => hu) fun _ => iteInduction (fun _ => Bool.noConfusion) fun _ => Bool.noConfusion
  case checkReader => exact iteInduction (fun hu _ => hu) fun _ => Bool.noConfusion
  case lookupSsr | lookupReader => exact iteInduction (fun _ => Bool.noConfusion) fun _ => Bool.noConfusion
  case done => exact Bool.noConfusion

/-- `w`: the reader is between a check and its look-up; `hg`: the guard of `noRemoveInWindow` at a `rot` label -/
theorem next_inUnrot (r : RotPc) (w : Bool) (hw : w → r.inUnrot) (hg : !(r == .added && w)) (h : w) :
    r.next.inUnrot := by
  subst h
  cases r
  case start | segmeta => rfl
  -- in the other states the guard, or the window, reads `false = true`, and so does the goal
  case added => exact hg
  case removed | reset => exact hw rfl

theorem readStep_old_eq (s : RSt) (h : Window s) : readStep .old s = readStep .real s := by
  obtain ⟨rot, pc, out⟩ := s
  cases pc
  case lookupSsr | lookupReader =>
    exact (if_pos (h rfl)).trans (if_pos (h rfl)).symm
  all_goals rfl

theorem old_run_eq {ls : List RLabel} {s : RSt} (hw : Window s) (hg : noRemoveInWindow s ls = true) :
    rrun .old s ls = rrun .real s ls := by
  induction ls generalizing s with
  | nil => rfl
  | cons l ls ih =>
    have ⟨h1, h2⟩ := Bool.and_eq_true_iff.mp hg
    cases l
    · exact ih (next_inUnrot _ _ hw h1) h2
    · exact (ih (window_readStep s) h2).trans (congrArg (rrun .real · ls) (readStep_old_eq s hw))

end SigModel.Lemmas.C11.ReadOne
