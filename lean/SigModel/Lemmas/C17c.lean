import SigModel.Lemmas.C17b
/-!
Single operations on the query tables (C17): a timeout stops the query, the first terminal event on a query's
channel fixes its terminal state, and what `RestartQuery` leaves behind.
-/
namespace SigModel.Lemmas.C17
open SigModel.QTable

theorem timedOut_of_room (r : RQ) (hroom : r.chanLen + 2 ≤ chanCap) :
    timedOut r = { r with timerLive := false, cancelled := true, chanLen := r.chanLen + 2,
                          sent := r.sent ++ [6, 5] } := by
  rw [timedOut, send_of_room (r := { r with timerLive := false }) 6 (Nat.lt_of_succ_lt hroom), send_of_room 5,
    List.append_assoc]
  · rfl
  · exact hroom

theorem fireTimeout_stops {s : St} {q : Nat} {r : RQ} (hinv : Inv s) (hl : lookup q s.running = some r)
    (hnc : r.cancelled = false) (hroom : r.chanLen + 2 ≤ chanCap) :
    lookup q (fireTimeout s q).1.running = some (timedOut r) := by
  have hlive : r.timerLive = true :=
    (hinv.1 _ (lookup_mem hl)).2.2.1.resolve_right (hnc ▸ Bool.false_ne_true)
  obtain ⟨b, e⟩ := fireTimeout_of_live hl hlive (Nat.lt_of_succ_lt hroom)
  rw [e]
  exact lookup_put_self ..

theorem terminalOf_append {l : List Nat} (h : l.find? isTerminal = none) (x : Nat) (hx : isTerminal x = true)
    (l' : List Nat) : (l ++ x :: l').find? isTerminal = some x := by
  rw [List.find?_append, h, Option.none_or, List.find?_cons_of_pos hx]

theorem cancel_terminal {s : St} {q : Nat} {r : RQ} (hl : lookup q s.running = some r)
    (hnone : terminalOf r = none) (hroom : r.chanLen < chanCap) :
    ∃ r', lookup q (step s (Op.cancel q)).1.running = some r' ∧ r'.obj = r.obj ∧ r'.cancelled = true ∧
      terminalOf r' = some 5 := by
  refine ⟨(send { r with cancelled := true } 5).1,
    (congrArg (lookup q ·.running) (cancelQuery_of_running hl)).trans (lookup_put_self ..),
    send_obj .., send_cancelled { r with cancelled := true } 5, ?_⟩
  rw [send_of_room (r := { r with cancelled := true }) 5 hroom]
  exact terminalOf_append hnone 5 rfl []

theorem selfSend_terminal {s : St} {q msg : Nat} {r : RQ} (hl : lookup q s.running = some r)
    (hnone : terminalOf r = none) (hroom : r.chanLen < chanCap) (hmsg : isTerminal msg = true) :
    ∃ r', lookup q (selfSend s q msg).1.running = some r' ∧ r'.obj = r.obj ∧ terminalOf r' = some msg := by
  refine ⟨_, (congrArg (lookup q ·.running) (selfSend_of_room msg hl hroom)).trans (lookup_put_self ..),
    send_obj .., ?_⟩
  rw [send_of_room msg hroom]
  exact terminalOf_append hnone msg hmsg []

theorem timeout_terminal {s : St} {q : Nat} {r : RQ} (hinv : Inv s) (hl : lookup q s.running = some r)
    (hnc : r.cancelled = false) (hnone : terminalOf r = none) (hroom : r.chanLen + 2 ≤ chanCap) :
    ∃ r', lookup q (step s (Op.timeout q)).1.running = some r' ∧ r'.obj = r.obj ∧ r'.cancelled = true ∧
      terminalOf r' = some 6 := by
  refine ⟨timedOut r, fireTimeout_stops hinv hl hnc hroom, ?_⟩
  rw [timedOut_of_room r hroom]
  exact ⟨rfl, rfl, terminalOf_append hnone 6 rfl [5]⟩

theorem count_keys_of_lookup_none {q : Nat} {m : List (Nat × RQ)} (h : lookup q m = none) :
    (m.map Prod.fst).count q = 0 :=
  List.count_eq_zero.mpr (not_mem_keys_of_lookup_none h)

theorem count_qid_zero {q : Nat} {W : List RQ} (h : ∀ w ∈ W, w.qid ≠ q) : (W.map (·.qid)).count q = 0 := by
  rw [List.count_eq_zero]
  intro hm
  obtain ⟨w, hw, e⟩ := List.mem_map.mp hm
  exact h w hw e

theorem restartQuery_spec {s : St} {q nq : Nat} {force : Bool} {r : RQ}
    (hl : lookup q s.running = some r) (hnc : r.cancelled = false) (hco : r.coord = true)
    (hfresh : lookup nq s.running = none) (hfreshW : ∀ w ∈ s.waiting, w.qid ≠ nq)
    (hroom : s.waiting.length < maxWaiting) :
    lookup q (restartQuery s q nq force).1.running = none ∧
    ((restartQuery s q nq force).1.running.map Prod.fst).count nq +
      ((restartQuery s q nq force).1.waiting.map (·.qid)).count nq = 1 ∧
    (if force then
      ∃ n, lookup nq (restartQuery s q nq force).1.running = some n ∧ n.cancelled = false ∧
        n.coord = true ∧ n.timeoutArmed = true ∧ n.timerLive = true
     else lookup nq (restartQuery s q nq force).1.running = none ∧
        ∃ n, (restartQuery s q nq force).1.waiting = s.waiting ++ [n] ∧ n.qid = nq) := by
  have hne : q ≠ nq := fun e => by rw [e, hfresh] at hl; cases hl
  have hfe : lookup nq (erase q s.running) = none := (lookup_erase_ne (Ne.symm hne)).trans hfresh
  have e : restartQuery s q nq force = enter { s with running := erase q s.running }
      { obj := s.next, qid := nq, coord := true, chanLen := r.chanLen } force := by
    rw [restartQuery_eq, hl]
    dsimp only
    rw [hnc, hco]
    rfl
  rw [e, enter_of_fresh (s := { s with running := erase q s.running }) force hfe hroom]
  obtain ⟨_, _, a3, a4, a5, a6⟩ :=
    admitted_fields { obj := s.next, qid := nq, coord := true, chanLen := r.chanLen }
  cases force
  · simp only [Bool.false_eq_true, if_false]
    refine ⟨lookup_erase_self q _, ?_, hfe, _, rfl, rfl⟩
    rw [count_keys_of_lookup_none hfe, List.map_append, List.count_append, count_qid_zero hfreshW,
      Nat.zero_add, Nat.zero_add]
    exact List.count_singleton_self ..
  · simp only [if_true]
    rw [runQuery_admit _ rfl]
    refine ⟨(lookup_put_ne hne).trans (lookup_erase_self q _), ?_, _, lookup_put_self .., a5, a6, a3, a4⟩
    show ((put nq _ (erase q s.running)).map Prod.fst).count nq + (s.waiting.map (·.qid)).count nq = 1
    rw [count_qid_zero hfreshW, put, List.map_cons, List.count_cons_self,
      count_keys_of_lookup_none (lookup_erase_self nq _)]

end SigModel.Lemmas.C17
