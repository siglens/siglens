/-
C01 lemmas, part d: the timestamp column, the filling of one column (invariant `FillInv`: back-fill of absent / late
values, the sizes reported; hence `lenOk_fillCol`, the recorded size is good for the reader of part b) and its type
consolidation at the flush.
-/
import SigModel.Model.Tlv
import SigModel.Lemmas.C01
import SigModel.Lemmas.C01b
import SigModel.Lemmas.MachInt

namespace SigModel.Lemmas.C01
open SigModel.Tlv

theorem u64_eq : u64 = 256 ^ 8 := by decide

theorem add_sub_mod (m ts low : Nat) (h1 : low ≤ ts) (h2 : ts < m) : (ts + m - low) % m = ts - low := by
  rw [Nat.add_comm, Nat.add_sub_assoc h1, Nat.add_mod_left, Nat.mod_eq_of_lt (Nat.lt_of_le_of_lt (Nat.sub_le _ _) h2)]

theorem tsWidth_tsType (low high : Nat) (h : low ≤ high) (hh : high < u64) :
    ∃ w, tsWidth (tsType low high) = some w ∧ 0 < w ∧ high - low < 256 ^ w := by
  unfold tsType
  rw [add_sub_mod u64 high low h hh]
  by_cases h1 : high - low ≤ 255
  · exact ⟨1, congrArg tsWidth (if_pos h1), Nat.succ_pos _, Nat.lt_succ_of_le h1⟩
  rw [if_neg h1]
  by_cases h2 : high - low ≤ 65535
  · exact ⟨2, congrArg tsWidth (if_pos h2), Nat.succ_pos _, Nat.lt_succ_of_le h2⟩
  rw [if_neg h2]
  by_cases h3 : high - low ≤ 4294967295
  · exact ⟨4, congrArg tsWidth (if_pos h3), Nat.succ_pos _, Nat.lt_succ_of_le h3⟩
  · exact ⟨8, congrArg tsWidth (if_neg h3), Nat.succ_pos _, u64_eq ▸ Nat.lt_of_le_of_lt (Nat.sub_le _ _) hh⟩

theorem flatMap_length_const {α : Type} (f : α → Bytes) (w : Nat) (l : List α) (h : ∀ a, (f a).length = w) :
    (l.flatMap f).length = l.length * w := by
  induction l with
  | nil => simp
  | cons a l ih => rw [List.flatMap_cons, List.length_append, ih, h, List.length_cons, Nat.succ_mul, Nat.add_comm]

theorem rdMany_enc (w low : Nat) (tss : List Nat) (h : ∀ t ∈ tss, low ≤ t ∧ t < u64 ∧ t - low < 256 ^ w) :
    rdMany w low tss.length (tss.flatMap (fun ts => leN w ((ts + u64 - low) % u64))) = tss := by
  induction tss with
  | nil => rfl
  | cons t tss ih =>
    obtain ⟨⟨h1, h2, h3⟩, h'⟩ := List.forall_mem_cons.mp h
    simp only [List.flatMap_cons, List.length_cons, rdMany]
    rw [add_sub_mod u64 t low h1 h2, rdN_leN w _ _ h3]
    simp only
    rw [ih h', Nat.sub_add_cancel h1, Nat.mod_eq_of_lt h2]

theorem decTs_frame (ty w low n : Nat) (body : Bytes) (hw : tsWidth ty = some w) (hpos : 0 < w) (hlow : low < u64)
    (hlen : body.length = n * w) (hn : n < 65536) :
    decTs (encTsTopdiff :: ty :: (leN 8 low ++ body)) n = .ok (rdMany w low n body) := by
  unfold decTs
  -- at least 10 bytes: encoding byte, type byte and the 8 bytes of `low`
  rw [if_neg (by
    rw [List.length_cons, List.length_cons, List.length_append, leN_length]
    exact Nat.not_lt.mpr (Nat.succ_le_succ (Nat.succ_le_succ (Nat.le_add_right 8 _))))]
  simp only [ne_eq, not_true, if_false, rdN_leN 8 low _ (u64_eq ▸ hlow), hw, hlen, Nat.mul_div_cancel _ hpos,
    Nat.mod_eq_of_lt hn, Nat.min_self]

theorem adjustLowHigh_set (lo hi t : Nat) (hlo : 0 < lo) (hhi : 0 < hi) :
    adjustLowHigh (lo, hi) t = (min lo t, max hi t) := by
  unfold adjustLowHigh
  rw [if_neg (Nat.ne_of_gt hlo), if_neg (Nat.ne_of_gt hhi)]
  exact Prod.ext
    (iteInduction (motive := (· = min lo t)) (fun h => (Nat.min_eq_right (Nat.le_of_lt h)).symm)
      fun h => (Nat.min_eq_left (Nat.not_lt.mp h)).symm)
    (iteInduction (motive := (· = max hi t)) (fun h => (Nat.max_eq_right (Nat.le_of_lt h)).symm)
      fun h => (Nat.max_eq_left (Nat.not_lt.mp h)).symm)

theorem fold_adjust (tss : List Nat) (hpos : ∀ t ∈ tss, 0 < t) (lo hi : Nat) (hlo : 0 < lo) (hhi : 0 < hi) :
    tss.foldl adjustLowHigh (lo, hi) = (tss.foldl min lo, tss.foldl max hi) := by
  induction tss generalizing lo hi with
  | nil => rfl
  | cons t tss ih =>
    obtain ⟨ht, hrest⟩ := List.forall_mem_cons.mp hpos
    rw [List.foldl_cons, adjustLowHigh_set lo hi t hlo hhi]
    exact ih hrest _ _ (Nat.lt_min.mpr ⟨hlo, ht⟩) (Nat.lt_of_lt_of_le hhi (Nat.le_max_left hi t))

/-- `hpos`: `GetNewPLE` replaces a timestamp 0 by "now" -/
theorem blockLowHigh_bounds (tss : List Nat) (hne : tss ≠ []) (hpos : ∀ t ∈ tss, 0 < t) (B : Nat) (hB : ∀ t ∈ tss, t < B) :
    0 < (blockLowHigh tss).1 ∧ (blockLowHigh tss).1 ≤ (blockLowHigh tss).2 ∧ (blockLowHigh tss).2 < B ∧
      ∀ t ∈ tss, (blockLowHigh tss).1 ≤ t ∧ t ≤ (blockLowHigh tss).2 := by
  cases tss with
  | nil => exact absurd rfl hne
  | cons t tss =>
    -- the first timestamp sets both bounds
    obtain ⟨ht, hrest⟩ := List.forall_mem_cons.mp hpos
    rw [show blockLowHigh (t :: tss) = _ from fold_adjust tss hrest t t ht ht]
    obtain ⟨hlo, hmin⟩ := List.min?_eq_some_iff.mp (List.min?_cons' (x := t) (xs := tss))
    obtain ⟨hhi, hmax⟩ := List.max?_eq_some_iff.mp (List.max?_cons' (x := t) (xs := tss))
    exact ⟨hpos _ hlo, Nat.le_trans (hmin t List.mem_cons_self) (hmax t List.mem_cons_self), hB _ hhi,
      fun u hu => ⟨hmin u hu, hmax u hu⟩⟩

def getB (v : Option Val) : Val := v.getD .backfill

/-- also out of range: the default value is the back-fill record -/
theorem getElem!_map_getB (evs : List (Option Val)) (n : Nat) : (evs.map getB)[n]! = getB (evs[n]!) := by
  rw [List.getElem!_eq_getElem?_getD, List.getElem!_eq_getElem?_getD, List.getElem?_map]
  exact Option.getD_map getB none _

theorem length_pos_of_any {evs : List (Option Val)} (h : evs.any Option.isSome = true) : 0 < evs.length := by
  cases evs with
  | nil => exact absurd h (by decide)
  | cons v r => exact Nat.succ_pos _

theorem encCol_all_none (pre : List (Option Val)) (h : pre.any Option.isSome = false) :
    encCol (pre.map getB) = List.replicate pre.length tBackfill := by
  induction pre with
  | nil => rfl
  | cons v pre ih =>
    obtain ⟨hv, hpre⟩ := Bool.or_eq_false_iff.mp (List.any_cons.symm.trans h)
    cases v with
    | some x => cases hv
    | none => exact (encCol_cons _ _).trans (congrArg (tBackfill :: ·) (ih hpre))

structure FillInv (st : ColSt) (pre : List (Option Val)) : Prop where
  seen : st.seen = pre.any Option.isSome
  fresh : st.seen = false → st = {}
  buf : st.seen = true → st.buf = encCol (pre.map getB)
  sizes : st.seen = true → st.firstRec = 0 → st.sizes = pre.map (fun v => (encTLV (getB v)).length)

theorem fillInv_empty : FillInv {} [] := ⟨rfl, fun _ => rfl, fun _ => rfl, fun _ _ => rfl⟩

theorem encCol_snoc (pre : List (Option Val)) (v : Option Val) :
    encCol ((pre ++ [v]).map getB) = encCol (pre.map getB) ++ encTLV (getB v) := by
  rw [List.map_append, encCol_append, List.map_singleton, encCol_cons]
  exact congrArg _ (List.append_nil _)

theorem step_of_seen (lim : Nat) (st : ColSt) (i : Nat) (v : Option Val) (h : st.seen = true) :
    st.step lim i v = { st with buf := st.buf ++ encTLV (getB v), dict := Dict.add lim st.dict (encTLV (getB v)) i,
                                sizes := st.sizes ++ [(encTLV (getB v)).length] } := by
  cases st
  cases h
  cases v <;> rfl

theorem step_inv (lim : Nat) (st : ColSt) (pre : List (Option Val)) (v : Option Val) (inv : FillInv st pre) :
    FillInv (st.step lim pre.length v) (pre ++ [v]) := by
  have hany : (pre ++ [v]).any Option.isSome = (st.seen || v.isSome) := by
    rw [List.any_append, inv.seen, List.any_cons, List.any_nil, Bool.or_false]
  cases hs : st.seen with
  | true =>
    rw [step_of_seen lim st _ v hs]
    refine ⟨hs.trans ?_, fun h => absurd (hs.symm.trans h) Bool.noConfusion, fun _ => ?_, fun _ hf => ?_⟩
    · rw [hany, hs]; rfl
    · rw [encCol_snoc, ← inv.buf hs]
    · rw [List.map_append, ← inv.sizes hs hf]; rfl
  | false =>
    obtain rfl := inv.fresh hs
    cases v with
    | none => exact ⟨hany.symm, fun _ => rfl, Bool.noConfusion, Bool.noConfusion⟩
    | some x =>
      -- a column new to the block is back-filled: one 1-byte record per earlier event
      refine ⟨hany.symm, Bool.noConfusion, fun _ => ?_, fun _ hf => ?_⟩
      · rw [encCol_snoc, encCol_all_none pre inv.seen.symm]; rfl
      · cases List.eq_nil_of_length_eq_zero hf; rfl

theorem foldl_inv {σ α : Type} (f : σ → α → σ) (P : σ → List α → Prop)
    (hstep : ∀ s pre a, P s pre → P (f s a) (pre ++ [a])) :
    ∀ (l : List α) (s : σ) (pre : List α), P s pre → P (l.foldl f s) (pre ++ l) := by
  intro l
  induction l with
  | nil => intro s pre h; rwa [List.append_nil]
  | cons a l ih => intro s pre h; rw [List.append_cons]; exact ih _ _ (hstep s pre a h)

theorem fillCol_inv (lim : Nat) (vs : List (Option Val)) : FillInv (fillCol lim vs) vs := by
  -- the fold runs over numbered events: the pairs consumed so far are the events `pre` with their numbers
  refine foldl_inv _ (fun st ps => ∀ pre, pre.zipIdx = ps → FillInv st pre) (fun st ps a ih evs h => ?_) vs.zipIdx {} []
    (fun pre h => List.zipIdx_eq_nil_iff.mp h ▸ fillInv_empty) vs rfl
  -- so one more pair `a` is one more event `x`, and its number is `pre.length`
  obtain ⟨pre, _ | ⟨x, _ | _⟩, rfl, rfl, ⟨⟩⟩ := List.zipIdx_eq_append_iff.mp h
  exact Nat.zero_add _ ▸ step_inv lim st pre x (ih pre rfl)

theorem lenOk_fillCol (lim : Nat) (evs : List (Option Val)) (hsome : evs.any Option.isSome = true) :
    LenOk (evs.map getB) ((seenSize (fillCol lim evs).firstRec (fillCol lim evs).sizes).getD inconsistent) := by
  have inv := fillCol_inv lim evs
  refine lenOk_getD _ _ fun c hs hc => List.forall_mem_map.mpr fun o ho => ?_
  obtain ⟨hf, hall⟩ := seenSize_consistent _ _ _ hc hs
  rw [inv.sizes (inv.seen.trans hsome) hf] at hall
  exact List.forall_mem_map.mp hall o ho

theorem digitsAux_length (f n : Nat) (acc : Bytes) : (digitsAux f n acc).length ≤ f + acc.length := by
  fun_induction digitsAux f n acc with
  | case1 n acc => exact Nat.le_add_left _ _
  | case2 f n acc h => exact Nat.succ_add f acc.length ▸ Nat.succ_le_succ (Nat.le_add_left _ _)
  | case3 f n acc h ih => exact Nat.le_trans ih (Nat.le_of_eq (Nat.succ_add_eq_add_succ f acc.length).symm)

theorem decText_length (i : Int) : (decText i).length ≤ 21 :=
  iteInduction (motive := fun t : Bytes => t.length ≤ 21) (fun _ => Nat.succ_le_succ (digitsAux_length 20 _ []))
    fun _ => Nat.le_succ_of_le (digitsAux_length 20 _ [])

theorem spec_cons {v y : Val} {vs r : List Val} (hy : wf v → wf y)
    (h : r.length = vs.length ∧ ((∀ u ∈ vs, wf u) → ∀ u ∈ r, wf u)) :
    (y :: r).length = (v :: vs).length ∧ ((∀ u ∈ v :: vs, wf u) → ∀ u ∈ y :: r, wf u) :=
  ⟨congrArg Nat.succ h.1, fun hv => List.forall_mem_cons.mpr
    ⟨hy (List.forall_mem_cons.mp hv).1, h.2 (List.forall_mem_cons.mp hv).2⟩⟩

theorem toNumbers_spec (vs : List Val) : ∀ r, toNumbers vs = some r →
    r.length = vs.length ∧ ((∀ v ∈ vs, wf v) → ∀ v ∈ r, wf v) := by
  fun_induction toNumbers vs with
  | case1 => exact fun r h => Option.some.inj h ▸ ⟨rfl, fun h => h⟩
  | case2 v vs hn ih => exact fun r h => nomatch h
  | case3 vs r hr s ih =>
    -- a string becomes the int64 it spells, as its two's complement: a residue mod 2^64, which fits the 8 bytes
    intro r' h
    obtain ⟨i, _, rfl⟩ := Option.map_eq_some_iff.mp h
    exact spec_cons (fun _ => MachInt.wrapU64_toNat_lt i) (ih r hr)
  -- an int64, a float64, a back-fill record is copied
  | case4 vs r hr b ih => exact fun r' h => Option.some.inj h ▸ spec_cons id (ih r hr)
  | case5 vs r hr b ih => exact fun r' h => Option.some.inj h ▸ spec_cons id (ih r hr)
  | case6 vs r hr ih => exact fun r' h => Option.some.inj h ▸ spec_cons id (ih r hr)
  | case7 v vs r hr h1 h2 h3 h4 ih => exact fun r h => nomatch h

theorem toStrings_spec (vs : List Val) :
    (toStrings vs).length = vs.length ∧ ((∀ v ∈ vs, wf v) → ∀ v ∈ toStrings vs, wf v) := by
  induction vs with
  | nil => exact ⟨rfl, fun h => h⟩
  | cons v vs ih =>
    refine spec_cons (fun hv => ?_) ih
    cases v with
    | num k b =>
      cases k with
      | i64 => exact Nat.lt_of_le_of_lt (decText_length _) (by decide)
      | _ => exact hv
    | bool b => cases b <;> decide
    | _ => exact hv

/-- all that is proved of the consolidation: the number of records (for the seek theorems, `storedVals_length`) and
well-formedness (for `decTLV_encTLV`) -/
theorem consolidate_spec (vs : List Val) :
    (consolidate vs).length = vs.length ∧ ((∀ v ∈ vs, wf v) → ∀ v ∈ consolidate vs, wf v) := by
  unfold consolidate
  cases h : toNumbers vs with
  | some r => exact toNumbers_spec vs r h
  | none => exact toStrings_spec vs

theorem storedVals_length (mixed : Bool) (vs : List Val) : (storedVals mixed vs).length = vs.length := by
  cases mixed with
  | true => exact (consolidate_spec vs).1
  | false => rfl

end SigModel.Lemmas.C01
