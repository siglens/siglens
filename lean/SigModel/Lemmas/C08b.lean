/-
C08, the timestamp field of a point: what `compressTimestamp` writes for a delta-of-delta and what
`decompressTimestamp` makes of it.
NOTE: never use `unfold`/default-transparency `rfl` on goals that contain `if … < 2147483648`:
whnf then unfolds `Nat.ble` on the literal in unary.  Use `rw`/`simp only`.
-/
import SigModel.Lemmas.C08

namespace SigModel.Lemmas.C08
open SigModel SigModel.Gorilla

def tsBits (dod : Int) : Bits :=
  if dod = 0 then [false]
  else if -63 ≤ dod ∧ dod ≤ 64 then writeBits 0x02 2 ++ writeBits (int64Bits dod 7) 7
  else if -255 ≤ dod ∧ dod ≤ 256 then writeBits 0x06 3 ++ writeBits (int64Bits dod 9) 9
  else if -2047 ≤ dod ∧ dod ≤ 2048 then writeBits 0x0E 4 ++ writeBits (int64Bits dod 12) 12
  else writeBits 0x0F 4 ++ writeBits (int64Bits dod 32) 32

def tsEnc (c : Enc) (t : Nat) : Enc :=
  { c with t := t % P32, tDelta := (t % P32 + P32 - c.t) % P32 }

theorem compressTimestamp_eq (c : Enc) (t : Nat) :
    compressTimestamp c t = (tsEnc c t, tsBits (dodOf c t)) := by
  rw [compressTimestamp, tsBits, dodOf, tsEnc]
  simp only [← apply_ite (Prod.mk _)]

theorem tsBits_ne_nil (dod : Int) : tsBits dod ≠ [] := by
  have ne : ∀ {p : Prop} [Decidable p] {a b : Bits}, a ≠ [] → b ≠ [] → (if p then a else b) ≠ [] := by
    intro p _ a b ha hb
    split
    · exact ha
    · exact hb
  exact ne (List.cons_ne_nil _ _) (ne (List.cons_ne_nil _ _) (ne (List.cons_ne_nil _ _)
    (ne (List.cons_ne_nil _ _) (List.cons_ne_nil _ _))))

theorem int64Bits_mod (i : Int) (n : Nat) (hn : n ≤ 64) :
    ((int64Bits i n % 2 ^ n : Nat) : Int) = i % 2 ^ n := by
  have key : ∀ x : Int, (((x % (P64 : Int)).toNat % 2 ^ n : Nat) : Int) = x % 2 ^ n := by
    intro x
    have hdvd : (2 : Int) ^ n ∣ (P64 : Int) := ⟨2 ^ (64 - n), by
      rw [← Int.pow_add, Nat.add_sub_cancel' hn]; rfl⟩
    rw [Int.natCast_emod, Int.toNat_of_nonneg (Int.emod_nonneg _ (by decide)), Int.natCast_pow]
    exact Int.emod_emod_of_dvd _ hdvd
  rw [int64Bits]
  split
  · exact key i
  · rw [key, Int.add_emod_left]

def tsDec (d : Dec) (dod : Int) : Dec :=
  { d with delta := (((d.delta : Int) + dod) % (P32 : Int)).toNat,
           t := (d.t + (((d.delta : Int) + dod) % (P32 : Int)).toNat) % P32 }

theorem decompressTimestamp_field (d : Dec) (ctl r : Bits) (n u : Nat) (hn : n ≠ 0)
    (hctl : ∀ r', dodBitN (ctl ++ r') = some (n, r')) :
    decompressTimestamp d (ctl ++ writeBits u n ++ r) =
      if n = 32 ∧ u % 2 ^ n = 0xFFFFFFFF then .eof
      else .ok (tsDec d (if n ≠ 32 ∧ 2 ^ (n - 1) < u % 2 ^ n then ((u % 2 ^ n : Nat) : Int) - 2 ^ n
        else (u % 2 ^ n : Nat)), r) := by
  rw [List.append_assoc, decompressTimestamp, hctl]
  cases n with
  | zero => exact absurd rfl hn
  | succ n => simp only [readBits_writeBits, tsDec]

/-- the `dod` line of `decompressTimestamp`, with `p` for `2 ^ (n - 1)` and `b` for the bits read -/
theorem signRead (n p b : Nat) (dod : Int) (hn : n ≠ 32) (hb : (b : Int) = dod % (p + p))
    (h1 : -(p : Int) < dod) (h2 : dod ≤ p) :
    (if n ≠ 32 ∧ p < b then (b : Int) - (p + p) else b) = dod := by
  have hp : (0 : Int) < p := Int.neg_lt_self_iff.1 (Int.lt_of_lt_of_le h1 h2)
  by_cases h : 0 ≤ dod
  · rw [Int.emod_eq_of_lt h (Int.lt_of_le_of_lt h2 (Int.lt_add_of_pos_left _ hp))] at hb
    rw [if_neg (fun hlt => Int.not_lt.2 h2 (hb ▸ Int.ofNat_lt.2 hlt.2)), hb]
  · -- a negative `dod` is in the field as `dod + (p + p)`
    have h3 := Int.add_lt_add_right h1 (p + p)
    have h4 := Int.add_lt_add_right (Int.not_le.1 h) (p + p)
    rw [Int.neg_add_cancel_left] at h3
    rw [Int.zero_add] at h4
    rw [← Int.add_emod_right, Int.emod_eq_of_lt (Int.le_of_lt (Int.lt_trans hp h3)) h4] at hb
    rw [if_pos ⟨hn, Int.ofNat_lt.1 (hb ▸ h3)⟩, hb, Int.add_sub_cancel]

theorem ts_field (d : Dec) (dod : Int) (ctl r : Bits) (n p : Nat) (hn : 0 < n ∧ n < 32)
    (hctl : ∀ r', dodBitN (ctl ++ r') = some (n, r')) (hp : 2 ^ (n - 1) = p) (hq : (2 : Int) ^ n = p + p)
    (h1 : -(p : Int) < dod) (h2 : dod ≤ p) :
    decompressTimestamp d (ctl ++ writeBits (int64Bits dod n) n ++ r) = .ok (tsDec d dod, r) := by
  have hn32 := Nat.ne_of_lt hn.2
  have hb := int64Bits_mod dod n (Nat.le_trans (Nat.le_of_lt hn.2) (by decide))
  rw [hq] at hb
  rw [decompressTimestamp_field d ctl r n _ (Nat.ne_of_gt hn.1) hctl, if_neg (fun h => hn32 h.1), hp, hq,
    signRead n p _ dod hn32 hb h1 h2]

theorem ts_step (d : Dec) (dod : Int) (r : Bits) (hd : d.delta < P32)
    (hg : (-2047 ≤ dod ∧ dod ≤ 2048) ∨ dod % (P32 : Int) ≠ (P32 : Int) - 1) :
    decompressTimestamp d (tsBits dod ++ r) = .ok (tsDec d dod, r) := by
  rw [tsBits]
  by_cases h0 : dod = 0
  · have : (((d.delta : Int) + 0) % (P32 : Int)).toNat = d.delta := by
      rw [Int.add_zero, Int.emod_eq_of_lt (Int.natCast_nonneg _) (Int.ofNat_lt.2 hd), Int.toNat_natCast]
    rw [if_pos h0, h0, tsDec, this]
    rfl
  rw [if_neg h0]
  by_cases h7 : -63 ≤ dod ∧ dod ≤ 64
  · rw [if_pos h7]
    -- `h7.1 : -63 ≤ dod` is `-64 < dod` by the definition of `<` on `Int`
    exact ts_field d dod _ r 7 64 (by decide) (fun _ => rfl) rfl rfl h7.1 h7.2
  rw [if_neg h7]
  by_cases h9 : -255 ≤ dod ∧ dod ≤ 256
  · rw [if_pos h9]
    exact ts_field d dod _ r 9 256 (by decide) (fun _ => rfl) rfl rfl h9.1 h9.2
  rw [if_neg h9]
  by_cases h12 : -2047 ≤ dod ∧ dod ≤ 2048
  · rw [if_pos h12]
    exact ts_field d dod _ r 12 2048 (by decide) (fun _ => rfl) rfl rfl h12.1 h12.2
  have hb : ((int64Bits dod 32 % 2 ^ 32 : Nat) : Int) = dod % (P32 : Int) := int64Bits_mod dod 32 (by decide)
  -- by `hg` the 32-bit field is not the end marker
  rw [if_neg h12, decompressTimestamp_field d _ r 32 _ (by decide) (fun _ => rfl),
    if_neg (fun h => hg.resolve_left h12 (hb.symm.trans (congrArg Nat.cast h.2))), if_neg (fun h => h.1 rfl), hb,
    tsDec, tsDec, Int.add_emod_emod]

theorem toS32_emod (x : Nat) : toS32 x % (P32 : Int) = x % (P32 : Int) := by
  rw [toS32]
  split
  · rfl
  · exact Int.sub_emod_right _ _

theorem toS32_of_lt (x : Nat) (h : x < 2147483648) : toS32 x = x := if_pos h

theorem tsDec_dodOf (c : Enc) (d : Dec) (t : Nat) (hct : c.t < P32) (h1 : d.t = c.t) (h2 : d.delta = c.tDelta) :
    tsDec d (dodOf c t) = { d with delta := (tsEnc c t).tDelta, t := (tsEnc c t).t } := by
  have hdelta : (((d.delta : Int) + dodOf c t) % (P32 : Int)).toNat = (t % P32 + P32 - c.t) % P32 := by
    -- modulo 2^32 both `toS32` drop out, and `τ + (δ - τ) = δ`
    rw [h2, dodOf, Int.add_emod, Int.sub_emod, toS32_emod, toS32_emod, ← Int.sub_emod, ← Int.add_emod,
      Int.add_comm, Int.sub_add_cancel, ← Int.natCast_emod, Int.toNat_natCast, Nat.mod_mod]
  rw [tsDec, hdelta, h1, tsEnc, Nat.add_mod_mod, Nat.add_sub_cancel' (Nat.le_trans (Nat.le_of_lt hct) (Nat.le_add_left _ _)),
    Nat.add_mod_right, Nat.mod_mod]

end SigModel.Lemmas.C08
