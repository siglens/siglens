/-
The adders.  Ingest time = query time (`foldIWith_eq_foldQWith`) for every rounding and every string rule (`parse` = the
path's "is this string a number"), by an invariant of the states the adders leave (`Wf`).  `val_cases` says once what a
value is under a string rule — absent, a number, text — and what each reader makes of it.  Under exact arithmetic the adders
leave the closed form `build parse vs` (`foldQWith_eq_build`; the sum stays the code's own fold, so no overflow guard):
presence count, numeric values in order, min / max cells (`mmCell`), put together by `mkStats`, the normal form on which
the adders (here) and the merge (C04Sc) are computed.  Core Lean only.
-/
import SigModel.Lemmas.C04Sa

namespace SigModel.Stats

def numOf (parse : Str → Option Rat) : Val → Option Num
  | .absent => none
  | .int i => some (.int i)
  | .flt q => some (.flt q)
  | .str s => (parse s).map Num.flt

def cellOf (parse : Str → Option Rat) : Val → CV
  | .absent => .invalid
  | .int i => .int i
  | .flt q => .flt q
  | .str s => match parse s with
    | some q => .flt q
    | none => .str s

def isPresent : Val → Bool
  | .absent => false
  | _ => true

def present (vs : List Val) : Nat := (vs.filter isPresent).length

def nums (parse : Str → Option Rat) (vs : List Val) : List Num := vs.filterMap (numOf parse)

def minCell (parse : Str → Option Rat) (vs : List Val) : CV := vs.foldl (fun a v => cvMin a (cellOf parse v)) .invalid
def maxCell (parse : Str → Option Rat) (vs : List Val) : CV := vs.foldl (fun a v => cvMax a (cellOf parse v)) .invalid

def sumCell (ns : List Num) : Num := ns.foldl (addSum exact) (.int 0)

def build (parse : Str → Option Rat) (vs : List Val) : Option SegStats :=
  if present vs = 0 then none else
  some { isNumeric := !(nums parse vs).isEmpty
         count := present vs
         min := minCell parse vs
         max := maxCell parse vs
         num := if (nums parse vs).isEmpty then none else some ⟨(nums parse vs).length, sumCell (nums parse vs)⟩ }

/-- induction from the right end (the adders consume the list left to right) -/
@[elab_as_elim] theorem snocInd {α : Type} {motive : List α → Prop} (nil : motive [])
    (append_singleton : ∀ (l : List α) (a : α), motive l → motive (l ++ [a])) (l : List α) : motive l := by
  rw [← List.reverse_reverse l]
  induction l.reverse with
  | nil => exact nil
  | cons a r ih => rw [List.reverse_cons]; exact append_singleton _ _ ih

theorem foldl_closed {α β : Type} (f : β → α → β) (g : List α → β) (hstep : ∀ l a, f (g l) a = g (l ++ [a]))
    (l : List α) : l.foldl f (g []) = g l := by
  induction l using snocInd with
  | nil => rfl
  | append_singleton l a ih => rw [List.foldl_append, ih]; exact hstep l a

def Wf : Option SegStats → Prop
  | none => True
  | some st => st.isNumeric = st.num.isSome

theorem wf_text {o : Option SegStats} (h : Wf o) : Wf (some (o.getD newText)) := by
  cases o with
  | none => rfl
  | some st => exact h

/-- AddSegStatsNums tests the flag, addSegStatsNums the pointer (also behind addSegStatsStrIngestion, which has set the flag
before): the same on an entry whose flag says whether the pointer is there -/
theorem addNum_wf (rnd : Rat → Rat) {o : Option SegStats} (x : Num) (h : Wf o) :
    (addNumI rnd o x = addNumQ rnd o x ∧ Wf (addNumQ rnd o x)) ∧
    (addNumI rnd (some { o.getD newText with isNumeric := true }) x = addNumQ rnd (some (o.getD newText)) x ∧
      Wf (addNumQ rnd (some (o.getD newText)) x)) := by
  cases o with
  | none => exact ⟨⟨rfl, rfl⟩, rfl, rfl⟩
  | some st =>
    obtain ⟨isN, c, mn, mx, num⟩ := st
    cases (show isN = num.isSome from h)
    cases num <;> exact ⟨⟨rfl, rfl⟩, rfl, rfl⟩

theorem step_wf (parse : Str → Option Rat) (rnd : Rat → Rat) (o : Option SegStats) (v : Val) (h : Wf o) :
    stepIWith parse rnd o v = stepQWith parse rnd o v ∧ Wf (stepQWith parse rnd o v) := by
  cases v with
  | absent => exact ⟨rfl, h⟩
  | int i => exact (addNum_wf rnd (.int i) h).1
  | flt q => exact (addNum_wf rnd (.flt q) h).1
  | str s =>
    dsimp only [stepIWith, stepQWith, addStrIWith, addStrQWith]
    cases parse s with
    | none => exact ⟨rfl, wf_text h⟩
    | some f => exact (addNum_wf rnd (.flt f) h).2

/-- the ingest-time statistics are what the .sst fast path and unrotated segments serve; `rnd` may be `roundF64` -/
theorem foldIWith_eq_foldQWith (parse : Str → Option Rat) (rnd : Rat → Rat) (vs : List Val) :
    foldIWith parse rnd vs = foldQWith parse rnd vs := by
  have inv : ∀ o, Wf o → vs.foldl (stepIWith parse rnd) o = vs.foldl (stepQWith parse rnd) o := by
    induction vs with
    | nil => exact fun _ _ => rfl
    | cons v r ih =>
      intro o h
      rw [List.foldl_cons, List.foldl_cons, (step_wf parse rnd o v h).1]
      exact ih _ (step_wf parse rnd o v h).2
  exact inv none trivial

theorem foldQWith_congr (p1 p2 : Str → Option Rat) (rnd : Rat → Rat) (vs : List Val)
    (h : ∀ s, Val.str s ∈ vs → p1 s = p2 s) : foldQWith p1 rnd vs = foldQWith p2 rnd vs := by
  unfold foldQWith
  generalize (none : Option SegStats) = o
  induction vs generalizing o with
  | nil => rfl
  | cons v r ih =>
    have hv : stepQWith p1 rnd o v = stepQWith p2 rnd o v := by
      cases v with
      | str s => dsimp only [stepQWith, addStrQWith]; rw [h s List.mem_cons_self]
      | _ => rfl
    rw [List.foldl_cons, List.foldl_cons, hv]
    exact ih (fun s hs => h s (List.mem_cons_of_mem _ hs)) _

/-- AddSegStatsStr creates a missing entry as text before it hands a numeric string on: the number makes it numeric with
fresh NumStats, which is what AddSegStatsNums leaves on a missing entry -/
theorem addNumQ_getD (rnd : Rat → Rat) (o : Option SegStats) (x : Num) :
    addNumQ rnd (some (o.getD newText)) x = addNumQ rnd o x := by
  cases o <;> rfl

/-- the conjuncts: what the closed form (`nums`, `cellOf`, `present`), the group-by bucket (`toCVWith`) and the query-time
adder read the value as; numeric text is a number -/
theorem val_cases (parse : Str → Option Rat) (v : Val) :
    v = .absent ∨
    (∃ x, nums parse [v] = [x] ∧ cellOf parse v = x.toCV ∧ v.toCVWith parse = x.toCV ∧ present [v] = 1 ∧
      ∀ rnd o, stepQWith parse rnd o v = addNumQ rnd o x) ∨
    (∃ s, nums parse [v] = [] ∧ cellOf parse v = .str s ∧ v.toCVWith parse = .str s ∧ present [v] = 1 ∧
      ∀ rnd o, stepQWith parse rnd o v = some (procStr rnd (o.getD newText) s)) := by
  cases v with
  | absent => exact .inl rfl
  | int i => exact .inr (.inl ⟨.int i, rfl, rfl, rfl, rfl, fun _ _ => rfl⟩)
  | flt q => exact .inr (.inl ⟨.flt q, rfl, rfl, rfl, rfl, fun _ _ => rfl⟩)
  | str s =>
    dsimp only [nums, List.filterMap, numOf, cellOf, Val.toCVWith, stepQWith, addStrQWith]
    cases parse s with
    | some f => exact .inr (.inl ⟨.flt f, rfl, rfl, rfl, rfl, fun rnd o => addNumQ_getD rnd o _⟩)
    | none => exact .inr (.inr ⟨s, rfl, rfl, rfl, rfl, fun _ _ => rfl⟩)

@[simp] theorem present_nil : present [] = 0 := rfl
theorem present_append (xs ys : List Val) : present (xs ++ ys) = present xs + present ys := by
  rw [present, List.filter_append, List.length_append]; rfl

@[simp] theorem nums_nil (parse : Str → Option Rat) : nums parse [] = [] := rfl
theorem nums_append (parse : Str → Option Rat) (xs ys : List Val) : nums parse (xs ++ ys) = nums parse xs ++ nums parse ys :=
  List.filterMap_append

@[simp] theorem minCell_nil (parse : Str → Option Rat) : minCell parse [] = .invalid := rfl
@[simp] theorem maxCell_nil (parse : Str → Option Rat) : maxCell parse [] = .invalid := rfl

/-- `minCell` and `maxCell` are `mmCell true` and `mmCell false` by unfolding -/
def mmCell (m : Bool) (parse : Str → Option Rat) (vs : List Val) : CV :=
  vs.foldl (fun a v => reduceMinMax exact m a (cellOf parse v)) .invalid

theorem mmCell_snoc (m : Bool) (parse : Str → Option Rat) (vs : List Val) (v : Val) :
    mmCell m parse (vs ++ [v]) = reduceMinMax exact m (mmCell m parse vs) (cellOf parse v) := by
  rw [mmCell, List.foldl_append]; rfl

@[simp] theorem sumCell_nil : sumCell [] = .int 0 := rfl
@[simp] theorem sumCell_snoc (ns : List Num) (x : Num) : sumCell (ns ++ [x]) = addSum exact (sumCell ns) x := by
  rw [sumCell, List.foldl_append]; rfl

theorem cellOf_notBackfill (parse : Str → Option Rat) (v : Val) : (cellOf parse v).notBackfill := by
  rcases val_cases parse v with rfl | ⟨x, _, hc, _⟩ | ⟨s, _, hc, _⟩
  · exact trivial
  · rw [hc]; cases x <;> exact trivial
  · rw [hc]; exact trivial

theorem mmCell_notBackfill (m : Bool) (parse : Str → Option Rat) (vs : List Val) : (mmCell m parse vs).notBackfill := by
  induction vs using snocInd with
  | nil => exact trivial
  | append_singleton vs v _ => rw [mmCell_snoc]; exact reduceMinMax_notBackfill m (cellOf_notBackfill parse v)

theorem mmCell_append (m : Bool) (parse : Str → Option Rat) (xs ys : List Val) :
    mmCell m parse (xs ++ ys) = reduceMinMax exact m (mmCell m parse xs) (mmCell m parse ys) := by
  induction ys using snocInd with
  | nil => rw [List.append_nil]; exact (reduceMinMax_invalid_right m (mmCell_notBackfill m parse xs)).symm
  | append_singleton ys v ih => rw [← List.append_assoc, mmCell_snoc, mmCell_snoc, ih, reduceMinMax_assoc]

theorem numOf_none_of_absent (parse : Str → Option Rat) : numOf parse .absent = none := rfl

theorem nums_length_le_present (parse : Str → Option Rat) (vs : List Val) : (nums parse vs).length ≤ present vs := by
  induction vs using snocInd with
  | nil => exact Nat.le_refl 0
  | append_singleton vs v ih =>
    have hv : (nums parse [v]).length ≤ present [v] := by
      cases v with
      | absent => exact Nat.le_refl 0
      | _ => exact List.length_filterMap_le _ _
    rw [nums_append, present_append, List.length_append]
    exact Nat.add_le_add ih hv

def numStatsWith (ns : List Num) (s : Num) : Option NumStats := if ns.isEmpty then none else some ⟨ns.length, s⟩

def mkStats (c : Nat) (mn mx : CV) (ns : List Num) (s : Num) : Option SegStats :=
  if c = 0 then none else some ⟨!ns.isEmpty, c, mn, mx, numStatsWith ns s⟩

def statsWith (parse : Str → Option Rat) (vs : List Val) (s : Num) : Option SegStats :=
  mkStats (present vs) (mmCell true parse vs) (mmCell false parse vs) (nums parse vs) s

theorem build_eq (parse : Str → Option Rat) (vs : List Val) : build parse vs = statsWith parse vs (sumCell (nums parse vs)) :=
  rfl

def Fresh (c : Nat) (mn mx : CV) (ns : List Num) : Prop := c = 0 → mn = .invalid ∧ mx = .invalid ∧ ns = []

theorem fresh_cells (parse : Str → Option Rat) (vs : List Val) :
    Fresh (present vs) (mmCell true parse vs) (mmCell false parse vs) (nums parse vs) := by
  induction vs with
  | nil => exact fun _ => ⟨rfl, rfl, rfl⟩
  | cons v r ih =>
    cases v with
    | absent => exact ih
    | _ => exact fun h => absurd h (Nat.succ_ne_zero _)

theorem addNumQ_mkStats {c : Nat} {mn mx : CV} {ns : List Num} (x : Num) (h0 : Fresh c mn mx ns) :
    addNumQ exact (mkStats c mn mx ns (sumCell ns)) x =
      mkStats (c + 1) (reduceMinMax exact true mn x.toCV) (reduceMinMax exact false mx x.toCV) (ns ++ [x])
        (sumCell (ns ++ [x])) := by
  rw [sumCell_snoc]
  cases c with
  | zero => obtain ⟨rfl, rfl, rfl⟩ := h0 rfl; rfl
  | succ n =>
    cases ns with
    | nil => rfl
    | cons a r => unfold mkStats numStatsWith; rw [List.length_append]; rfl

theorem procStr_mkStats {c : Nat} {mn mx : CV} {ns : List Num} (s : Num) (t : Str) (h0 : Fresh c mn mx ns) :
    some (procStr exact ((mkStats c mn mx ns s).getD newText) t) =
      mkStats (c + 1) (reduceMinMax exact true mn (.str t)) (reduceMinMax exact false mx (.str t)) ns s := by
  cases c with
  | zero => obtain ⟨rfl, rfl, rfl⟩ := h0 rfl; rfl
  | succ n => rfl

theorem stepQWith_build (parse : Str → Option Rat) (vs : List Val) (v : Val) :
    stepQWith parse exact (build parse vs) v = build parse (vs ++ [v]) := by
  have h0 := fresh_cells parse vs
  rw [build_eq, build_eq, statsWith, statsWith, present_append, nums_append, mmCell_snoc, mmCell_snoc]
  rcases val_cases parse v with rfl | ⟨x, hn, hc, _, hp, hq⟩ | ⟨t, hn, hc, _, hp, hq⟩
  · show _ = mkStats (present vs) (reduceMinMax exact true _ .invalid) (reduceMinMax exact false _ .invalid)
      (nums parse vs ++ []) (sumCell (nums parse vs ++ []))
    rw [List.append_nil, reduceMinMax_invalid_right true (mmCell_notBackfill true parse vs),
      reduceMinMax_invalid_right false (mmCell_notBackfill false parse vs)]
    rfl
  · rw [hq, hc, hn, hp]
    exact addNumQ_mkStats x h0
  · rw [hq, hc, hn, hp, List.append_nil]
    exact procStr_mkStats _ t h0

theorem foldQWith_eq_build (parse : Str → Option Rat) (vs : List Val) : foldQWith parse exact vs = build parse vs :=
  foldl_closed _ (build parse) (stepQWith_build parse) vs

theorem foldQ_eq_build (vs : List Val) : foldQ exact vs = build (parseFast exact) vs := foldQWith_eq_build _ vs
theorem foldQOld_eq_build (vs : List Val) : foldQOld exact vs = build (parseStd exact) vs := foldQWith_eq_build _ vs

end SigModel.Stats
