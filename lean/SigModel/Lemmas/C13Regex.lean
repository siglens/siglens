/-
The wildcard test of the index expansion: the quoted source of an element lexes and parses to `^` in front of `globRe`
(the element's items, each a literal character or `.*`, then `$`: `compile_quoted`), and on `globRe` the derivative
matcher decides the glob match of a text without newline (`prefixMatch_globRe`).
One step of `prefixMatch`, `nullable`, `deriv`, `parseLoop` on a constructor is taken by evaluation (`show`, `refine … .trans`,
`f.eq_def`), not by rewriting with the equations of these functions, which is slow to check.
-/
import SigModel.Model.Tenant

namespace SigModel.Lemmas.C13
open SigModel.Tenant

def itemOf (c : Char) : Re := if c = '*' then .star .anyNotNL else .chr c

theorem mkCat_empty_left (b : Re) : mkCat .empty b = .empty := if_pos rfl

theorem mkCat_eps_left (b : Re) : mkCat .eps b = b := by
  rw [mkCat, if_neg Re.noConfusion, if_pos rfl]
  split
  · next h => exact h.symm
  · rfl

theorem mkAlt_empty_left (b : Re) : mkAlt .empty b = b := if_pos rfl

theorem mkAlt_empty_right (a : Re) : mkAlt a .empty = a := by
  rw [mkAlt, if_pos rfl]
  split
  · next h => exact h.symm
  · rfl

theorem prefixMatch_empty (s : Name) (st : Bool) : prefixMatch .empty s st = false := by
  induction s generalizing st with
  | nil => rfl
  | cons c s ih => exact ih false

/-- `h` is `prefixMatch_alt` on this text: the two facts need each other along the text, the derivative of `.alt`
being a `mkAlt` -/
theorem prefixMatch_mkAlt_of {s : Name}
    (h : ∀ a b st, prefixMatch (.alt a b) s st = (prefixMatch a s st || prefixMatch b s st)) (a b : Re) (st : Bool) :
    prefixMatch (mkAlt a b) s st = (prefixMatch a s st || prefixMatch b s st) := by
  by_cases ha : a = .empty
  · rw [ha, mkAlt_empty_left, prefixMatch_empty, Bool.false_or]
  · by_cases hb : b = .empty
    · rw [hb, mkAlt_empty_right, prefixMatch_empty, Bool.or_false]
    · rw [mkAlt, if_neg ha, if_neg hb]
      by_cases e : a = b
      · rw [if_pos e, e, Bool.or_self]
      · rw [if_neg e, h]

theorem prefixMatch_alt (s : Name) :
    ∀ a b st, prefixMatch (.alt a b) s st = (prefixMatch a s st || prefixMatch b s st) := by
  induction s with
  | nil => exact fun _ _ _ => rfl
  | cons c s ih =>
    intro a b st
    -- one step on `.alt a b`: `(nullable a || nullable b) || prefixMatch (mkAlt (deriv a) (deriv b)) s`
    refine (congrArg (_ || ·) (prefixMatch_mkAlt_of ih ..)).trans ?_
    -- `(na || nb) || (pa || pb) = (na || pa) || (nb || pb)`
    exact (Bool.or_assoc ..).trans ((congrArg (_ || ·) (Bool.or_left_comm ..)).trans (Bool.or_assoc ..).symm)

theorem prefixMatch_mkAlt (a b : Re) (s : Name) (st : Bool) :
    prefixMatch (mkAlt a b) s st = (prefixMatch a s st || prefixMatch b s st) :=
  prefixMatch_mkAlt_of (prefixMatch_alt s) a b st

theorem prefixMatch_cat_cons (a R : Re) (d : Char) (s : Name) (st : Bool) :
    prefixMatch (.cat a R) (d :: s) st =
      (nullable st false a && prefixMatch R (d :: s) st || prefixMatch (mkCat (deriv d st a) R) s false) := by
  -- one step on `.cat a R`: the derivative is `mkAlt (mkCat (deriv a) R) (if nullable a then deriv R else .empty)`
  refine (congrArg (_ || ·) (prefixMatch_mkAlt ..)).trans ?_
  show (nullable st false a && nullable st false R || _) = _
  cases nullable st false a
  · exact (congrArg (_ || ·) (prefixMatch_empty s false)).trans (Bool.or_false _)
  · exact (Bool.or_assoc ..).symm.trans (Bool.or_right_comm ..)

theorem prefixMatch_bot (R : Re) (s : Name) (st : Bool) :
    prefixMatch (.cat .bot R) s st = (st && prefixMatch R s st) := by
  cases s with
  | nil => rfl
  | cons d s =>
    -- nothing goes into `^`: `deriv d st .bot = .empty`
    exact (prefixMatch_cat_cons ..).trans ((congrArg (_ || ·) (prefixMatch_empty s false)).trans (Bool.or_false _))

theorem searchFrom_bot (R : Re) (s : Name) (st : Bool) :
    searchFrom (.cat .bot R) s st = (st && prefixMatch R s st) := by
  induction s generalizing st with
  | nil => exact prefixMatch_bot R [] st
  | cons c s ih => rw [searchFrom, prefixMatch_bot, ih, Bool.false_and, Bool.or_false]

theorem search_bot (R : Re) (s : Name) : search (.cat .bot R) s = prefixMatch R s true :=
  (searchFrom_bot R s true).trans (Bool.true_and _)

theorem catList_concat (xs : List Re) (e : Re) : catList (xs ++ [e]) = xs.foldr .cat e := by
  induction xs with
  | nil => rfl
  | cons x r ih =>
    rw [List.foldr_cons, ← ih]
    cases r <;> rfl

abbrev globRe (elem : Name) : Re := (elem.map itemOf).foldr .cat .eot

theorem globRe_ne_empty (elem : Name) : globRe elem ≠ .empty := by
  cases elem <;> exact Re.noConfusion

theorem prefixMatch_chr_cat (g : Char) (R : Re) (d : Char) (s : Name) (st : Bool) :
    prefixMatch (.cat (.chr g) R) (d :: s) st = (g == d && prefixMatch R s false) := by
  refine (prefixMatch_cat_cons ..).trans ?_
  show prefixMatch (mkCat (if d = g then .eps else .empty) R) s false = _
  by_cases h : d = g
  · rw [if_pos h, mkCat_eps_left, h, beq_self_eq_true, Bool.true_and]
  · rw [if_neg h, mkCat_empty_left, prefixMatch_empty, beq_false_of_ne (Ne.symm h), Bool.false_and]

theorem prefixMatch_star_cat {R : Re} {f : Name → Bool} (hR : R ≠ .empty) (s : Name) (hs : ∀ c ∈ s, c ≠ '\n')
    (hf : ∀ t, (∀ c ∈ t, c ≠ '\n') → ∀ st, prefixMatch R t st = f t) (st : Bool) :
    prefixMatch (.cat (.star .anyNotNL) R) s st = globStar f s := by
  induction s generalizing st with
  | nil => exact (Bool.true_and _).trans (hf [] hs st)
  | cons d s ih =>
    have hd : deriv d st (.star .anyNotNL) = .star .anyNotNL :=
      (congrArg (mkCat · _) (if_neg (hs d List.mem_cons_self))).trans (mkCat_eps_left _)
    have hc : mkCat (.star .anyNotNL) R = .cat (.star .anyNotNL) R :=
      (if_neg Re.noConfusion).trans ((if_neg hR).trans (if_neg Re.noConfusion))
    rw [prefixMatch_cat_cons, hd, hc, hf (d :: s) hs st, ih (List.forall_mem_cons.1 hs).2]
    rfl

theorem prefixMatch_globRe (elem s : Name) (hs : ∀ c ∈ s, c ≠ '\n') (st : Bool) :
    prefixMatch (globRe elem) s st = globMatch elem s := by
  induction elem generalizing s st with
  | nil =>
    cases s with
    | nil => rfl
    | cons d s => exact prefixMatch_empty s false
  | cons g r ih =>
    show prefixMatch (.cat (itemOf g) (globRe r)) s st = _
    unfold globMatch itemOf
    by_cases hg : g = '*'
    · rw [if_pos hg, if_pos hg]
      exact prefixMatch_star_cat (globRe_ne_empty r) s hs ih st
    · rw [if_neg hg, if_neg hg]
      cases s with
      | nil => rfl
      | cons d s =>
        exact (prefixMatch_chr_cat ..).trans (congrArg (_ && ·) (ih s (List.forall_mem_cons.1 hs).2 false))

/-- the tokens `lex` makes of one character's part of `quoteStar` -/
def tk (c : Char) : List Tok := if c = '*' then [.raw '.', .raw '*'] else if isMeta c then [.esc c] else [.raw c]

theorem parseLoop_plain {c : Char} (hc : isMeta c = false) (rest : List Tok) (st : PState) :
    parseLoop (.raw c :: rest) .top st = parseLoop rest .top (st.push (.chr c)) := by
  rw [parseLoop.eq_def]
  simp only [isMeta, Bool.or_eq_false_iff, decide_eq_false_iff_not] at hc
  simp only [isRep, hc, decide_false, Bool.or_false, Bool.false_eq_true, ↓reduceIte]

/-- `h`: after a repetition operator the parser looks one token ahead for the lazy marker `?` -/
theorem parseLoop_dotStar {rest : List Tok} (h : Tok.raw '?' ∉ rest) (st : PState) :
    parseLoop (.raw '.' :: .raw '*' :: rest) .top st =
      parseLoop rest .top { st.push (.star .anyNotNL) with lastRep := true } := by
  rw [parseLoop.eq_def]
  simp only [isRep, Char.reduceEq, ↓reduceIte, decide_false, Bool.or_false, Bool.false_eq_true]
  rw [parseLoop.eq_def]
  cases rest with
  | nil => rfl
  | cons q rest => exact if_neg (ne_true_of_eq_false (beq_false_of_ne (List.ne_of_not_mem_cons h).symm))

theorem raw_question_not_mem_tk (c : Char) : Tok.raw '?' ∉ tk c := by
  unfold tk
  split
  · decide
  · split
    · exact fun h => Tok.noConfusion (List.mem_singleton.1 h)
    · next hm => exact fun h => hm (Tok.raw.inj (List.mem_singleton.1 h) ▸ rfl)

/-- `∃ b`: `lastRep` is set after `.*`; the next token never is a repetition operator, so the flag is not looked at -/
theorem parseLoop_tk (c : Char) {toks : List Tok} (h : Tok.raw '?' ∉ toks) (st : PState) :
    ∃ b, parseLoop (tk c ++ toks) .top st =
      parseLoop toks .top { st.push (itemOf c) with lastRep := b } := by
  unfold tk itemOf
  by_cases hs : c = '*'
  · rw [if_pos hs, if_pos hs]
    exact ⟨_, parseLoop_dotStar h st⟩
  · rw [if_neg hs, if_neg hs]
    by_cases hm : isMeta c = true
    · rw [if_pos hm]
      exact ⟨_, rfl⟩
    · rw [if_neg hm]
      exact ⟨_, parseLoop_plain (Bool.not_eq_true _ ▸ hm) toks st⟩

theorem parseLoop_quoted (elem : Name) (st : PState) :
    parseLoop (elem.flatMap tk ++ [.raw '$']) .top st =
      some { st with cur := { st.cur with items := .eot :: (elem.map itemOf).reverseAux st.cur.items }, lastRep := false } := by
  induction elem generalizing st with
  | nil =>
    show parseLoop [.raw '$'] .top st = _
    rw [parseLoop.eq_def]
    rfl
  | cons c r ih =>
    have hq : Tok.raw '?' ∉ r.flatMap tk ++ [Tok.raw '$'] := by simp [raw_question_not_mem_tk]
    obtain ⟨b, hp⟩ := parseLoop_tk c hq st
    rw [List.flatMap_cons, List.append_assoc, hp, ih]
    rfl

theorem lex_raw {c : Char} {r : List Char} {t : List Tok} (hc : c ≠ '\\') (h : lex r = some t) :
    lex (c :: r) = some (.raw c :: t) := by
  rw [lex.eq_def]; exact (if_neg hc).trans (congrArg _ h)

theorem lex_esc {e : Char} {r : List Char} {t : List Tok} (h : lex r = some t) :
    lex ('\\' :: e :: r) = some (.esc e :: t) := by
  rw [lex.eq_def]; exact (if_pos rfl).trans (congrArg (Option.map _) h)

theorem lex_quoteStar (elem : Name) {rest : List Char} {toks : List Tok} (h : lex rest = some toks) :
    lex (quoteStar elem ++ rest) = some (elem.flatMap tk ++ toks) := by
  induction elem with
  | nil => exact h
  | cons c r ih =>
    rw [List.flatMap_cons]
    unfold quoteStar tk
    by_cases hs : c = '*'
    · rw [if_pos hs, if_pos hs]
      exact lex_raw (by decide) (lex_raw (by decide) ih)
    · rw [if_neg hs, if_neg hs]
      by_cases hm : isMeta c = true
      · rw [if_pos hm, if_pos hm]
        exact lex_esc ih
      · rw [if_neg hm, if_neg hm]
        exact lex_raw (fun e => hm (e ▸ by decide +kernel)) ih

theorem compile_quoted (elem : Name) :
    compile (regexSrc elem) = some (.cat .bot (globRe elem)) := by
  have hl : lex (regexSrc elem) = some (.raw '^' :: (elem.flatMap tk ++ [.raw '$'])) :=
    lex_raw (by decide) (lex_quoteStar elem (lex_raw (by decide) rfl))
  have hp : parseLoop (.raw '^' :: (elem.flatMap tk ++ [.raw '$'])) .top {} = _ := parseLoop_quoted elem (PState.push {} .bot)
  simp only [compile, hl, hp]
  show some (catList (.eot :: (elem.map itemOf).reverseAux [.bot]).reverse) = _
  rw [List.reverse_cons, List.reverseAux_eq, List.reverse_append, List.reverse_reverse]
  exact congrArg some (catList_concat (.bot :: elem.map itemOf) .eot)

theorem globStar_of_rest (rest : Name → Bool) (s : Name) (h : rest s = true) : globStar rest s = true := by
  cases s with
  | nil => exact h
  | cons c s => exact Bool.or_eq_true_iff.2 (Or.inl h)

theorem globMatch_self (p : Name) : globMatch p p = true := by
  induction p with
  | nil => rfl
  | cons c p ih =>
    unfold globMatch
    by_cases hc : c = '*'
    · rw [if_pos hc]
      exact Bool.or_eq_true_iff.2 (Or.inr (globStar_of_rest _ p ih))
    · rw [if_neg hc]
      exact Bool.and_eq_true_iff.2 ⟨beq_self_eq_true c, ih⟩

end SigModel.Lemmas.C13
