/-
The skip rule of the range micro-index over any linear order.  `doesIntPassRangeFilter`, `doesUintPassRangeFilter` and
`doesFloatPassRangeFilter` (metacheckers.go, generated into Gen/Range.lean) are this one function at Int, Int and Rat.
Props/C03 hands `rangePass_sound` over as it is, which type-checks only while each kernel unfolds to `rangePass`: a
regenerated kernel that differs stops the build with a type mismatch there.
-/
import SigModel.Gen.Consts

namespace SigModel.Range
open SigModel.Gen Std

def rangePass {α : Type} [LE α] [LT α] [DecidableEq α] [DecidableLE α] [DecidableLT α] (op : Int) (lit mn mx : α) : Bool :=
  if decide (op = FilterOperator_Equals) then decide (lit ≥ mn) && decide (lit ≤ mx)
  else if decide (op = FilterOperator_NotEquals) then
    if decide (mn = mx) && decide (lit = mn) then false else true
  else if decide (op = FilterOperator_GreaterThan) then decide (lit < mn) || decide (lit < mx)
  else if decide (op = FilterOperator_GreaterThanOrEqualTo) then decide (lit ≤ mn) || decide (lit ≤ mx)
  else if decide (op = FilterOperator_LessThan) then decide (lit > mn) || decide (lit > mx)
  else if decide (op = FilterOperator_LessThanOrEqualTo) then decide (lit ≥ mn) || decide (lit ≥ mx)
  else true

theorem rangePass_sound {α : Type} [LE α] [LT α] [DecidableEq α] [DecidableLE α] [DecidableLT α]
    [IsLinearOrder α] [LawfulOrderLT α] (op : Int) (lit mn mx v : α) (h1 : mn ≤ v) (h2 : v ≤ mx)
    (hs : (op = FilterOperator_Equals ∧ v = lit) ∨ (op = FilterOperator_NotEquals ∧ v ≠ lit) ∨
      (op = FilterOperator_LessThan ∧ v < lit) ∨ (op = FilterOperator_LessThanOrEqualTo ∧ v ≤ lit) ∨
      (op = FilterOperator_GreaterThan ∧ v > lit) ∨ (op = FilterOperator_GreaterThanOrEqualTo ∧ v ≥ lit)) :
    rangePass op lit mn mx = true := by
  rcases hs with ⟨rfl, rfl⟩ | ⟨rfl, hv⟩ | ⟨rfl, hv⟩ | ⟨rfl, hv⟩ | ⟨rfl, hv⟩ | ⟨rfl, hv⟩
  · exact Bool.and_eq_true_iff.2 ⟨decide_eq_true h1, decide_eq_true h2⟩
  · show (if decide (mn = mx) && decide (lit = mn) then false else true) = true
    rw [if_neg]
    intro h
    simp only [Bool.and_eq_true, decide_eq_true_eq] at h
    obtain ⟨rfl, rfl⟩ := h
    exact hv (le_antisymm h2 h1)
  · exact Bool.or_eq_true_iff.2 (.inl (decide_eq_true (lt_of_le_of_lt h1 hv)))
  · exact Bool.or_eq_true_iff.2 (.inl (decide_eq_true (le_trans h1 hv)))
  · exact Bool.or_eq_true_iff.2 (.inr (decide_eq_true (lt_of_lt_of_le hv h2)))
  · exact Bool.or_eq_true_iff.2 (.inr (decide_eq_true (le_trans hv h2)))

end SigModel.Range
