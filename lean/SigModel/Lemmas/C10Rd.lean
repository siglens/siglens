/-
C10 slice "walrecover": the REPAIRED recovery (Model/WalRecover.lean: groups, hasFirstWal, recover, recoverActions).
walFileIndex parses the index back, the sort restores the creation order, recovery = specification without a bound on
the number of WAL files, crash inside rotateBlock, crash inside RecoverWALData.
-/
import SigModel.Lemmas.C10Rc
namespace SigModel.Lemmas.C10R
open SigModel.Wal (Dp)
open SigModel.WalRecover

theorem stripWal_append (x : List Char) : stripWal (x ++ ".wal".toList) = x := by
  rw [stripWal, if_pos (List.isSuffixOf_iff_suffix.mpr (List.suffix_append _ _)),
    show ".wal".toList = ['.','w','a','l'] from String.toList_ofList, List.length_append]
  exact List.take_left' (Nat.add_sub_cancel ..).symm

theorem afterLastU_append (p d : List Char) (hd : '_' ∉ d) : afterLastU (p ++ '_' :: d) = d := by
  have h : ∀ c ∈ d.reverse, (c != '_') = true := fun c hc => bne_iff_ne.mpr fun e => hd (e ▸ List.mem_reverse.mp hc)
  rw [afterLastU, List.reverse_append, List.reverse_cons, List.append_assoc, List.takeWhile_append_of_pos h,
    List.singleton_append, List.takeWhile_cons_of_neg (by decide), List.append_nil, List.reverse_reverse]

theorem walIndexOf_render (f : WalName) (h : f.idx < 18446744073709551616) : walIndexOf (render f) = f.idx := by
  unfold walIndexOf render
  rw [← List.cons_append, ← List.append_assoc, stripWal_append, afterLastU_append _ _ (dec_noU _), parseUint_dec _ h]
  rfl

def leIx (a b : RawFile) : Prop := walIndexOf a.1 ≤ walIndexOf b.1
def ltIx (a b : RawFile) : Prop := walIndexOf a.1 < walIndexOf b.1

theorem insertsIx : InsertSort.Inserts (fun x y : RawFile => walIndexOf y.1 < walIndexOf x.1) insertByIndex :=
  ⟨fun _ => rfl, fun _ _ _ => rfl⟩

theorem sortsIx : InsertSort.SortsBy insertByIndex sortByIndex := ⟨rfl, fun _ _ => rfl⟩

theorem ix_inj_of_pairwise {l : List RawFile} (h : l.Pairwise ltIx) :
    ∀ a ∈ l, ∀ b ∈ l, walIndexOf a.1 = walIndexOf b.1 → a = b := by
  induction h with
  | nil => exact List.forall_mem_nil _
  | cons hx _ ih =>
    intro a ha b hb e
    rcases List.mem_cons.mp ha with rfl | ha' <;> rcases List.mem_cons.mp hb with rfl | hb'
    · rfl
    · exact absurd e (Nat.ne_of_lt (hx b hb'))
    · exact absurd e.symm (Nat.ne_of_lt (hx a ha'))
    · exact ih a ha' b hb' e

theorem sortByIndex_eq (l l' : List RawFile) (hp : l.Perm l') (hs : l'.Pairwise ltIx) : sortByIndex l = l' := by
  have hp' := (sortsIx.perm insertsIx l).trans hp
  refine List.Perm.eq_of_pairwise (le := leIx) (fun a b ha hb h1 h2 => ?_)
    (sortsIx.pairwise insertsIx (fun _ _ => Nat.le_of_lt)
      (fun _ _ h => ⟨Nat.le_of_not_lt h, fun _ => Nat.le_trans (Nat.le_of_not_lt h)⟩) l)
    (hs.imp Nat.le_of_lt) hp'
  exact ix_inj_of_pairwise hs a (hp'.mem_iff.mp ha) b hb (Nat.le_antisymm h1 h2)

theorem rawOf_ix_sorted {s : Nat} (st : WState) (hinv : Inv s st) (hi : st.walIdx < 18446744073709551616) :
    (rawOf st.files).Pairwise ltIx :=
  rawOf_pairwise st hinv (fun a b => walIndexOf a < walIndexOf b) fun i j hij hj => by
    have hj' := Nat.lt_of_le_of_lt hj hi
    rw [walIndexOf_render, walIndexOf_render]
    · exact hij
    · exact hj'
    · exact Nat.lt_trans hij hj'

theorem groups_writer_full {s : Nat} (st : WState) (hinv : Inv s st) (hs : st.seg < 18446744073709551616)
    (hb : st.blkNum < 18446744073709551616) (hi : st.walIdx < 18446744073709551616) :
    groups (rawOf st.files) = [{ info := infoOf st, files := rawOf st.files }] := by
  rw [groups, groups_writer st hinv hs hb]
  show [({ info := infoOf st, files := sortByIndex _ } : Group)] = _
  rw [sortByIndex_eq _ _ (perm_readDir _) (rawOf_ix_sorted st hinv hi)]

theorem hasFirstWal_writer {s : Nat} (st : WState) (hinv : Inv s st) :
    hasFirstWal { info := infoOf st, files := rawOf st.files } = true := by
  have h := hinv.names
  cases hf : st.files with
  | nil => rfl
  | cons f xs =>
    rw [hf, List.range_succ_eq_map] at h
    have e : f.1 = ⟨st.shard, st.seg, st.blkNum, 0⟩ := (List.cons.inj h).1
    show (walIndexOf (render f.1) == 0) = true
    rw [e, walIndexOf_render]
    · rfl
    · exact Nat.zero_lt_succ _

theorem recover_writer_full {s : Nat} (st : WState) (hinv : Inv s st) (hs : st.seg < 18446744073709551616)
    (hb : st.blkNum < 18446744073709551616) (hi : st.walIdx < 18446744073709551616) :
    recover (rawOf st.files) = flushIfAny (curKey st) (logged st) := by
  rw [recover, groups_writer_full st hinv hs hb hi, flushIfAny, List.filterMap_cons, hasFirstWal_writer st hinv,
    show groupDps ⟨infoOf st, rawOf st.files⟩ = logged st from flatMap_rawOf _]
  dsimp only
  cases (logged st).isEmpty <;> rfl

theorem recover_exact_full (cap shard : Nat) (h : List Op)
    (hs : (run cap shard h).seg < 18446744073709551616) (hb : (run cap shard h).blkNum < 18446744073709551616)
    (hi : (run cap shard h).walIdx < 18446744073709551616) (k : Key) :
    lookup k (diskAfterRecovery cap shard h) = specBlock cap shard h k := by
  rw [diskAfterRecovery, durableBlocks, dirAfter, recover_writer_full _ (inv_run cap shard h) hs hb hi]
  exact lookup_recovered (R_run cap shard h) k

theorem groups_files_full (Q : RawFile → Prop) (d : RawDir) (hd : ∀ f ∈ d, Q f) : ∀ g ∈ groups d, ∀ x ∈ g.files, Q x := by
  intro g hg x hx
  obtain ⟨g0, hg0, rfl⟩ := List.mem_map.mp hg
  exact groups_files Q d hd g0 hg0 x ((sortsIx.perm insertsIx _).mem_iff.mp hx)

theorem recover_no_dps_full (d : RawDir) (hd : ∀ f ∈ d, fileDps f = []) : recover d = [] :=
  List.filterMap_eq_nil_iff.mpr fun g hg => by
    have h : (groupDps g).isEmpty = true :=
      List.isEmpty_iff.mpr (List.flatMap_eq_nil_iff.mpr (groups_files_full _ d hd g hg))
    show (if (!hasFirstWal g) = true then none else if (groupDps g).isEmpty = true then none else _) = none
    rw [if_pos h, ite_self]

theorem recover_skips (d : RawDir) (h0 : ∀ f ∈ d, walIndexOf f.1 ≠ 0) : recover d = [] :=
  List.filterMap_eq_nil_iff.mpr fun g hg => by
    have hq := groups_files_full (fun f => walIndexOf f.1 ≠ 0) d h0 g hg
    obtain ⟨i, fs⟩ := g
    cases fs with
    | nil => rfl
    | cons f r => exact if_pos (congrArg (!·) (beq_false_of_ne (hq f List.mem_cons_self)))

theorem drop_ne_zero {l : RawDir} (hs : l.Pairwise ltIx) (j : Nat) : ∀ f ∈ l.drop (j + 1), walIndexOf f.1 ≠ 0 := by
  cases l with
  | nil => exact List.forall_mem_nil _
  | cons x xs => exact fun f hf => Nat.ne_zero_of_lt ((List.pairwise_cons.mp hs).1 f (List.mem_of_mem_drop hf))

/-- block files after: the writer dies after `m` steps of a block-rotation pass, the restart recovers completely -/
def diskAfterRotateCrash (cap shard : Nat) (h : List Op) (m : Nat) : Disk :=
  let st := blockRotateCrash m (run cap shard h)
  applyFlushes st.durable (recover (rawOf st.files))

theorem block_rotation_crash_safe (cap shard : Nat) (h : List Op) (m : Nat)
    (hs : (run cap shard h).seg < 18446744073709551616) (hb : (run cap shard h).blkNum < 18446744073709551616)
    (hi : (run cap shard h).walIdx < 18446744073709551616) (k : Key) :
    specBlock cap shard h k <+: lookup k (diskAfterRotateCrash cap shard h m) := by
  have hinv := inv_run cap shard h
  refine rotate_crash_prefix recover (R_run cap shard h) m (recover_writer_full _ hinv hs hb hi) (fun h1 => ?_)
    (recover_no_dps_full _ (rotateBlock_files_empty _)) k
  obtain ⟨j, hj⟩ := Nat.exists_eq_add_one.mpr (Nat.sub_pos_of_lt h1)
  rw [hj, rawOf, List.map_drop]
  exact recover_skips _ (drop_ne_zero (rawOf_ix_sorted _ hinv hi) j)

theorem recoverActions_writer_full {s : Nat} (st : WState) (hinv : Inv s st) (hs : st.seg < 18446744073709551616)
    (hb : st.blkNum < 18446744073709551616) (hi : st.walIdx < 18446744073709551616) :
    recoverActions (rawOf st.files) =
      (if (logged st).isEmpty then [] else [RecAction.flush (curKey st) (logged st)])
        ++ (rawOf st.files).map (fun f => RecAction.delete f.1) := by
  rw [recoverActions, groups_writer_full st hinv hs hb hi, List.flatMap_singleton, hasFirstWal_writer st hinv,
    show groupDps ⟨infoOf st, rawOf st.files⟩ = logged st from flatMap_rawOf _]
  rfl

theorem recover_after_deletes {d : RawDir} (hs : d.Pairwise ltIx) (j : Nat) (s : RawDir × Disk) (hd : s.1 = d) :
    recover (((d.take (j + 1)).map (fun f => RecAction.delete f.1)).foldl applyRecAction s).1 = [] :=
  recover_skips _ fun f hf => by
    obtain ⟨hm, hn⟩ := (foldl_deletes _ s).2 f hf
    rw [hd] at hm
    cases d with
    | nil => exact absurd hm List.not_mem_nil
    | cons x xs =>
      exact drop_ne_zero hs 0 f ((List.mem_cons.mp hm).resolve_left fun e => hn x List.mem_cons_self (e ▸ rfl))

theorem crashed_recovery_eq {s : Nat} (st : WState) (hinv : Inv s st) (hs : st.seg < 18446744073709551616)
    (hb : st.blkNum < 18446744073709551616) (hi : st.walIdx < 18446744073709551616) (m : Nat) (disk : Disk) :
    diskAfterCrashedRecovery m (rawOf st.files) disk = applyFlushes disk (recover (rawOf st.files)) := by
  have hrec := recover_writer_full st hinv hs hb hi
  have hsort := rawOf_ix_sorted st hinv hi
  cases m with
  | zero => rfl
  | succ m =>
    rw [diskAfterCrashedRecovery, recoverCrashed, recoverActions_writer_full st hinv hs hb hi]
    by_cases hx : (logged st).isEmpty = true
    · -- no datapoint in the WAL files: nothing is flushed, before or after the deletions
      have hnd : ∀ f ∈ rawOf st.files, fileDps f = [] :=
        List.flatMap_eq_nil_iff.mp ((flatMap_rawOf _).trans (List.isEmpty_iff.mp hx))
      rw [if_pos hx, List.nil_append, ← List.map_take, (foldl_deletes _ _).1, recover_no_dps_full _ hnd,
        recover_no_dps_full _ fun f hf => hnd f ((foldl_deletes _ _).2 f hf).1]
    · rw [if_neg hx, List.singleton_append, List.take_succ_cons, List.foldl_cons, ← List.map_take, (foldl_deletes _ _).1]
      cases m with
      | zero =>
        -- the flush is done, every file is there: the same flush once more
        show applyFlushes (flushTo _ _ disk) (recover (rawOf st.files)) = _
        rw [hrec]
        exact flushIfAny_over _ _ _ _ hx
      | succ j =>
        -- file 0 is gone: the second restart only deletes
        rw [recover_after_deletes hsort j _ rfl, hrec, flushIfAny, if_neg hx]
        rfl

theorem recovery_crash_safe (cap shard : Nat) (h : List Op) (m : Nat)
    (hs : (run cap shard h).seg < 18446744073709551616) (hb : (run cap shard h).blkNum < 18446744073709551616)
    (hi : (run cap shard h).walIdx < 18446744073709551616) (k : Key) :
    lookup k (diskAfterCrashedRecovery m (dirAfter cap shard h) (durableBlocks cap shard h)) = specBlock cap shard h k :=
  (congrArg (lookup k) (crashed_recovery_eq _ (inv_run cap shard h) hs hb hi m _)).trans
    (recover_exact_full cap shard h hs hb hi k)

/-- the counterpart of `h11_dir_order` after the repair c10-1 -/
theorem h11_recovered_fixed :
    (lookup (dec 0, 0, 0) (diskAfterRecovery 100 0 h11)).map (·.ts) = [100, 101, 102, 103, 104, 105, 106, 107, 108, 109, 110, 111] := by
  rw [recover_exact_full 100 0 h11 h11_bounds.1 h11_bounds.2.1 h11_bounds.2.2]
  decide +kernel

end SigModel.Lemmas.C10R
