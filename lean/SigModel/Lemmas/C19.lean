/-
Lemmas for Props/C19, first part (Model/Path.lean): `splitSlash` / `joinSegs` are the library's `splitOn` / `intercalate`,
the Clean loop ends in a `Normal` path, and a `Normal` path printed and cleaned again is itself (`cleanN_render`).
-/
import SigModel.Model.Path
import SigModel.Lemmas.Split
namespace SigModel.Lemmas.C19
open SigModel.Path

/-- Decides a closed goal by evaluation in the kernel.  String literals are first rewritten to character lists with
    `String.toList_ofList`: the kernel reads a literal as `String.ofList [..]` at no cost, whereas evaluating
    `String.toList` on it decodes UTF-8 bytes and costs several times what the path functions themselves cost.
    Literals in the body of a definition are out of the rewrite's reach: where they are many, `unfold` it first. -/
macro "decide_chars" : tactic => `(tactic| ((repeat rw [String.toList_ofList]); decide +kernel))

theorem splitSlash_eq (s : Str) : splitSlash s = s.splitOn '/' :=
  Split.eq_splitOn rfl (fun _ _ _ h => by simp [splitSlash, h]) (fun _ _ _ _ hc h => by simp [splitSlash, hc, h]) s

theorem joinSegs_eq (l : List Seg) : joinSegs l = ['/'].intercalate l :=
  Split.eq_intercalate rfl (fun _ => rfl) (fun _ _ _ => rfl) l

theorem splitSlash_joinSegs (l : List Seg) (hne : l ≠ []) (h : ∀ s ∈ l, '/' ∉ s) : splitSlash (joinSegs l) = l := by
  rw [splitSlash_eq, joinSegs_eq, List.splitOn_intercalate _ h hne]

theorem splitSlash_append_slash (a t : Str) : splitSlash (a ++ '/' :: t) = splitSlash a ++ splitSlash t := by
  simp only [splitSlash_eq, List.splitOn_append_cons_self]

theorem dd_not_skip : ¬(dd = [] ∨ dd = dot) := by decide

theorem step_skip {r : Bool} {st : List Seg} {s : Seg} (h : s = [] ∨ s = dot) : step r st s = st :=
  if_pos h

theorem step_push {r : Bool} {st : List Seg} {s : Seg} (h1 : ¬(s = [] ∨ s = dot)) (h2 : s ≠ dd) :
    step r st s = s :: st :=
  (if_neg h1).trans (if_neg h2)

theorem not_skip {s : Seg} (h : Plain s) : ¬(s = [] ∨ s = dot) := fun e => e.elim h.1 h.2.1

theorem step_plain {r : Bool} {st : List Seg} {s : Seg} (h : Plain s) : step r st s = s :: st :=
  step_push (not_skip h) h.2.2.1

theorem step_dd_cons {r : Bool} {t : Seg} {st : List Seg} (h : t ≠ dd) : step r (t :: st) dd = st :=
  (if_neg dd_not_skip).trans ((if_pos rfl).trans (if_neg h))

theorem step_dd_dds (k : Nat) : step false (List.replicate k dd) dd = List.replicate (k + 1) dd :=
  (if_neg dd_not_skip).trans <| (if_pos rfl).trans <| by
    cases k with
    | zero => exact if_neg Bool.false_ne_true
    | succ k => exact if_pos rfl

theorem seg_cases (s : Seg) (hs : '/' ∉ s) : (s = [] ∨ s = dot) ∨ s = dd ∨ Plain s :=
  Decidable.byCases .inl fun h1 => .inr <| Decidable.byCases .inl fun h2 =>
    .inr ⟨fun e => h1 (.inl e), fun e => h1 (.inr e), h2, hs⟩

/-- the form of a `filepath.Clean` result -/
def Normal (p : NPath) : Prop :=
  ∃ rest k, p.segs = List.replicate k dd ++ rest ∧ (p.rooted = true → k = 0) ∧ ∀ s ∈ rest, Plain s

theorem foldl_step_normal {r : Bool} (l : List Seg) (hl : ∀ s ∈ l, '/' ∉ s) : ∀ (rest : List Seg) (k : Nat),
    (r = true → k = 0) → (∀ s ∈ rest, Plain s) →
    Normal ⟨r, (l.foldl (step r) (rest ++ List.replicate k dd)).reverse⟩ := by
  induction l with
  | nil =>
    intro rest k hk hp
    refine ⟨rest.reverse, k, ?_, hk, fun x hx => hp x (List.mem_reverse.mp hx)⟩
    rw [List.foldl_nil, List.reverse_append, List.reverse_replicate]
  | cons s t ih =>
    intro rest k hk hp
    have ih := ih (List.forall_mem_cons.mp hl).2
    rw [List.foldl_cons]
    rcases seg_cases s (hl s List.mem_cons_self) with h1 | rfl | h1
    · rw [step_skip h1]; exact ih rest k hk hp
    · cases rest with
      | cons u rest' =>
        rw [List.cons_append, step_dd_cons (hp u List.mem_cons_self).2.2.1]
        exact ih rest' k hk (List.forall_mem_cons.mp hp).2
      | nil =>
        cases r with
        -- `step true [] dd` evaluates to `[]`
        | true => rw [hk rfl]; exact ih [] 0 (fun _ => rfl) hp
        | false => rw [List.nil_append, step_dd_dds]; exact ih [] (k + 1) Bool.noConfusion hp
    · rw [step_plain h1]; exact ih (s :: rest) k hk (List.forall_mem_cons.mpr ⟨h1, hp⟩)

theorem cleanN_normal (s : Str) : Normal (cleanN s) :=
  foldl_step_normal (splitSlash s) (fun _ hx => Split.not_mem_of_mem_splitOn (splitSlash_eq s ▸ hx)) [] 0 (fun _ => rfl)
    (List.forall_mem_nil _)

theorem foldl_plain {r : Bool} (l : List Seg) : ∀ st : List Seg, (∀ s ∈ l, Plain s) → l.foldl (step r) st = l.reverse ++ st := by
  induction l with
  | nil => exact fun _ _ => rfl
  | cons s t ih =>
    intro st h
    rw [List.foldl_cons, step_plain (h s List.mem_cons_self), ih _ (fun x hx => h x (List.mem_cons_of_mem s hx)),
      List.reverse_cons, List.append_assoc, List.singleton_append]

theorem foldl_dds (k : Nat) : ∀ j : Nat, (List.replicate k dd).foldl (step false) (List.replicate j dd) = List.replicate (j + k) dd := by
  induction k with
  | zero => exact fun _ => rfl
  | succ k ih =>
    intro j
    rw [List.replicate_succ, List.foldl_cons, step_dd_dds, ih (j + 1), Nat.add_right_comm, Nat.add_assoc]

theorem normSegs_of_normal {p : NPath} (h : Normal p) : normSegs p.rooted p.segs = p.segs := by
  obtain ⟨rest, k, hs, hk, hp⟩ := h
  rw [hs, normSegs, List.foldl_append]
  cases hr : p.rooted with
  | true => rw [hk hr]; simp [foldl_plain rest [] hp]
  | false =>
    have hd := foldl_dds k 0
    rw [List.replicate_zero, Nat.zero_add] at hd
    rw [hd, foldl_plain rest _ hp]; simp

theorem normal_segs_noSlash {p : NPath} (h : Normal p) : ∀ s ∈ p.segs, s ≠ [] ∧ '/' ∉ s := by
  obtain ⟨rest, k, hs, _, hp⟩ := h
  intro s hm
  rw [hs, List.mem_append, List.mem_replicate] at hm
  rcases hm with ⟨_, rfl⟩ | hm
  · decide
  · exact ⟨(hp s hm).1, (hp s hm).2.2.2⟩

theorem cleanN_slash (x : Str) : cleanN ('/' :: x) = ⟨true, normSegs true (splitSlash x)⟩ := by
  -- the leading '/' opens an empty first segment, which the loop skips
  rfl

theorem isRooted_joinSegs_cons {s : Seg} {r : List Seg} (h1 : s ≠ []) (h2 : '/' ∉ s) : isRooted (joinSegs (s :: r)) = false := by
  obtain ⟨c, cs, rfl⟩ := List.exists_cons_of_ne_nil h1
  -- `isRooted.eq_2`: the catch-all branch, for a string that is not of the form `'/' :: t`
  have hc (x : Str) : isRooted (c :: x) = false :=
    isRooted.eq_2 _ fun t ht => h2 ((List.cons.inj ht).1 ▸ List.mem_cons_self)
  cases r <;> exact hc _

theorem cleanN_render {p : NPath} (h : Normal p) : cleanN (render p) = p := by
  have hns := normal_segs_noSlash h
  have hn := normSegs_of_normal h
  obtain ⟨rooted, segs⟩ := p
  cases segs with
  | nil => cases rooted <;> rfl
  | cons s r =>
    have hsp : splitSlash (joinSegs (s :: r)) = s :: r :=
      splitSlash_joinSegs _ (List.cons_ne_nil s r) (fun x hx => (hns x hx).2)
    have hs := hns s List.mem_cons_self
    cases rooted with
    | true => rw [render, if_pos rfl, cleanN_slash, hsp, hn]
    | false =>
      rw [render, if_neg Bool.false_ne_true, if_neg (List.cons_ne_nil s r), cleanN,
        isRooted_joinSegs_cons hs.1 hs.2, hsp, hn]

end SigModel.Lemmas.C19
