/-
At most once.  With the request list de-duplicated by segment key (the code as it is) a finished query's result never
has duplicates.  Without it (the code before the repair, `Cfg.of false`) it has none when the keys of its two
snapshots are disjoint (for count queries: exactly then); the snapshots are disjoint when no segment was in its
hand-over window at the first snapshot and no rotation step ran between the two snapshots (`quiet_disj`).
-/
import SigModel.Lemmas.C11b
namespace SigModel.Lemmas.C11
open SigModel.Conc

variable {d : Bool}

/-- `Props.C11.SnapshotsDisjoint`, which the property file states for itself, has this body -/
def Disj (q : Query) : Prop := ∀ r ∈ q.snapU, ∀ r' ∈ q.snapR, r.1 ≠ r'.1

theorem nodup_of_disj {q : Query} {total rot : Seg → Nat} (hq : QInv false q total rot)
    (hf : q.finished = true) (hd : Disj q) : q.result.Nodup := by
  cases hk : q.kind with
  | rrc => exact (hq.finished hf).resRrc hk
  | stats =>
    rw [(hq.finished hf).resStats hk]
    refine nodup_flatMap_blocksOf _ ((List.map_append ..).symm ▸ List.nodup_append.mpr ⟨hq.keysU, hq.keysR, ?_⟩)
    intro g hg g' hg' e
    obtain ⟨r, hr, rfl⟩ := List.mem_map.mp hg
    obtain ⟨r', hr', rfl⟩ := List.mem_map.mp hg'
    exact hd r hr r' hr' e

theorem disj_of_nodup {q : Query} {total rot : Seg → Nat} (hq : QInv false q total rot)
    (hf : q.finished = true) (hk : q.kind = .stats) (hn : q.result.Nodup) : Disj q := by
  rw [(hq.finished hf).resStats hk] at hn
  intro r hr r' hr' e
  -- block 0 of a shared key is counted once for each snapshot
  refine (List.nodup_append.mp ((List.flatMap_append ..).symm ▸ hn)).2.2 (r.1, 0) ?_ (r.1, 0) ?_ rfl
  · exact List.mem_flatMap.mpr ⟨r, hr, (mem_blocksOf ..).mpr ⟨rfl, Nat.pos_of_ne_zero (hq.posU r hr)⟩⟩
  · exact List.mem_flatMap.mpr ⟨r', hr', (mem_blocksOf ..).mpr ⟨e, Nat.pos_of_ne_zero (hq.posR r' hr')⟩⟩

theorem nodup_of_dedup {q : Query} {total rot : Seg → Nat} (hq : QInv true q total rot)
    (hf : q.finished = true) : q.result.Nodup := by
  cases hk : q.kind with
  | rrc => exact (hq.finished hf).resRrc hk
  | stats =>
    rw [(hq.finished hf).resStats hk]
    exact nodup_flatMap_blocksOf _ (nodup_dedupKey_keys _)

structure Keeps (q q' : Query) : Prop where
  started : q'.started = true
  pre : q'.pre = q.pre
  frozen : q.todo = [] → q'.todo = [] ∧ q'.snapU = q.snapU ∧ q'.snapR = q.snapR

theorem started_frame (s : St) (l : Label) (j : Nat) (h1 : (s.query j).started = true) :
    Keeps (s.query j) ((step (Cfg.of d) s l).query j) := by
  by_cases h : ∃ k, l = .q j k
  · obtain ⟨k, rfl⟩ := h
    dsimp only [step]
    cases h3 : (s.query j).finished
    case true =>
      rw [qStep_finished h3]
      exact ⟨h1, rfl, fun h2 => ⟨h2, rfl, rfl⟩⟩
    cases h2 : (s.query j).todo with
    | nil =>
      rw [qStep_read h3 h1 h2, query_upd]
      exact ⟨h1, rfl, fun _ => ⟨h2, rfl, rfl⟩⟩
    | cons a r =>
      rw [qStep_snap h3 h1 h2, query_upd]
      have f : (s.query j).todo ≠ [] := fun e => List.cons_ne_nil a r (h2.symm.trans e)
      cases a
      · exact ⟨h1, rfl, fun e => absurd e f⟩
      · exact ⟨h1, rfl, fun e => absurd e f⟩
  · rw [query_frame s l j fun k hk => h ⟨k, hk⟩]
    exact ⟨h1, rfl, fun h2 => ⟨h2, rfl, rfl⟩⟩

theorem frozen_run (ls : List Label) (s : St) (j : Nat) (h1 : (s.query j).started = true)
    (h2 : (s.query j).todo = []) (hd : Disj (s.query j)) : Disj ((run (Cfg.of d) s ls).query j) := by
  induction ls generalizing s with
  | nil => exact hd
  | cons l ls ih =>
    obtain ⟨hs, _, hfz⟩ := started_frame (d := d) s l j h1
    obtain ⟨ht, eU, eR⟩ := hfz h2
    refine ih _ hs ht ?_
    unfold Disj
    rw [eU, eR]
    exact hd

theorem quiet_run (m : List Label) (s : St) (j : Nat)
    (hm : ∀ l ∈ m, (∀ i, l ≠ .rot i) ∧ (∀ b, l ≠ .q j b)) :
    (run (Cfg.of d) s m).rot = s.rot ∧ (run (Cfg.of d) s m).query j = s.query j := by
  induction m generalizing s with
  | nil => exact ⟨rfl, rfl⟩
  | cons l m ih =>
    obtain ⟨hr, hq⟩ := hm l List.mem_cons_self
    obtain ⟨r1, r2⟩ := ih (step (Cfg.of d) s l) fun l' hl' => hm l' (List.mem_cons_of_mem _ hl')
    rw [run_cons, r1, r2, query_frame s l j hq]
    refine ⟨?_, rfl⟩
    -- only a rotation step writes the rotated map
    cases l with
    | rot i => exact absurd rfl (hr i)
    | q j' k =>
      obtain ⟨q, hq⟩ := qStep_frame (d := d) s j' k
      dsimp only [step]
      rw [hq]
    | flush i =>
      dsimp only [step]
      cases h0 : (s.store i).todo
      · rw [flush_idle h0]
      · rw [flush_busy h0]

theorem quiet_disj (s0 : St) (m rest : List Label) (j : Nat) (k k' : Bool)
    (hnf : (s0.query j).finished = false) (hns : (s0.query j).started = false)
    (hw : ∀ g ∈ s0.segs, s0.unrot g ≠ 0 → s0.rot g = 0)
    (hm : ∀ l ∈ m, (∀ i, l ≠ .rot i) ∧ (∀ b, l ≠ .q j b)) :
    Disj ((run (Cfg.of d) (step (Cfg.of d) (run (Cfg.of d) (step (Cfg.of d) s0 (.q j k)) m) (.q j k')) rest).query j) := by
  obtain ⟨hrot, hqj⟩ := quiet_run (d := d) m (step (Cfg.of d) s0 (.q j k)) j hm
  generalize run (Cfg.of d) (step (Cfg.of d) s0 (.q j k)) m = s2 at hrot hqj ⊢
  have e1 : step (Cfg.of d) s0 (.q j k) = _ := qStep_first hnf hns
  rw [e1] at hrot
  rw [e1, query_upd] at hqj
  have e2 : step (Cfg.of d) s2 (.q j k') = _ :=
    qStep_snap (a := .snapR) (rest := []) ((congrArg Query.finished hqj).trans hnf) (congrArg Query.started hqj)
      (congrArg Query.todo hqj)
  refine frozen_run rest _ j ?_ ?_ ?_
  · rw [e2, query_upd, hqj]
    rfl
  · rw [e2, query_upd]
    rfl
  · rw [e2, query_upd, hqj]
    intro r hr r' hr' e
    have h := (mem_snapOf s0 s0.unrot r.1 r.2).mp hr
    have h' := (mem_snapOf s2 s2.rot r'.1 r'.2).mp hr'
    rw [hrot, ← e] at h'
    exact h'.2.1 (hw r.1 h.1 h.2.1)

end SigModel.Lemmas.C11
