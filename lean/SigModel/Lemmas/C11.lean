/-
The state invariant of the interleaving machine with the orders extracted from the source (`Cfg.of d`).  A flush or
rotation step of stream `i` rewrites the store of `i` and the maps at keys of `i` only.  The clauses about one stream
form a structure of their own (`Stream`: the keys below the open suffix, the open key, the keys above it); a step
restates the clauses it touches and `inv_local` frames the other streams.  What the invariant says about one key is
read off through `Inv.key`.
-/
import SigModel.Model.Conc
namespace SigModel.Lemmas.C11
open SigModel.Conc

variable {d : Bool}

/-- the rotation in progress is past `addMeta` -/
def added (st : Store) : Prop := st.todo = [.removeUnrot, .reset] ∨ st.todo = [.reset]
/-- … and past `removeUnrot` -/
def removed (st : Store) : Prop := st.todo = [.reset]
instance (st : Store) : Decidable (added st) := by unfold added; infer_instance
instance (st : Store) : Decidable (removed st) := by unfold removed; infer_instance

structure Inv (s : St) : Prop where
  todoOk : ∀ i, (s.store i).todo = [] ∨ (s.store i).todo = [.addMeta, .removeUnrot, .reset] ∨
                (s.store i).todo = [.removeUnrot, .reset] ∨ (s.store i).todo = [.reset]
  cap : ∀ i, (s.store i).todo ≠ [] →
        (s.store i).rotSeg = ⟨i, (s.store i).seq⟩ ∧ (s.store i).rotN = (s.store i).nblocks ∧ (s.store i).nblocks ≠ 0
  tot_gt : ∀ i k, (s.store i).seq < k → s.total ⟨i, k⟩ = 0
  tot_eq : ∀ i, s.total ⟨i, (s.store i).seq⟩ = (s.store i).nblocks
  tot_lt : ∀ i k, k < (s.store i).seq → s.total ⟨i, k⟩ ≠ 0
  unrot_eq : ∀ i k, s.unrot ⟨i, k⟩ =
        if k = (s.store i).seq ∧ ¬ removed (s.store i) then (s.store i).nblocks else 0
  rot_eq : ∀ i k, s.rot ⟨i, k⟩ =
        if k < (s.store i).seq then s.total ⟨i, k⟩
        else if k = (s.store i).seq ∧ added (s.store i) then (s.store i).nblocks else 0
  segs_mem : ∀ g, g ∈ s.segs ↔ s.total g ≠ 0
  segs_nodup : s.segs.Nodup

theorem inv_init : Inv init where
  todoOk _ := .inl rfl
  cap _ h := absurd rfl h
  tot_gt _ _ _ := rfl
  tot_eq _ := rfl
  tot_lt _ k hk := absurd hk (Nat.not_lt_zero k)
  unrot_eq _ _ := (ite_self 0).symm
  rot_eq _ k := ((if_neg (Nat.not_lt_zero k)).trans (ite_self 0)).symm
  segs_mem _ := ⟨fun h => absurd h List.not_mem_nil, fun h => absurd rfl h⟩
  segs_nodup := List.nodup_nil

theorem upd_self {α : Type} (f : Nat → α) (i : Nat) (v : α) : upd f i v i = v := if_pos rfl

theorem upd_ne {α : Type} (f : Nat → α) {i j : Nat} (v : α) (h : j ≠ i) : upd f i v j = f j := if_neg h

theorem upd_upd {α : Type} (f : Nat → α) (i : Nat) (v w : α) : upd (upd f i v) i w = upd f i w := by
  funext j; unfold upd; split <;> rfl

theorem upd_eq_self {α : Type} (f : Nat → α) (i : Nat) : upd f i (f i) = f := by
  funext j; unfold upd; split
  · next e => rw [e]
  · rfl

theorem updS_self (f : Seg → Nat) (g : Seg) (v : Nat) : updS f g v g = v := if_pos rfl

theorem updS_seq_ne (f : Seg → Nat) (i v : Nat) {q k : Nat} (h : k ≠ q) : updS f ⟨i, q⟩ v ⟨i, k⟩ = f ⟨i, k⟩ :=
  if_neg fun e => h (congrArg Seg.seq e)

theorem updS_stream_ne (f : Seg → Nat) (i q v : Nat) {j : Nat} (k : Nat) (h : j ≠ i) :
    updS f ⟨i, q⟩ v ⟨j, k⟩ = f ⟨j, k⟩ :=
  if_neg fun e => h (congrArg Seg.stream e)

theorem flush_idle {s : St} {i : Nat} (h0 : (s.store i).todo = []) :
    flush s i =
      { s with unrot := updS s.unrot ⟨i, (s.store i).seq⟩ (s.unrot ⟨i, (s.store i).seq⟩ + 1),
               total := updS s.total ⟨i, (s.store i).seq⟩ (s.total ⟨i, (s.store i).seq⟩ + 1),
               segs := if s.total ⟨i, (s.store i).seq⟩ = 0 then s.segs ++ [⟨i, (s.store i).seq⟩] else s.segs,
               store := upd s.store i { s.store i with nblocks := (s.store i).nblocks + 1, todo := [] } } := by
  simp only [flush, h0]

theorem flush_busy {s : St} {i : Nat} {a : RotStep} {rest : List RotStep} (h0 : (s.store i).todo = a :: rest) :
    flush s i = s := by
  simp only [flush, h0]

theorem rotStep_noBlocks {cfg : Cfg} {s : St} {i : Nat} (h0 : (s.store i).todo = [])
    (hn : (s.store i).nblocks = 0) : rotStep cfg s i = s := by
  simp only [rotStep, h0, hn, if_true]

theorem rotStep_start {s : St} {i : Nat} (h0 : (s.store i).todo = []) (hn : (s.store i).nblocks ≠ 0) :
    rotStep (Cfg.of d) s i =
      { s with segmetaJson := s.segmetaJson ++ [⟨i, (s.store i).seq⟩],
               store := upd s.store i { s.store i with todo := [.addMeta, .removeUnrot, .reset],
                                                       rotSeg := ⟨i, (s.store i).seq⟩,
                                                       rotN := (s.store i).nblocks } } := by
  simp only [rotStep, h0, hn, if_false, Cfg.of, applyRot, upd_self]

theorem rotStep_next {cfg : Cfg} {s : St} {i : Nat} {a : RotStep} {rest : List RotStep}
    (h0 : (s.store i).todo = a :: rest) :
    rotStep cfg s i = applyRot { s with store := upd s.store i { s.store i with todo := rest } } i a := by
  simp only [rotStep, h0]

theorem rotStep_addMeta {cfg : Cfg} {s : St} {i : Nat} {rest : List RotStep}
    (h0 : (s.store i).todo = .addMeta :: rest) :
    rotStep cfg s i = { s with rot := updS s.rot (s.store i).rotSeg (s.store i).rotN,
                               store := upd s.store i { s.store i with todo := rest } } := by
  simp only [rotStep, h0, applyRot, upd_self]

theorem rotStep_removeUnrot {cfg : Cfg} {s : St} {i : Nat} {rest : List RotStep}
    (h0 : (s.store i).todo = .removeUnrot :: rest) :
    rotStep cfg s i = { s with unrot := updS s.unrot (s.store i).rotSeg 0,
                               store := upd s.store i { s.store i with todo := rest } } := by
  simp only [rotStep, h0, applyRot, upd_self]

theorem rotStep_reset {cfg : Cfg} {s : St} {i : Nat} {rest : List RotStep}
    (h0 : (s.store i).todo = .reset :: rest) :
    rotStep cfg s i =
      { s with store := upd s.store i { s.store i with todo := rest, seq := (s.store i).seq + 1, nblocks := 0 } } := by
  simp only [rotStep, h0, applyRot, upd_self, upd_upd]

-- the tests of `qStep` are decided by `if_pos` / `if_neg`, the rest is computation: unfolding `qStep` with
-- `simp only` is slow to check on these terms
theorem qStep_finished {cfg : Cfg} {s : St} {j : Nat} {k : Bool} (h1 : (s.query j).finished = true) :
    qStep cfg s j k = s :=
  if_pos h1

theorem qStep_first {s : St} {j : Nat} {k : Bool} (h1 : (s.query j).finished = false)
    (h2 : (s.query j).started = false) :
    qStep (Cfg.of d) s j k =
      { s with query := upd s.query j { s.query j with started := true, kind := if k then .stats else .rrc,
                                                       pre := s.total, todo := [.snapR],
                                                       snapU := snapOf s s.unrot } } :=
  (if_neg (ne_true_of_eq_false h1)).trans (if_neg (ne_true_of_eq_false h2))

theorem qStep_snap {cfg : Cfg} {s : St} {j : Nat} {k : Bool} {a : QStep} {rest : List QStep}
    (h1 : (s.query j).finished = false) (h2 : (s.query j).started = true) (h3 : (s.query j).todo = a :: rest) :
    qStep cfg s j k = { s with query := upd s.query j (applySnap s { s.query j with todo := rest } a) } :=
  (if_neg (ne_true_of_eq_false h1)).trans ((if_pos h2).trans (by rw [h3]))

theorem qStep_read {cfg : Cfg} {s : St} {j : Nat} {k : Bool}
    (h1 : (s.query j).finished = false) (h2 : (s.query j).started = true) (h3 : (s.query j).todo = []) :
    qStep cfg s j k =
      { s with query := upd s.query j { s.query j with finished := true,
                                                       result := readResult cfg s (s.query j) } } :=
  (if_neg (ne_true_of_eq_false h1)).trans ((if_pos h2).trans (by simp only [h3]))

theorem query_upd (s : St) (j : Nat) (q : Query) : { s with query := upd s.query j q }.query j = q :=
  upd_self _ _ _

theorem qStep_frame (s : St) (j : Nat) (k : Bool) :
    ∃ q, qStep (Cfg.of d) s j k = { s with query := upd s.query j q } := by
  cases h1 : (s.query j).finished
  case true => exact ⟨s.query j, by rw [qStep_finished h1, upd_eq_self]⟩
  cases h2 : (s.query j).started
  case false => exact ⟨_, qStep_first h1 h2⟩
  cases h3 : (s.query j).todo
  case nil => exact ⟨_, qStep_read h1 h2 h3⟩
  case cons => exact ⟨_, qStep_snap h1 h2 h3⟩

theorem query_frame (s : St) (l : Label) (j : Nat) (h : ∀ k, l ≠ .q j k) :
    (step (Cfg.of d) s l).query j = s.query j := by
  cases l with
  | q j' k =>
    obtain ⟨q, hq⟩ := qStep_frame (d := d) s j' k
    rw [step, hq]
    exact upd_ne _ _ fun e => h k (e ▸ rfl)
  | flush i =>
    rw [step]
    cases h0 : (s.store i).todo
    · rw [flush_idle h0]
    · rw [flush_busy h0]
  | rot i =>
    rw [step]
    cases h0 : (s.store i).todo with
    | cons a r => rw [rotStep_next h0]; cases a <;> rfl
    | nil =>
      by_cases hn : (s.store i).nblocks = 0
      · rw [rotStep_noBlocks h0 hn]
      · rw [rotStep_start h0 hn]

structure Stream (i seq nblocks : Nat) (todo : List RotStep) (rotSeg : Seg) (rotN : Nat) (T U R : Seg → Nat) :
    Prop where
  todoOk : todo = [] ∨ todo = [.addMeta, .removeUnrot, .reset] ∨ todo = [.removeUnrot, .reset] ∨ todo = [.reset]
  cap : todo ≠ [] → rotSeg = ⟨i, seq⟩ ∧ rotN = nblocks ∧ nblocks ≠ 0
  tot_gt : ∀ k, seq < k → T ⟨i, k⟩ = 0
  tot_eq : T ⟨i, seq⟩ = nblocks
  tot_lt : ∀ k, k < seq → T ⟨i, k⟩ ≠ 0
  unrot_ne : ∀ k, k ≠ seq → U ⟨i, k⟩ = 0
  unrot_open : U ⟨i, seq⟩ = if todo = [.reset] then 0 else nblocks
  rot_lt : ∀ k, k < seq → R ⟨i, k⟩ = T ⟨i, k⟩
  rot_open : R ⟨i, seq⟩ = if todo = [.removeUnrot, .reset] ∨ todo = [.reset] then nblocks else 0
  rot_gt : ∀ k, seq < k → R ⟨i, k⟩ = 0

/-- `Inv.unrot_eq` at the open suffix `q` is `Stream.unrot_open` (`p` for `removed`); likewise `rot_eq_open` (`p`
for `added`) -/
theorem unrot_eq_open {q n : Nat} {p : Prop} [Decidable p] :
    (if q = q ∧ ¬ p then n else 0) = if p then 0 else n := by
  simp only [eq_self, true_and, ite_not]

theorem rot_eq_open {q t n : Nat} {p : Prop} [Decidable p] :
    (if q < q then t else if q = q ∧ p then n else 0) = if p then n else 0 := by
  simp only [Nat.lt_irrefl, if_false, eq_self, true_and]

theorem Inv.stream {s : St} (h : Inv s) (i : Nat) :
    Stream i (s.store i).seq (s.store i).nblocks (s.store i).todo (s.store i).rotSeg (s.store i).rotN
      s.total s.unrot s.rot where
  todoOk := h.todoOk i
  cap := h.cap i
  tot_gt := h.tot_gt i
  tot_eq := h.tot_eq i
  tot_lt := h.tot_lt i
  unrot_ne k hk := by rw [h.unrot_eq, if_neg fun c => hk c.1]
  unrot_open := (h.unrot_eq i _).trans unrot_eq_open
  rot_lt k hk := by rw [h.rot_eq, if_pos hk]
  rot_open := (h.rot_eq i _).trans rot_eq_open
  rot_gt k hk := by rw [h.rot_eq, if_neg (Nat.lt_asymm hk), if_neg fun c => Nat.ne_of_gt hk c.1]

theorem inv_local {s : St} (h : Inv s) (i : Nat) {U R T : Seg → Nat} {S J : List Seg}
    {seq nblocks rotN : Nat} {todo : List RotStep} {rotSeg : Seg}
    (hi : Stream i seq nblocks todo rotSeg rotN T U R)
    (hT : ∀ j k, j ≠ i → T ⟨j, k⟩ = s.total ⟨j, k⟩)
    (hU : ∀ j k, j ≠ i → U ⟨j, k⟩ = s.unrot ⟨j, k⟩)
    (hR : ∀ j k, j ≠ i → R ⟨j, k⟩ = s.rot ⟨j, k⟩)
    (segs_mem : ∀ g, g ∈ S ↔ T g ≠ 0) (segs_nodup : S.Nodup) :
    Inv { s with unrot := U, rot := R, segs := S, total := T, segmetaJson := J,
                 store := upd s.store i ⟨seq, nblocks, todo, rotSeg, rotN⟩ } := by
  -- each clause about the stores twice: for stream `i` from `hi`, for another stream from `h`
  refine ⟨?_, ?_, ?_, ?_, ?_, ?_, ?_, segs_mem, segs_nodup⟩ <;> dsimp only <;> intro j <;> by_cases hj : j = i
  · rw [hj, upd_self]; exact hi.todoOk
  · rw [upd_ne _ _ hj]; exact h.todoOk j
  · rw [hj, upd_self]; exact hi.cap
  · rw [upd_ne _ _ hj]; exact h.cap j
  · rw [hj, upd_self]; exact hi.tot_gt
  · intro k; rw [upd_ne _ _ hj, hT j k hj]; exact h.tot_gt j k
  · rw [hj, upd_self]; exact hi.tot_eq
  · rw [upd_ne _ _ hj, hT j _ hj]; exact h.tot_eq j
  · rw [hj, upd_self]; exact hi.tot_lt
  · intro k; rw [upd_ne _ _ hj, hT j k hj]; exact h.tot_lt j k
  · intro k
    simp only [hj, upd_self]
    by_cases hk : k = seq
    · rw [hk, hi.unrot_open]; exact unrot_eq_open.symm
    · rw [if_neg fun c => hk c.1]; exact hi.unrot_ne k hk
  · intro k; simp only [upd_ne _ _ hj, hU j k hj]; exact h.unrot_eq j k
  · intro k
    simp only [hj, upd_self]
    rcases Nat.lt_trichotomy k seq with hk | hk | hk
    · rw [if_pos hk]; exact hi.rot_lt k hk
    · rw [hk, hi.rot_open]; exact rot_eq_open.symm
    · rw [if_neg (Nat.lt_asymm hk), if_neg fun c => Nat.ne_of_gt hk c.1]; exact hi.rot_gt k hk
  · intro k; simp only [upd_ne _ _ hj, hR j k hj, hT j k hj]; exact h.rot_eq j k

theorem inv_flush (s : St) (i : Nat) (h : Inv s) : Inv (flush s i) := by
  cases h0 : (s.store i).todo
  case cons => rw [flush_busy h0]; exact h
  have hi := h.stream i
  rw [h0] at hi
  have hm := h.segs_mem ⟨i, (s.store i).seq⟩
  rw [flush_idle h0]
  refine inv_local h i
    { hi with
      cap := fun hne => absurd rfl hne
      tot_gt := fun k hk => (updS_seq_ne _ _ _ (Nat.ne_of_gt hk)).trans (hi.tot_gt k hk)
      tot_eq := by rw [updS_self, hi.tot_eq]
      tot_lt := fun k hk => by rw [updS_seq_ne _ _ _ (Nat.ne_of_lt hk)]; exact hi.tot_lt k hk
      unrot_ne := fun k hk => (updS_seq_ne _ _ _ hk).trans (hi.unrot_ne k hk)
      unrot_open := by rw [updS_self, hi.unrot_open]; rfl
      rot_lt := fun k hk => (hi.rot_lt k hk).trans (updS_seq_ne _ _ _ (Nat.ne_of_lt hk)).symm
      rot_open := hi.rot_open }
    (fun j k hj => updS_stream_ne _ _ _ _ k hj) (fun j k hj => updS_stream_ne _ _ _ _ k hj) (fun _ _ _ => rfl) ?_ ?_
  · intro g
    by_cases hg : g = ⟨i, (s.store i).seq⟩
    · subst hg
      by_cases ht : s.total ⟨i, (s.store i).seq⟩ = 0 <;> simp [updS, ht, hm]
    · by_cases ht : s.total ⟨i, (s.store i).seq⟩ = 0 <;> simp [updS, ht, hg, h.segs_mem g]
  · by_cases ht : s.total ⟨i, (s.store i).seq⟩ = 0 <;> simp only [ht, if_true, if_false]
    · rw [List.nodup_append]
      refine ⟨h.segs_nodup, List.nodup_cons.mpr ⟨List.not_mem_nil, List.nodup_nil⟩, ?_⟩
      intro a ha b hb hab
      rw [List.mem_singleton] at hb
      exact hm.mp (hb ▸ hab ▸ ha) ht
    · exact h.segs_nodup

theorem inv_rot (s : St) (i : Nat) (h : Inv s) : Inv (rotStep (Cfg.of d) s i) := by
  have same : ∀ (f : Seg → Nat) (j k : Nat), j ≠ i → f ⟨j, k⟩ = f ⟨j, k⟩ := fun _ _ _ _ => rfl
  have hi := h.stream i
  rcases hi.todoOk with h0 | h0 | h0 | h0 <;> rw [h0] at hi
  · by_cases hn : (s.store i).nblocks = 0
    · rw [rotStep_noBlocks h0 hn]; exact h
    · rw [rotStep_start h0 hn]
      exact inv_local h i { hi with todoOk := .inr (.inl rfl), cap := fun _ => ⟨rfl, rfl, hn⟩ }
        (same _) (same _) (same _) h.segs_mem h.segs_nodup
  · have c := hi.cap (List.cons_ne_nil _ _)
    rw [rotStep_addMeta h0, c.1, c.2.1]
    exact inv_local h i
      { hi with
        todoOk := .inr (.inr (.inl rfl))
        cap := fun _ => c
        rot_lt := fun k hk => (updS_seq_ne _ _ _ (Nat.ne_of_lt hk)).trans (hi.rot_lt k hk)
        rot_open := updS_self _ _ _
        rot_gt := fun k hk => (updS_seq_ne _ _ _ (Nat.ne_of_gt hk)).trans (hi.rot_gt k hk) }
      (same _) (same _) (fun j k hj => updS_stream_ne _ _ _ _ k hj) h.segs_mem h.segs_nodup
  · have c := hi.cap (List.cons_ne_nil _ _)
    rw [rotStep_removeUnrot h0, c.1]
    exact inv_local h i
      { hi with
        todoOk := .inr (.inr (.inr rfl))
        cap := fun _ => c
        unrot_ne := fun k hk => (updS_seq_ne _ _ _ hk).trans (hi.unrot_ne k hk)
        unrot_open := updS_self _ _ _ }
      (same _) (fun j k hj => updS_stream_ne _ _ _ _ k hj) (same _) h.segs_mem h.segs_nodup
  · -- reset: the open key becomes a key below the open suffix; the next suffix has no blocks
    rw [rotStep_reset h0]
    refine inv_local h i
      { todoOk := .inl rfl
        cap := fun hne => absurd rfl hne
        tot_gt := fun k hk => hi.tot_gt k (Nat.lt_of_succ_lt hk)
        tot_eq := hi.tot_gt _ (Nat.lt_succ_self _)
        tot_lt := fun k hk => ?_
        unrot_ne := fun k hk => ?_
        unrot_open := hi.unrot_ne _ (Nat.succ_ne_self _)
        rot_lt := fun k hk => ?_
        rot_open := hi.rot_gt _ (Nat.lt_succ_self _)
        rot_gt := fun k hk => hi.rot_gt k (Nat.lt_of_succ_lt hk) }
      (same _) (same _) (same _) h.segs_mem h.segs_nodup
    · rcases Nat.lt_succ_iff_lt_or_eq.mp hk with hk | hk
      · exact hi.tot_lt k hk
      · rw [hk, hi.tot_eq]; exact (hi.cap (List.cons_ne_nil _ _)).2.2
    · by_cases hk' : k = (s.store i).seq
      · rw [hk']; exact hi.unrot_open
      · exact hi.unrot_ne k hk'
    · rcases Nat.lt_succ_iff_lt_or_eq.mp hk with hk | hk
      · exact hi.rot_lt k hk
      · rw [hk, hi.rot_open, hi.tot_eq]; rfl

theorem inv_step (s : St) (l : Label) (h : Inv s) : Inv (step (Cfg.of d) s l) := by
  cases l with
  | flush i => exact inv_flush s i h
  | rot i => exact inv_rot (d := d) s i h
  | q j k =>
    obtain ⟨q, hq⟩ := qStep_frame (d := d) s j k
    rw [step, hq]
    -- no clause of `Inv` mentions the queries
    exact { h with }

theorem run_append (cfg : Cfg) (s : St) (l1 l2 : List Label) :
    run cfg s (l1 ++ l2) = run cfg (run cfg s l1) l2 :=
  List.foldl_append

theorem run_cons (cfg : Cfg) (s : St) (l : Label) (ls : List Label) :
    run cfg s (l :: ls) = run cfg (step cfg s l) ls := rfl

theorem run_induction (P : St → Prop) (s : St) (ls : List Label) (hs : Inv s) (h0 : P s)
    (hstep : ∀ s l, Inv s → P s → P (step (Cfg.of d) s l)) : P (run (Cfg.of d) s ls) := by
  induction ls generalizing s with
  | nil => exact h0
  | cons l ls ih => exact ih _ (inv_step s l hs) (hstep s l hs h0)

theorem inv_run (s : St) (ls : List Label) (h : Inv s) : Inv (run (Cfg.of d) s ls) :=
  run_induction Inv s ls h h fun s l hs _ => inv_step s l hs

theorem inv_reach (ls : List Label) : Inv (run (Cfg.of d) init ls) := inv_run init ls inv_init

/-- the middle case is the hand-over window of the rotation of the key's stream -/
theorem Inv.key {s : St} (h : Inv s) (g : Seg) :
    (s.unrot g = s.total g ∧ s.rot g = 0) ∨
    (s.unrot g = s.total g ∧ s.rot g = s.total g ∧ (s.store g.stream).todo ≠ []) ∨
    (s.unrot g = 0 ∧ s.rot g = s.total g) := by
  obtain ⟨i, k⟩ := g
  have hi := h.stream i
  rcases Nat.lt_trichotomy k (s.store i).seq with hk | rfl | hk
  · exact .inr (.inr ⟨hi.unrot_ne k (Nat.ne_of_lt hk), hi.rot_lt k hk⟩)
  · dsimp only
    rw [hi.tot_eq, hi.unrot_open, hi.rot_open]
    rcases hi.todoOk with h0 | h0 | h0 | h0 <;> rw [h0]
    · exact .inl ⟨rfl, rfl⟩
    · exact .inl ⟨rfl, rfl⟩
    · exact .inr (.inl ⟨rfl, rfl, List.cons_ne_nil _ _⟩)
    · exact .inr (.inr ⟨rfl, rfl⟩)
  · rw [hi.tot_gt k hk]
    exact .inl ⟨hi.unrot_ne k (Nat.ne_of_gt hk), hi.rot_gt k hk⟩

theorem Inv.rot_all_or_none {s : St} (h : Inv s) (g : Seg) : s.rot g = s.total g ∨ s.rot g = 0 := by
  rcases h.key g with ⟨_, hr⟩ | ⟨_, hr, _⟩ | ⟨_, hr⟩
  · exact .inr hr
  · exact .inl hr
  · exact .inl hr

theorem nowCount_eq_total (s : St) (h : Inv s) (g : Seg) : nowCount s g = s.total g := by
  unfold nowCount
  rcases h.key g with ⟨hu, hr⟩ | ⟨hu, hr, _⟩ | ⟨hu, hr⟩ <;> rw [hu, hr]
  · by_cases ht : s.total g = 0
    · exact (if_neg (not_not_intro ht)).trans ht.symm
    · exact if_pos ht
  · exact ite_self _
  · exact if_neg (not_not_intro rfl)

theorem updS_le {f : Seg → Nat} {g : Seg} {v : Nat} (h : f g ≤ v) (x : Seg) : f x ≤ updS f g v x := by
  unfold updS
  split
  · next e => rw [e]; exact h
  · exact Nat.le_refl _

theorem step_mono (s : St) (h : Inv s) (l : Label) (g : Seg) :
    s.total g ≤ (step (Cfg.of d) s l).total g ∧ s.rot g ≤ (step (Cfg.of d) s l).rot g := by
  have same : s.total g ≤ s.total g ∧ s.rot g ≤ s.rot g := ⟨Nat.le_refl _, Nat.le_refl _⟩
  cases l with
  | q j k =>
    obtain ⟨q, hq⟩ := qStep_frame (d := d) s j k
    rw [step, hq]; exact same
  | flush i =>
    rw [step]
    cases h0 : (s.store i).todo
    case cons => rw [flush_busy h0]; exact same
    rw [flush_idle h0]
    exact ⟨updS_le (Nat.le_succ _) g, Nat.le_refl _⟩
  | rot i =>
    rw [step]
    have hi := h.stream i
    rcases hi.todoOk with h0 | h0 | h0 | h0 <;> rw [h0] at hi
    · by_cases hn : (s.store i).nblocks = 0
      · rw [rotStep_noBlocks h0 hn]; exact same
      · rw [rotStep_start h0 hn]; exact same
    · rw [rotStep_addMeta h0, (hi.cap (List.cons_ne_nil _ _)).1]
      -- the key was not in the rotated map
      exact ⟨Nat.le_refl _, updS_le (hi.rot_open ▸ Nat.zero_le _) g⟩
    · rw [rotStep_removeUnrot h0]; exact same
    · rw [rotStep_reset h0]; exact same

end SigModel.Lemmas.C11
