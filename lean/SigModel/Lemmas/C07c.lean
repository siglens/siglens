/-
C07, part 3: every cut of `resetSegStore`, of a buffer flush and of a rotation.  `inv_…`: the invariant holds again
after all steps of the command; `…_prefix`: the directory is `Good` after any proper prefix of them.
-/
import SigModel.Lemmas.C07b

namespace SigModel.Lemmas.C07
open SigModel.Crash

/-- before `resetSegStore` has created the directory of segment `n`.  Nothing on the suffix files, which may be
anywhere on the way from `n` to `n + 1`: the frame only asks the suffix to stay above the directories, all below `n` -/
structure PreOpen (sl : List (Nat × List Nat)) (n nf : Nat) (fs : FS) : Prop where
  frame : Frame sl n fs
  not_in : n ∉ fs.dirs
  ids : flat sl = List.range nf

namespace PreOpen

theorem good {sl n nf fs extra} (P : PreOpen sl n nf fs) : Good nf extra fs := by
  have h := P.frame.untouched n P.not_in
  exact P.frame.good (fls := []) (congrArg SegSt.sfm h) (h ▸ segOK_default) ((List.append_nil _).trans P.ids)
    (Or.inl rfl)

/-- the two suffix steps of `openSteps n` (`getAndIncrementSuffixFromFile`) -/
theorem of_suffix {sl n nf fs} {b : Option Nat} (P : PreOpen sl n nf fs) (a : Option Nat)
    (h : b = fs.suffix ∨ b = some (n + 1)) : PreOpen sl n nf { fs with suffixTmp := a, suffix := b } := by
  refine ⟨P.frame.transfer rfl rfl (fun _ _ => rfl) fun s hs => ?_, P.not_in, P.ids⟩
  rcases h with rfl | rfl
  · exact P.frame.suffix_ok s hs
  · exact Nat.lt_succ_of_le (P.frame.dirs_le s hs)

end PreOpen

theorem open_prefix {sl n nf fs extra} (P : PreOpen sl n nf fs) (j : Nat) (hj : j < 3) :
    Good nf extra (run fs ((openSteps n).take j)) := by
  rcases j with _ | _ | _ | j
  · exact P.good
  · exact (P.of_suffix (some (n + 1)) (Or.inl rfl)).good
  · exact (P.of_suffix none (Or.inr rfl)).good
  · exact absurd hj (Nat.not_lt.2 (Nat.le_add_left 3 j))

theorem inv_open {sl n nf fs} (P : PreOpen sl n nf fs) :
    Inv sl { cur := n, fls := [], nf := nf } (run fs (openSteps n)) := by
  have F := P.frame
  have h := F.untouched n P.not_in
  dsimp only [run, openSteps, List.foldl, apply]
  -- the suffix file now holds `n + 1`; `MkdirAll` creates the directory, which is not there yet
  refine iteInduction (motive := Inv sl _) (fun c => absurd (List.contains_iff_mem.1 c) P.not_in) fun _ => ?_
  refine ⟨⟨F.segmeta_eq, List.nodup_cons.2 ⟨P.not_in, F.dirs_nodup⟩, ?_, F.sealed_lt, F.sealed_ok, ?_, ?_⟩,
    List.mem_cons_self .., h ▸ segOK_default, congrArg SegSt.sfm h, rfl, (List.append_nil _).trans P.ids⟩
  · exact List.forall_mem_cons.2 ⟨Or.inr rfl, F.dirs_mem⟩
  · exact fun s hs => F.untouched s fun h => hs (List.mem_cons_of_mem _ h)
  · exact List.forall_mem_cons.2 ⟨Nat.lt_succ_self n, fun s hs => Nat.lt_succ_of_le (F.dirs_le s hs)⟩

theorem flushSteps_onSeg (w : W) (ws : List Nat) :
    ∀ s ∈ flushSteps w ws, ∀ fs, apply fs s = fs.setSeg w.cur (applySeg · s) :=
  List.forall_mem_append.2 ⟨List.forall_mem_map.2 fun _ _ _ => rfl,
    List.forall_mem_cons.2 ⟨fun _ => rfl, List.forall_mem_cons.2 ⟨fun _ => rfl, List.forall_mem_cons.2 ⟨fun _ => rfl,
      List.forall_mem_cons.2 ⟨fun _ => rfl, List.forall_mem_singleton.2 fun _ => rfl⟩⟩⟩⟩⟩

theorem flushSteps_length (w : W) (ws : List Nat) : (flushSteps w ws).length = ws.length + 5 := by
  rw [flushSteps, List.length_append, List.length_map]; rfl

theorem foldl_chunks (cur nf : Nat) (l : List Nat) : ∀ (st : SegSt),
    (l.map (fun c => Step.chunk cur nf c)).foldl applySeg st
      = { st with chunks := st.chunks ++ l.map (fun c => (nf, c)) } := by
  induction l with
  | nil => exact fun st => congrArg (fun c => { st with chunks := c }) (List.append_nil _).symm
  | cons a l ih => exact fun st => (ih _).trans (congrArg (fun c => { st with chunks := c }) (List.append_assoc ..))

theorem flush_cut {st st' : SegSt} {fls : List Nat} (h : SegOK st fls) (w : W) (ws : List Nat) (k : Nat)
    (hk : k < (flushSteps w ws).length) (e : ((flushSteps w ws).take k).foldl applySeg st = st') :
    st'.sfm = st.sfm ∧ (SegOK st' fls ∨ 0 < k ∧ SegOK st' (fls ++ [w.nf])) := by
  by_cases hkw : k ≤ ws.length
  · rw [flushSteps, List.take_append_of_le_length (by rwa [List.length_map]), ← List.map_take, foldl_chunks] at e
    subst e
    exact ⟨rfl, Or.inl (h.mono (fun _ hc => List.mem_append_left _ hc) rfl)⟩
  · obtain ⟨j, rfl⟩ := Nat.exists_eq_add_of_lt (Nat.lt_of_not_le hkw)
    rw [Nat.add_assoc] at hk e
    rw [flushSteps, ← List.length_map (fun c => Step.chunk w.cur w.nf c), List.take_length_add_append,
      List.take_succ_cons, List.foldl_append, foldl_chunks, List.foldl_cons] at e
    subst e
    -- `j ≤ 3`: the last step, the rename of the .sfm, is not done; the others leave chunks, summaries and .sfm alone
    rcases j with _ | _ | _ | _ | j
    · exact ⟨rfl, Or.inr ⟨Nat.succ_pos _, h.flush rfl rfl⟩⟩
    · exact ⟨rfl, Or.inr ⟨Nat.succ_pos _, h.flush rfl rfl⟩⟩
    · exact ⟨rfl, Or.inr ⟨Nat.succ_pos _, h.flush rfl rfl⟩⟩
    · exact ⟨rfl, Or.inr ⟨Nat.succ_pos _, h.flush rfl rfl⟩⟩
    · exact absurd (flushSteps_length w ws ▸ hk) (Nat.not_lt.2 (Nat.add_le_add_left (Nat.le_add_left 5 j) _))

theorem inv_flush {sl w fs} (I : Inv sl w fs) (ws : List Nat) :
    Inv sl (next w (.fl ws)) (run fs (flushSteps w ws)) := by
  obtain ⟨S, hseg⟩ := run_onSeg (flushSteps w ws) fs (flushSteps_onSeg w ws)
  -- the last five steps stay a `foldl`, evaluated by unification below
  have hst := hseg.trans (by rw [flushSteps, List.foldl_append, foldl_chunks])
  refine I.onSeg S hst (I.cur_ok.flush rfl rfl)
    (if_neg (List.append_ne_nil_of_right_ne_nil _ (List.cons_ne_nil _ _))).symm ?_
  rw [← List.append_assoc, I.ids, List.range_succ]

theorem flush_prefix {sl w fs} (I : Inv sl w fs) (ws : List Nat) (k : Nat) (hk : k < (flushSteps w ws).length) :
    Good w.nf (if 0 < k then some w.nf else none) (run fs ((flushSteps w ws).take k)) := by
  obtain ⟨S, hseg⟩ := run_onSeg ((flushSteps w ws).take k) fs
    fun s hs => flushSteps_onSeg w ws s (List.mem_of_mem_take hs)
  obtain ⟨hsfm, hok⟩ := flush_cut I.cur_ok w ws k hk hseg.symm
  have F := I.frame.sameBut S I.cur_in
  rcases hok with hok | ⟨hk0, hok⟩
  · exact F.good (hsfm.trans I.cur_sfm) hok I.ids (Or.inl rfl)
  · exact F.good (hsfm.trans I.cur_sfm) hok I.ids (Or.inr ⟨rfl, if_pos hk0⟩)

theorem rotateSteps_eq {w : W} (hne : w.fls ≠ []) :
    rotateSteps w = Step.sfmTmp w.cur w.fls :: Step.sfmRename w.cur :: Step.segmetaAppend w.cur w.fls ::
      openSteps (w.cur + 1) :=
  if_neg hne

/-- `WriteSfm` of a rotation rewrites the record the running .sfm already holds -/
theorem inv_writeSfm {sl w fs} (I : Inv sl w fs) (hne : w.fls ≠ []) :
    Inv sl w (apply fs (.sfmTmp w.cur w.fls)) ∧ Inv sl w (run fs [.sfmTmp w.cur w.fls, .sfmRename w.cur]) := by
  obtain ⟨S, hseg⟩ := run_onSeg [Step.sfmTmp w.cur w.fls, .sfmRename w.cur] fs
    (List.forall_mem_cons.2 ⟨fun _ => rfl, List.forall_mem_singleton.2 fun _ => rfl⟩)
  exact ⟨I.onSeg (sameBut_setSeg w.cur fs (applySeg · (.sfmTmp w.cur w.fls))) (if_pos rfl)
      (I.cur_ok.mono (fun _ h => h) rfl) I.cur_sfm I.ids,
    I.onSeg (st' := { fs.seg w.cur with sfmTmp := none, sfm := .json w.fls }) S hseg
      (I.cur_ok.mono (fun _ h => h) rfl) (if_neg hne).symm I.ids⟩

theorem preopen_seal {sl w fs} (I : Inv sl w fs) :
    PreOpen (sl ++ [(w.cur, w.fls)]) (w.cur + 1) w.nf (apply fs (.segmetaAppend w.cur w.fls)) := by
  have F := I.frame
  dsimp only [apply]
  refine ⟨⟨congrArg (· ++ [(w.cur, w.fls)]) F.segmeta_eq, F.dirs_nodup, fun s hs => Or.inl ?_, ?_, ?_,
    F.untouched, F.suffix_ok⟩, fun h => Nat.not_succ_le_self _ (F.dirs_le _ h), ?_⟩
  · rw [List.map_append]
    exact (F.dirs_mem s hs).elim (List.mem_append_left _) fun e => List.mem_append_right _ (List.mem_singleton.2 e)
  · exact List.forall_mem_append.2 ⟨fun p hp => Nat.lt_succ_of_lt (F.sealed_lt p hp),
      List.forall_mem_singleton.2 (Nat.lt_succ_self _)⟩
  · exact List.forall_mem_append.2 ⟨F.sealed_ok, List.forall_mem_singleton.2 I.cur_ok⟩
  · rw [flat_append, ← I.ids]
    exact congrArg _ (List.append_nil _)

theorem inv_rotate {sl w fs} (I : Inv sl w fs) (hne : w.fls ≠ []) :
    Inv (sl ++ [(w.cur, w.fls)]) { cur := w.cur + 1, fls := [], nf := w.nf } (run fs (rotateSteps w)) := by
  rw [rotateSteps_eq hne, run_cons, run_cons, run_cons]
  exact inv_open (preopen_seal (inv_writeSfm I hne).2)

theorem rotate_prefix {sl w fs} (I : Inv sl w fs) (k : Nat) (hk : k < (rotateSteps w).length) :
    Good w.nf none (run fs ((rotateSteps w).take k)) := by
  by_cases hne : w.fls = []
  · -- an empty segment is not rotated: no steps, so no proper cut
    rw [rotateSteps, if_pos hne] at hk
    cases hk
  rw [rotateSteps_eq hne] at hk ⊢
  rcases k with _ | _ | _ | j
  · exact good_inv I
  · exact good_inv (inv_writeSfm I hne).1
  · exact good_inv (inv_writeSfm I hne).2
  · rw [List.take_succ_cons, List.take_succ_cons, List.take_succ_cons, run_cons, run_cons, run_cons]
    exact open_prefix (preopen_seal (inv_writeSfm I hne).2) j (Nat.lt_of_add_lt_add_right hk)

end SigModel.Lemmas.C07
