/-
C10 recovery slice: the Oracle's shortcut for generated bulk loads is the model.
`ingestMany name ds st` = folding `step cap` over `ds.map (Op.ingest name · roll)` whenever the WAL buffer has
room for all of `ds` (so that no append is triggered on the way).
-/
import SigModel.Model.WalRecover

namespace SigModel.Lemmas.C10R
open SigModel.Wal (Dp)
open SigModel.WalRecover

theorem reg_buf (name : Nat) (st : WState) :
    (if st.mNames.contains name then st
      else { st with mNames := st.mNames ++ [name], pendNames := st.pendNames ++ [name] }).buf = st.buf :=
  (apply_ite WState.buf ..).trans (ite_self _)

theorem ingestMany_mNames (name : Nat) (ds : List Dp) (st : WState) :
    (ingestMany name ds st).mNames.contains name = true := by
  unfold ingestMany
  by_cases hc : st.mNames.contains name = true
  · rw [if_pos hc]
    exact hc
  · rw [if_neg hc]
    exact List.contains_iff_mem.mpr (List.mem_append_right _ (List.mem_singleton_self _))

theorem step_ingest_room (cap name : Nat) (roll : Bool) (d : Dp) (st : WState) (h : st.buf.length + 1 ≤ cap) :
    step cap st (.ingest name d roll) = ingestMany name [d] st := by
  have hlt : ¬ cap ≤ st.buf.length := Nat.not_le_of_lt h
  rw [← reg_buf name st] at hlt
  -- the size test of appendToWALBuffer fails; the rest of the step is `ingestMany name [d]` as it stands
  exact congrArg (fun s : WState => { s with buf := s.buf ++ [d] }) (if_neg hlt)

theorem ingestMany_cons (name : Nat) (d : Dp) (ds : List Dp) (st : WState) :
    ingestMany name ds (ingestMany name [d] st) = ingestMany name (d :: ds) st := by
  rw [ingestMany, if_pos (ingestMany_mNames name [d] st)]
  unfold ingestMany
  generalize (if st.mNames.contains name = true then st else _) = st0
  -- the same record up to `(a ++ [d]) ++ ds = a ++ d :: ds` and `n + 1 + |ds| = n + (|ds| + 1)`
  simp only [List.append_assoc, List.singleton_append, List.length_cons, List.length_nil, Nat.add_assoc, Nat.add_comm 1]

theorem ingestMany_buf_length (name : Nat) (ds : List Dp) (st : WState) :
    (ingestMany name ds st).buf.length = st.buf.length + ds.length :=
  List.length_append.trans (congrArg (·.length + _) (reg_buf name st))

theorem ingestMany_eq_foldl (cap name : Nat) (roll : Bool) (ds : List Dp) (st : WState)
    (hne : ds ≠ []) (hroom : st.buf.length + ds.length ≤ cap) :
    (ds.map (fun d => Op.ingest name d roll)).foldl (step cap) st = ingestMany name ds st := by
  induction ds generalizing st with
  | nil => exact absurd rfl hne
  | cons d ds ih =>
    rw [List.map_cons, List.foldl_cons, step_ingest_room cap name roll d st
      (Nat.le_trans (Nat.add_le_add_left (Nat.le_add_left 1 ds.length) _) hroom)]
    cases ds with
    | nil => rfl
    | cons d' ds' =>
      -- the buffer has grown by one: `|buf| + 1 + |ds| = |buf| + (|ds| + 1)`
      rw [ih (ingestMany name [d] st) (List.cons_ne_nil _ _)
        (Nat.le_trans (Nat.le_of_eq ((congrArg (· + _) (ingestMany_buf_length ..)).trans (Nat.succ_add ..))) hroom)]
      exact ingestMany_cons name d (d' :: ds') st

end SigModel.Lemmas.C10R
