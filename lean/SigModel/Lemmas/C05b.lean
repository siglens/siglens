/-
Well-formed input, and the three functions a Fetch call is made of: getFilteredBlocks (in the refill),
getNextBlocks and clampEnd (in the round of fetchRRCs).  Core Lean only.
-/
import SigModel.Lemmas.C05a

namespace SigModel.Lemmas.C05
open SigModel.Sched

def BlockOK (b : Block) : Prop := b.low ≤ b.high ∧ ∀ r ∈ b.recs, b.low ≤ r.2 ∧ r.2 ≤ b.high

def SegOK (s : Seg) : Prop := ∀ b ∈ s.blocks, s.start ≤ b.low ∧ b.high ≤ s.stop ∧ BlockOK b

def WF (segs : List Seg) : Prop := ∀ s ∈ segs, SegOK s

theorem rec_nb_start (m : Mode) {b : Block} (hb : BlockOK b) {r : Rec} (hr : r ∈ b.recs) :
    m.before r.2 (startOf m b) = false := by
  cases m
  · exact (rf_false _ _).mpr (hb.2 r hr).2
  · exact (rl_false _ _).mpr (hb.2 r hr).1

theorem end_nb_rec (m : Mode) {b : Block} (hb : BlockOK b) {r : Rec} (hr : r ∈ b.recs) :
    m.before (endOf m b) r.2 = false := by
  cases m
  · exact (rf_false _ _).mpr (hb.2 r hr).1
  · exact (rl_false _ _).mpr (hb.2 r hr).2

theorem end_nb_start (m : Mode) {b : Block} (hb : BlockOK b) : m.before (endOf m b) (startOf m b) = false := by
  cases m
  · exact (rf_false _ _).mpr hb.1
  · exact (rl_false _ _).mpr hb.1

theorem start_nb_segFirst (m : Mode) {s : Seg} (hs : SegOK s) {b : Block} (hb : b ∈ s.blocks) :
    m.before (startOf m b) (segFirst m s) = false := by
  cases m
  · exact (rf_false _ _).mpr (hs b hb).2.1
  · exact (rl_false _ _).mpr (hs b hb).1

theorem segLast_nb_end (m : Mode) {s : Seg} (hs : SegOK s) {b : Block} (hb : b ∈ s.blocks) :
    m.before (segLast m s) (endOf m b) = false := by
  cases m
  · exact (rf_false _ _).mpr (hs b hb).1
  · exact (rl_false _ _).mpr (hs b hb).2.1

theorem gf_cons (m : Mode) (c : Nat) (b : Block) (bs : List Block) (p : List Nat) :
    getFilteredBlocks m c (b :: bs) p =
      if p.contains b.id then getFilteredBlocks m c bs p
      else if shouldProcessBlock m c b then
        (b :: (getFilteredBlocks m c bs (b.id :: p)).1, (getFilteredBlocks m c bs (b.id :: p)).2)
      else getFilteredBlocks m c bs p := rfl

theorem gf_snd_eq (m : Mode) (c : Nat) (bs : List Block) (p : List Nat) :
    (getFilteredBlocks m c bs p).2 = ((getFilteredBlocks m c bs p).1.map (·.id)).reverse ++ p := by
  fun_induction getFilteredBlocks m c bs p with
  | case1 p => rfl
  | case2 b bs p hc ih => exact ih
  | case3 b bs p hc hs r ih =>
    refine ih.trans ?_
    rw [List.map_cons, List.reverse_cons, List.append_assoc]
    rfl
  | case4 b bs p hc hs ih => exact ih

theorem mem_gf_snd (m : Mode) (c : Nat) (bs : List Block) (p : List Nat) (x : Nat) :
    x ∈ (getFilteredBlocks m c bs p).2 ↔ (∃ b ∈ (getFilteredBlocks m c bs p).1, b.id = x) ∨ x ∈ p := by
  rw [gf_snd_eq, List.mem_append, List.mem_reverse, List.mem_map]

theorem gf_mono (m : Mode) (c : Nat) (bs : List Block) (p : List Nat) (x : Nat) (h : x ∈ p) :
    x ∈ (getFilteredBlocks m c bs p).2 :=
  (mem_gf_snd m c bs p x).mpr (.inr h)

theorem gf_ids (m : Mode) (c : Nat) (bs : List Block) (p : List Nat) (x : Block)
    (h : x ∈ (getFilteredBlocks m c bs p).1) : x.id ∈ (getFilteredBlocks m c bs p).2 :=
  (mem_gf_snd m c bs p x.id).mpr (.inl ⟨x, h, rfl⟩)

theorem gf_sublist (m : Mode) (c : Nat) (bs : List Block) (p : List Nat) :
    (getFilteredBlocks m c bs p).1.Sublist bs := by
  fun_induction getFilteredBlocks m c bs p with
  | case1 p => exact .slnil
  | case2 b bs p hc ih => exact ih.cons b
  | case3 b bs p hc hs r ih => exact ih.cons_cons b
  | case4 b bs p hc hs ih => exact ih.cons b

theorem gf_mem (m : Mode) (c : Nat) (bs : List Block) (p : List Nat) (x : Block)
    (h : x ∈ (getFilteredBlocks m c bs p).1) : x ∈ bs ∧ x.id ∉ p ∧ shouldProcessBlock m c x = true := by
  refine ⟨(gf_sublist m c bs p).subset h, ?_⟩
  revert x
  fun_induction getFilteredBlocks m c bs p with
  | case1 p => exact List.forall_mem_nil _
  | case2 b bs p hc ih => exact ih
  | case3 b bs p hc hs r ih =>
    refine List.forall_mem_cons.mpr ⟨⟨mt List.contains_iff_mem.mpr hc, hs⟩, fun x hx => ?_⟩
    exact ⟨mt (List.mem_cons_of_mem _) (ih x hx).1, (ih x hx).2⟩
  | case4 b bs p hc hs ih => exact ih

theorem gf_processed (m : Mode) (c : Nat) (bs : List Block) (p : List Nat) (x : Block) (h : x ∈ bs)
    (hs : shouldProcessBlock m c x = true) : x.id ∈ (getFilteredBlocks m c bs p).2 := by
  revert x
  fun_induction getFilteredBlocks m c bs p with
  | case1 p => exact List.forall_mem_nil _
  | case2 b bs p hc ih =>
    exact List.forall_mem_cons.mpr ⟨fun _ => gf_mono m c bs p _ (List.contains_iff_mem.mp hc), ih⟩
  | case3 b bs p hc hb r ih =>
    exact List.forall_mem_cons.mpr ⟨fun _ => gf_mono m c bs _ _ List.mem_cons_self, ih⟩
  | case4 b bs p hc hb ih =>
    exact List.forall_mem_cons.mpr ⟨fun hs => absurd hs hb, ih⟩

/-- the right side is `npn` in `extendLoop` -/
theorem le_pass (m : Mode) (n : Nat) (d : List Block) :
    n ≤ match d with
      | [] => n + 1
      | b :: rest => n + 1 + tieCount m (startOf m b) rest := by
  cases d with
  | nil => exact Nat.le_succ n
  | cons b rest => exact Nat.le_add_right_of_le (Nat.le_succ n)

theorem extendLoop_ge (m : Mode) (l : List Block) (mb : Nat) (fuel n : Nat) : n ≤ extendLoop m l mb fuel n := by
  fun_induction extendLoop m l mb fuel n with
  | case1 n => exact Nat.le_refl n
  | case2 fuel n npn h => exact Nat.le_refl n
  | case3 fuel n npn h1 h2 => exact le_pass m n _
  | case4 fuel n npn h1 h2 ih => exact Nat.le_trans (le_pass m n _) ih

theorem next_spec (m : Mode) (l : List Block) (mb : Nat) :
    (getNextBlocks m l mb).1 = l.take (getNextBlocks m l mb).1.length ∧
    (l ≠ [] → 1 ≤ (getNextBlocks m l mb).1.length) ∧
    ∀ b rest, l.drop (getNextBlocks m l mb).1.length = b :: rest → (getNextBlocks m l mb).2 = startOf m b := by
  cases l with
  | nil => exact ⟨rfl, fun h => absurd rfl h, fun _ _ h => absurd h (List.cons_ne_nil _ _).symm⟩
  | cons b0 tl =>
    dsimp only [getNextBlocks]
    cases h : List.drop (numNext m (b0 :: tl) mb b0) (b0 :: tl) with
    | nil =>
      exact ⟨List.take_length.symm, fun _ => Nat.le_add_left 1 _,
        fun b rest hd => absurd (List.drop_length.symm.trans hd) (List.cons_ne_nil b rest).symm⟩
    | cons b rest =>
      -- a block is left behind, so `numNext` blocks are taken
      have hlen := List.length_take_of_le (Nat.le_of_not_le fun hle =>
        List.cons_ne_nil b rest (h.symm.trans (List.drop_eq_nil_of_le hle)))
      have ht : tieCount m (startOf m b0) (b0 :: tl) = tieCount m (startOf m b0) tl + 1 := if_pos rfl
      dsimp only
      rw [hlen]
      exact ⟨rfl, fun _ => Nat.le_trans (ht ▸ Nat.le_add_left 1 _) (extendLoop_ge m _ mb _ _),
        fun b' rest' hd => congrArg (startOf m) (List.head_eq_of_cons_eq (h.symm.trans hd))⟩

theorem next_take (m : Mode) (l : List Block) (mb : Nat) :
    (getNextBlocks m l mb).1 = l.take (getNextBlocks m l mb).1.length := (next_spec m l mb).1

theorem next_length_le (m : Mode) (l : List Block) (mb : Nat) : (getNextBlocks m l mb).1.length ≤ l.length :=
  Nat.le_trans (Nat.le_of_eq (congrArg List.length (next_take m l mb))) (List.length_take_le' _ l)

theorem next_pos (m : Mode) (l : List Block) (mb : Nat) (h : l ≠ []) : 1 ≤ (getNextBlocks m l mb).1.length :=
  (next_spec m l mb).2.1 h

theorem next_rest_bound (m : Mode) (l : List Block) (mb : Nat) (hs : SortedBy m (startOf m) l) :
    ∀ b ∈ l.drop (getNextBlocks m l mb).1.length, m.before (startOf m b) (getNextBlocks m l mb).2 = false := by
  cases h : l.drop (getNextBlocks m l mb).1.length with
  | nil => exact List.forall_mem_nil _
  | cons b rest =>
    have hd : SortedBy m (startOf m) (b :: rest) := h ▸ hs.sublist (List.drop_sublist _ l)
    rw [(next_spec m l mb).2.2 b rest h]
    exact hd.head_nb (before_irrefl m _)

theorem clamp_of_before_cutoff (m : Mode) {c x : Nat} (e : Nat) (h : m.before c x = true) :
    m.before x (clampEnd m e c) = false := by
  cases m
  · exact (rf_false _ _).mpr (Nat.le_trans (Nat.le_of_lt ((rf_true _ _).mp h)) (Nat.le_max_right e c))
  · exact (rl_false _ _).mpr (Nat.le_trans (Nat.min_le_right e c) (Nat.le_of_lt ((rl_true _ _).mp h)))

theorem clamp_of_nb (m : Mode) {e x : Nat} (c : Nat) (h : m.before x e = false) :
    m.before x (clampEnd m e c) = false := by
  cases m
  · exact (rf_false _ _).mpr (Nat.le_trans ((rf_false _ _).mp h) (Nat.le_max_left e c))
  · exact (rl_false _ _).mpr (Nat.le_trans (Nat.min_le_left e c) ((rl_false _ _).mp h))

end SigModel.Lemmas.C05
