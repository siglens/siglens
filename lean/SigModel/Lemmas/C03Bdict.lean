/-
The dictionary search path (Model/Bloom.lean): `dictSearch` (the predicate once per dictionary word, then every record that
points to the word) and `perRecordSearch` (each record read through the dictionary) both come out as the same position-wise
update of the bitset: record `j` is marked iff it points to a word that satisfies the predicate (`marked`).  Last, the
record loop that follows the dictionary stage, when every searched column is dictionary-encoded, only negates.
-/
import SigModel.Model.Bloom

namespace SigModel.Bloom
open SigModel.Tlv (Bytes DictRd)

theorem addRecNums_eq (d : DictRd) (wi i : Nat) (bits : List Bool) :
    addRecNums d wi i bits = bits.mapIdx fun j b => b || d.recToWord[j + i]? == some wi := by
  induction bits generalizing i with
  | nil => rfl
  | cons b r ih => simp [addRecNums, ih, Nat.add_assoc, Nat.add_comm 1]

def marked (f : Bytes → Bool) (d : DictRd) (ws : List Bytes) (wi j : Nat) : Bool :=
  (ws.zipIdx wi).any fun wk => f wk.1 && d.recToWord[j]? == some wk.2

theorem dictLoop_eq (f : Bytes → Bool) (d : DictRd) (ws : List Bytes) (wi : Nat) (bits : List Bool) :
    dictLoop f d ws wi bits = bits.mapIdx fun j b => b || marked f d ws wi j := by
  induction ws generalizing wi bits with
  | nil => exact (List.mapIdx_eq_iff.2 fun j => by simp [marked, dictLoop]).symm
  | cons w r ih =>
    rw [dictLoop, ih]
    cases hf : f w
    · simp [marked, hf]
    · rw [if_pos rfl, addRecNums_eq, List.mapIdx_mapIdx]
      simp [marked, hf, Function.comp_def, Bool.or_assoc]

theorem marked_all (f : Bytes → Bool) (d : DictRd) (j : Nat) :
    marked f d d.words 0 j = match d.getRec j with
      | .ok t => f t
      | _ => false := by
  unfold marked DictRd.getRec
  cases d.recToWord[j]? with
  | none => simp
  | some x =>
    rw [Bool.eq_iff_iff, List.any_eq_true]
    simp only [Bool.and_eq_true, beq_iff_eq, Option.some.injEq, Prod.exists, List.mem_zipIdx_iff_getElem?]
    cases hx : d.words[x]? with
    | none => simp [hx]
    | some t => simp [hx]

theorem perRecFrom_eq (f : Bytes → Bool) (d : DictRd) (i n : Nat) :
    perRecFrom f d i n = (List.replicate n false).mapIdx fun j b => b || marked f d d.words 0 (j + i) := by
  induction n generalizing i with
  | zero => rfl
  | succ n ih =>
    simp only [perRecFrom, List.replicate_succ, List.mapIdx_cons, ih, Bool.false_or, marked_all, Nat.zero_add,
      Nat.add_assoc, Nat.add_comm 1]
    rfl

theorem recLoop_no_plain (negate : Bool) (i : Nat) (bits : List Bool) :
    recLoop negate (fun _ => false) i bits = bits.map (fun b => b != negate) := by
  induction bits generalizing i with
  | nil => rfl
  | cons b r ih => cases negate <;> cases b <;> simp [recLoop, ih]

end SigModel.Bloom
