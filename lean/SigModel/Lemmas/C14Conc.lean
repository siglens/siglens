import SigModel.Model.Retention
/-! Invariant of the interleaving machine `SigModel.Retention.MmConc` (one retention pass over metricmeta.json against
any number of rotations and readers): helper lemmas for §8 of Props/C14.lean. -/
namespace SigModel.Lemmas.C14Conc
open SigModel.Retention SigModel.Retention.MmConc

/-- The lock discipline: whoever is in a critical section holds the lock (`scanning`, `region`, `work`), and what the
pass's scan found is still true of the file (`region`); from it, what the file lists (`surv`, `ack`, `clean`, `only`) -/
structure Inv (victim : Nat → Bool) (key : Nat → Nat) (f0 : List Nat) (s : St) : Prop where
  surv : ∀ k ∈ f0, victim k = false → k ∈ s.file
  ack : ∀ i, s.apc i = .done → key i ∈ s.file
  region : (s.ppc = .rmdir ∨ s.ppc = .rewrite) →
    s.writer = some .pass ∧ s.preserved = s.file.filter (fun k => !victim k) ∧ s.removed = s.file.filter victim
  scanning : s.ppc = .scan → s.writer = some .pass
  work : ∀ i, s.apc i = .work → s.writer = some (.app i)
  clean : s.ppc = .done → ∀ k ∈ s.file, victim k = false
  only : ∀ k ∈ s.file, k ∈ f0 ∨ ∃ i, k = key i ∧ s.apc i = .done

theorem inv_init (victim : Nat → Bool) (key : Nat → Nat) (f0 d0 : List Nat) :
    Inv victim key f0 { file := f0, dirs := d0 } where
  surv _ h _ := h
  ack _ h := by contradiction
  region h := by cases h <;> contradiction
  scanning h := by contradiction
  work _ h := by contradiction
  clean h := by contradiction
  only _ h := .inl h

theorem upd_same {α : Type} (f : Nat → α) (i : Nat) (v : α) : upd f i v i = v := if_pos rfl

theorem upd_other {α : Type} (f : Nat → α) (i j : Nat) (v : α) (h : j ≠ i) : upd f i v j = f j := if_neg h

theorem upd_ne {α : Type} {f : Nat → α} {i j : Nat} {v w : α} (h : upd f i v j = w) (hv : v ≠ w) : f j = w := by
  by_cases e : j = i
  · rw [e, upd_same] at h
    exact absurd h hv
  · rwa [upd_other f i j v e] at h

theorem upd_keep {α : Type} {f : Nat → α} {i j : Nat} {w : α} (v : α) (h : f j = w) (hi : f i ≠ w) : upd f i v j = w := by
  rw [upd_other f i j v fun e => hi (e ▸ h)]
  exact h

-- from here on `upd` is read through the four lemmas above; left unfoldable, the unifier opens it at every field of `Inv`
attribute [local irreducible] upd

theorem writer_free {s : St} (h : (s.writer.isNone && s.readers.isEmpty) = true) (t : Tid) : s.writer ≠ some t :=
  fun e => Option.some_ne_none t (e.symm.trans (Option.isNone_iff_eq_none.mp (Bool.and_eq_true_iff.mp h).1))

variable {victim : Nat → Bool} {key : Nat → Nat} {f0 : List Nat} {s : St}

/-- the states after `scan` and after each `rmdir`: file, lock and rotations are as they were -/
theorem Inv.in_region (h : Inv victim key f0 s) {p : PPc} {pr rm d t : List Nat} (hp : p = .rmdir ∨ p = .rewrite)
    (hr : s.writer = some .pass ∧ pr = s.file.filter (fun k => !victim k) ∧ rm = s.file.filter victim) :
    Inv victim key f0 { s with dirs := d, ppc := p, preserved := pr, removed := rm, todo := t } :=
  { h with
    region := fun _ => hr
    scanning := fun hs => by rcases hp with rfl | rfl <;> contradiction
    clean := fun hd => by rcases hp with rfl | rfl <;> contradiction }

/-- the `ppc` that `step` sets after `scan` and after an `rmdir` -/
theorem region_ite (c : Prop) [Decidable c] :
    (if c then PPc.rewrite else .rmdir) = .rmdir ∨ (if c then PPc.rewrite else .rmdir) = .rewrite := by
  by_cases hc : c
  · exact .inr (if_pos hc)
  · exact .inl (if_neg hc)

theorem mem_rewrite {file : List Nat} {k : Nat} :
    k ∈ (if (file.filter victim).isEmpty then file else file.filter (fun k => !victim k)) ↔ k ∈ file ∧ victim k = false := by
  by_cases he : (file.filter victim).isEmpty
  · rw [if_pos he]
    exact ⟨fun hk => ⟨hk, Bool.eq_false_iff.mpr (List.filter_eq_nil_iff.mp (List.isEmpty_iff.mp he) k hk)⟩, And.left⟩
  · rw [if_neg he, List.mem_filter, Bool.not_eq_true']

theorem inv_step (victim : Nat → Bool) (key : Nat → Nat) (hk : ∀ i, victim (key i) = false) (f0 : List Nat) (s : St)
    (h : Inv victim key f0 s) (t : Tid) : Inv victim key f0 (step victim key s t).1 := by
  -- the leaves of `step` in the order of its text: the pass (lock taken / busy, scan, rmdir with nothing / something left,
  -- rewrite, done), rotation `i` (lock taken / busy, write, done), a reader (the same four)
  fun_cases step victim key s t
  case case1 _ hfree =>
    exact { h with
      region := fun hp => by cases hp <;> contradiction
      scanning := fun _ => rfl
      work := fun i hi => absurd (h.work i hi) (writer_free hfree _)
      clean := fun hp => by contradiction }
  case case2 => exact h
  case case3 hp _ => exact h.in_region (region_ite _) ⟨h.scanning hp, rfl, rfl⟩
  case case4 hp _ => exact h.in_region (.inr rfl) (h.region (.inl hp))
  case case5 hp _ _ _ => exact h.in_region (region_ite _) (h.region (.inl hp))
  case case6 hp =>
    obtain ⟨hw, hpr, hr⟩ := h.region (.inr hp)
    have hm : ∀ k, k ∈ (if s.removed.isEmpty then s.file else s.preserved) ↔ k ∈ s.file ∧ victim k = false := by
      rw [hpr, hr]
      exact fun k => mem_rewrite
    exact {
      surv := fun k h0 hv => (hm k).mpr ⟨h.surv k h0 hv, hv⟩
      ack := fun i hi => (hm _).mpr ⟨h.ack i hi, hk i⟩
      region := fun hp' => by cases hp' <;> contradiction
      scanning := fun hp' => by contradiction
      work := fun i hi => by cases (h.work i hi).symm.trans hw
      clean := fun _ k hf => ((hm k).mp hf).2
      only := fun k hf => h.only k ((hm k).mp hf).1 }
  case case7 => exact h
  case case8 i hl hfree =>
    -- the lock is free: nobody is in a critical section
    exact { h with
      ack := fun j hj => h.ack j (upd_ne hj nofun)
      region := fun hp => absurd (h.region hp).1 (writer_free hfree _)
      scanning := fun hp => absurd (h.scanning hp) (writer_free hfree _)
      work := fun j hj => by
        by_cases e : j = i
        · rw [e]
        · exact absurd (h.work j (upd_other s.apc i j .work e ▸ hj)) (writer_free hfree _)
      only := fun k hf => (h.only k hf).imp_right (Exists.imp fun j hj => ⟨hj.1, upd_keep .work hj.2 (hl ▸ nofun)⟩) }
  case case9 => exact h
  case case10 i hi =>
    -- rotation `i` holds the lock: the pass is outside its critical section
    have hw := h.work i hi
    have notPass : s.writer ≠ some .pass := hw ▸ nofun
    exact {
      surv := fun k h0 hv => List.mem_append_left _ (h.surv k h0 hv)
      ack := fun j hj => by
        by_cases e : j = i
        · exact e ▸ List.mem_append_right _ (List.mem_singleton_self _)
        · exact List.mem_append_left _ (h.ack j (upd_other s.apc i j .done e ▸ hj))
      region := fun hp => absurd (h.region hp).1 notPass
      scanning := fun hp => absurd (h.scanning hp) notPass
      work := fun j (hj : upd s.apc i .done j = .work) => by
        -- no other rotation is at `work`
        have e : j = i := Tid.app.inj (Option.some.inj ((h.work j (upd_ne hj nofun)).symm.trans hw))
        rw [e, upd_same] at hj
        exact nomatch hj
      clean := fun hp k hf => (List.mem_append.mp hf).elim (h.clean hp k) fun e => List.mem_singleton.mp e ▸ hk i
      only := fun k hf => (List.mem_append.mp hf).elim
        (fun e => (h.only k e).imp_right (Exists.imp fun j hj => ⟨hj.1, upd_keep .done hj.2 (hi ▸ nofun)⟩))
        fun e => .inr ⟨i, List.mem_singleton.mp e, upd_same _ _ _⟩ }
  case case11 => exact h
  -- a reader changes nothing the invariant speaks of
  case case12 => exact { h with }
  case case13 => exact h
  case case14 => exact { h with }
  case case15 => exact h

theorem inv_run (victim : Nat → Bool) (key : Nat → Nat) (hk : ∀ i, victim (key i) = false) (f0 : List Nat)
    (sched : List Tid) : ∀ s, Inv victim key f0 s → Inv victim key f0 (run victim key s sched) := by
  induction sched with
  | nil => exact fun _ h => h
  | cons t r ih => exact fun s h => ih _ (inv_step victim key hk f0 s h t)

theorem inv_reachable (victim : Nat → Bool) (key : Nat → Nat) (hk : ∀ i, victim (key i) = false) (f0 d0 : List Nat)
    (sched : List Tid) : Inv victim key f0 (run victim key { file := f0, dirs := d0 } sched) :=
  inv_run victim key hk f0 sched _ (inv_init victim key f0 d0)

theorem Inv.pass_holds_lock (h : Inv victim key f0 s)
    (hp : s.ppc = .scan ∨ s.ppc = .rmdir ∨ s.ppc = .rewrite) : s.writer = some .pass :=
  hp.elim h.scanning fun hp => (h.region hp).1

theorem acked_iff (s : St) (i : Nat) : acked s i = true ↔ s.apc i = .done := beq_iff_eq

end SigModel.Lemmas.C14Conc
