/-
Helper lemmas for the plan / parallelism layer of C06 (Model/PipePlan.lean): sorting theory over an arbitrary
comparison `le : α → α → Bool` that is transitive and total, and antisymmetric on the rows at hand (the op format makes
the last sort key row-unique); `sort` under the Fetch loop; the comparator of `sort`; CanParallelSearch.  Core Lean only.
-/
import SigModel.Model.PipePlan

namespace SigModel.Lemmas.C06P
open List

variable {α : Type} {le : α → α → Bool}

def AS (le : α → α → Bool) (l : List α) : Prop := ∀ a b, a ∈ l → b ∈ l → le a b = true → le b a = true → a = b

theorem AS.mono {l l' : List α} (h : AS le l) (sub : l' ⊆ l) : AS le l' :=
  fun a b ha hb => h a b (sub ha) (sub hb)

theorem AS.of_sort_eq {l l' out : List α} (as : AS le l) (e : l.mergeSort le = out ++ l'.mergeSort le) : AS le l' :=
  as.mono fun _ hy => mem_mergeSort.mp (e ▸ mem_append_right out (mem_mergeSort.mpr hy))

theorem take_merge_take (le : α → α → Bool) (L : Nat) : ∀ (M N : Nat) (xs ys : List α), L ≤ M → L ≤ N →
    (merge (xs.take M) (ys.take N) le).take L = (merge xs ys le).take L := by
  induction L with
  | zero => intros; rfl
  | succ L ih =>
    intro M N xs ys hM hN
    obtain ⟨M, rfl⟩ := Nat.exists_eq_add_one_of_ne_zero (Nat.ne_zero_of_lt hM)
    obtain ⟨N, rfl⟩ := Nat.exists_eq_add_one_of_ne_zero (Nat.ne_zero_of_lt hN)
    fun_cases merge xs ys le with
    | case1 ys => simp only [take_nil, nil_merge, take_take, Nat.min_eq_left hN]
    | case2 xs => simp only [take_nil, merge_right, take_take, Nat.min_eq_left hM]
    | case3 x xs y ys hxy =>
      simp only [take_succ_cons, cons_merge_cons_pos _ _ _ hxy]
      exact congrArg _ (ih M _ xs (y :: ys) (Nat.le_of_succ_le_succ hM) (Nat.le_of_succ_le hN))
    | case4 x xs y ys hxy =>
      simp only [take_succ_cons, cons_merge_cons_neg _ _ _ hxy]
      exact congrArg _ (ih _ N (x :: xs) ys (Nat.le_of_succ_le hM) (Nat.le_of_succ_le_succ hN))

theorem take_merge_take_right (le : α → α → Bool) : ∀ (xs ys : List α) (L M : Nat), L ≤ M →
    (merge xs (ys.take M) le).take L = (merge xs ys le).take L := fun xs ys L M h => by
  rw [← take_merge_take le L (max L xs.length) M xs ys (Nat.le_max_left ..) h, take_of_length_le (Nat.le_max_right ..)]

open SigModel.PipePlan SigModel.Pipe

theorem flatten_map_sortL_subset (le : α → α → Bool) (L : Nat) (shs : List (List α)) :
    (shs.map (sortL le L)).flatten ⊆ shs.flatten := fun _ hx =>
  let ⟨a, ha, hxa⟩ := mem_flatMap.mp hx
  mem_flatten.mpr ⟨a, ha, mem_mergeSort.mp (mem_of_mem_take hxa)⟩

section order
variable (htr : ∀ a b c : α, le a b = true → le b c = true → le a c = true) (htot : ∀ a b : α, (le a b || le b a) = true)
include htr htot

theorem mergeSort_eq {l l' : List α} (as : AS le l) (p : l' ~ l) (s : l'.Pairwise (fun a b => le a b = true)) :
    l.mergeSort le = l' :=
  Perm.eq_of_pairwise (le := fun a b => le a b = true)
    (fun a b ha hb => as a b (mem_mergeSort.mp ha) (p.subset hb)) (pairwise_mergeSort htr htot l) s
    ((mergeSort_perm l le).trans p.symm)

theorem mergeSort_perm_eq {l₁ l₂ : List α} (as : AS le l₁) (p : l₁ ~ l₂) : l₁.mergeSort le = l₂.mergeSort le :=
  mergeSort_eq htr htot as ((mergeSort_perm l₂ le).trans p.symm) (pairwise_mergeSort htr htot l₂)

theorem mergeSort_eq_append {l out l' : List α} (as : AS le l) (p : out ++ l' ~ l)
    (so : out.Pairwise (fun a b => le a b = true)) (h : ∀ x, x ∈ out → ∀ y, y ∈ l' → le x y = true) :
    l.mergeSort le = out ++ l'.mergeSort le :=
  mergeSort_eq htr htot as ((Perm.append_left out (mergeSort_perm l' le)).trans p)
    (pairwise_append.mpr ⟨so, pairwise_mergeSort htr htot l', fun x hx y hy => h x hx y (mem_mergeSort.mp hy)⟩)

theorem merge_mergeSort {a b : List α} (as : AS le (a ++ b)) :
    merge (a.mergeSort le) (b.mergeSort le) le = (a ++ b).mergeSort le :=
  (mergeSort_eq htr htot as ((merge_perm_append le).trans ((mergeSort_perm a le).append (mergeSort_perm b le)))
    (pairwise_merge htr htot _ _ (pairwise_mergeSort htr htot a) (pairwise_mergeSort htr htot b))).symm

theorem sortL_append (L : Nat) {a b : List α} (as : AS le (a ++ b)) :
    sortL le L (a ++ b) = (merge (sortL le L a) (sortL le L b) le).take L := by
  unfold sortL
  rw [← merge_mergeSort htr htot as, take_merge_take le L L L _ _ (Nat.le_refl _) (Nat.le_refl _)]

theorem sortL_idem (L : Nat) (a : List α) : sortL le L (sortL le L a) = sortL le L a := by
  unfold sortL
  rw [mergeSort_of_pairwise ((pairwise_mergeSort htr htot a).sublist (take_sublist L _)), take_take, Nat.min_self]

/-- the merger sees only each chain's own first `L` -/
theorem sortL_flatten_map (L : Nat) (shs : List (List α)) (as : AS le shs.flatten) :
    sortL le L (shs.map (sortL le L)).flatten = sortL le L shs.flatten := by
  induction shs with
  | nil => rfl
  | cons a r ih =>
    rw [map_cons, flatten_cons, flatten_cons, sortL_append htr htot L (as.mono (flatten_map_sortL_subset le L (a :: r))),
      sortL_append htr htot L as, sortL_idem htr htot L a, ih (as.mono (subset_append_right ..))]

end order

section sortproc
variable {le : Row → Row → Bool}
variable (htr : ∀ a b c : Row, le a b = true → le b c = true → le a c = true) (htot : ∀ a b : Row, (le a b || le b a) = true)
include htr htot

theorem sortStep_some (L : Nat) {acc b : Table} (as : AS le (acc ++ b)) :
    sortStep le L (some (sortL le L acc)) b = sortL le L (acc ++ b) :=
  (take_merge_take_right le _ _ L L (Nat.le_refl _)).symm.trans (sortL_append htr htot L as).symm

theorem sort_pass (L : Nat) (parts : List Table) (acc : Table) (as : AS le (acc ++ parts.flatten)) :
    (pass (sortProcLe le L) false { rsf := some (sortL le L acc), done := false } parts).2.flatten
      = sortL le L (acc ++ parts.flatten) := by
  induction parts generalizing acc with
  | nil => rw [flatten_nil, append_nil]; exact append_nil _
  | cons b bs ih =>
    rw [flatten_cons, ← append_assoc] at as ⊢
    rw [← ih (acc ++ b) as, ← sortStep_some htr htot L (as.mono (subset_append_left ..))]
    rfl

theorem sort_runBatched (L : Nat) (parts : List Table) (as : AS le parts.flatten) :
    runBatched (sortProcLe le L) parts = sortL le L parts.flatten := by
  cases parts with
  | nil =>
    rw [flatten_nil, sortL, mergeSort_nil, take_nil]
    rfl
  -- the first batch becomes resultsSoFar: `sortStep le L none b = sortL le L b`
  | cons b bs => exact (sort_pass htr htot L bs b as :)

end sortproc

section cmp
open Std

def textOf : Val → Option String
  | .str s => some s
  | _ => none

def intOf : Val → Option Int
  | .int i => some i
  | _ => none

instance flipCmp {cmp : α → α → Ordering} [TransCmp cmp] : ∀ asc, TransCmp (fun a b => flipOrd asc (cmp a b))
  | true => ‹TransCmp cmp›
  | false => by
    have : (fun a b => flipOrd false (cmp a b)) = fun a b => cmp b a :=
      funext fun a => funext fun b => OrientedCmp.eq_swap.symm
    exact this ▸ TransCmp.opposite

/-- `cmpVal` as a `compareLex` of `compareOn`s, so that its laws come by instance search; `compareOn textOf` puts a number
(`none`) before a text -/
theorem cmpVal_eq (asc : Bool) : (fun a b => cmpVal a b asc) = compareLex (compareOn Val.isNull)
    (fun a b => flipOrd asc (compareLex (compareOn textOf) (compareOn intOf) a b)) := by
  funext a b
  cases a <;> cases b
  case str.str => exact congrArg (flipOrd asc) Ordering.then_eq.symm
  case null.null => cases asc <;> rfl
  all_goals rfl

theorem flip_isLE_true (o : Ordering) : (flipOrd true o).isLE = o.isLE := rfl

theorem cmpVal_transCmp (asc : Bool) : TransCmp (fun a b => cmpVal a b asc) :=
  cmpVal_eq asc ▸ inferInstance

theorem cmpVal_swap (a b : Val) (asc : Bool) : cmpVal a b asc = (cmpVal b a asc).swap :=
  (cmpVal_transCmp asc).eq_swap

instance (asc : Bool) : OrientedCmp (fun a b => cmpVal a b asc) := ⟨fun {a b} => cmpVal_swap a b asc⟩

theorem cmpVal_trans (asc : Bool) (a b c : Val) (h1 : (cmpVal a b asc).isLE = true) (h2 : (cmpVal b c asc).isLE = true) :
    (cmpVal a c asc).isLE = true :=
  (cmpVal_transCmp asc).isLE_trans h1 h2

instance (asc : Bool) : TransCmp (fun a b => cmpVal a b asc) := ⟨fun {a b c} => cmpVal_trans asc a b c⟩

instance cmpRows_transCmp (ks : List (String × Bool)) : TransCmp (cmpRows ks) := by
  induction ks with
  | nil => exact { eq_swap := rfl, isLE_trans := fun _ _ => rfl }
  | cons k ks ih =>
    have : TransCmp (fun (a b : Row) => cmpVal (a.get k.1) (b.get k.1) k.2) :=
      { eq_swap := OrientedCmp.eq_swap (cmp := fun a b => cmpVal a b k.2)
        isLE_trans := TransCmp.isLE_trans (cmp := fun a b => cmpVal a b k.2) }
    exact (inferInstance : TransCmp (compareLex (fun (a b : Row) => cmpVal (a.get k.1) (b.get k.1) k.2) (cmpRows ks)))

theorem leKeys_eq (ks : List (String × Bool)) (a b : Row) : leKeys ks a b = (cmpRows ks b a).isGE := by
  dsimp only [leKeys, lessKeys]
  cases cmpRows ks b a <;> rfl

theorem leKeys_trans (ks : List (String × Bool)) (a b c : Row) (h1 : leKeys ks a b = true) (h2 : leKeys ks b c = true) :
    leKeys ks a c = true := by
  rw [leKeys_eq] at h1 h2 ⊢
  exact TransCmp.isGE_trans h2 h1

theorem leKeys_total (ks : List (String × Bool)) (a b : Row) : (leKeys ks a b || leKeys ks b a) = true := by
  rw [leKeys_eq, leKeys_eq, OrientedCmp.isGE_eq_isLE]
  cases cmpRows ks a b <;> rfl

theorem lessKeys_eq (ks : List (String × Bool)) (a b : Row) : lessKeys ks a b = !leKeys ks b a :=
  (Bool.not_not _).symm

end cmp

theorem canParallelGo_sound (dps : List Flags) (cs : Bool) (i0 i : Nat) (h : canParallelGo cs i0 dps = (true, i)) :
    ∃ k, i = i0 + k ∧ (∃ d, dps[k]? = some d ∧ d.bottleneck = true ∧ d.orderMatters = false ∧ d.generates = false) ∧
      (∀ j d, j < k → dps[j]? = some d → d.bottleneck = false ∧ d.orderMatters = false ∧ d.generates = false) ∧
      (cs = true ∨ ∃ j d, j ≤ k ∧ dps[j]? = some d ∧ d.ignoresOrder = true) := by
  fun_induction canParallelGo cs i0 dps with
  | case4 cs i0 dp rest h1 h2 cs' h3 =>
    injection h with hc hi
    exact ⟨0, hi.symm, ⟨dp, rfl, h3, Bool.of_not_eq_true h1, Bool.of_not_eq_true h2⟩,
      fun j _ hj => absurd hj j.not_lt_zero,
      (Bool.or_eq_true_iff.mp hc).imp_right fun hi => ⟨0, dp, Nat.le_refl _, rfl, hi⟩⟩
  | case5 cs i0 dp rest h1 h2 cs' h3 ih =>
    obtain ⟨k, hk, hb, hpre, hign⟩ := ih h
    refine ⟨k.succ, hk.trans (Nat.succ_add_eq_add_succ ..), hb, fun j d hj hd => ?_, ?_⟩
    · cases j with
      | zero => exact Option.some.inj hd ▸ ⟨Bool.of_not_eq_true h3, Bool.of_not_eq_true h1, Bool.of_not_eq_true h2⟩
      | succ j => exact hpre j d (Nat.lt_of_succ_lt_succ hj) hd
    · rcases hign with hc | ⟨j, d, hj, hd, hi⟩
      · exact (Bool.or_eq_true_iff.mp hc).imp_right fun hi => ⟨0, dp, Nat.zero_le _, rfl, hi⟩
      · exact Or.inr ⟨j.succ, d, Nat.succ_le_succ hj, hd, hi⟩
  | _ => cases h
end SigModel.Lemmas.C06P
