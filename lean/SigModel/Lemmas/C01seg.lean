/-
Lemmas for the multi-block part of C01 (`Model/TlvSeg.lean`): the invariant `SegInv` that ties the per-SEGMENT record
length (`SegSt.size`, AllSeenColumnSizes) to the records of EVERY block written so far, kept by every event and every
flush (`event_genuine`, `flush_out` say what one step does to the size), and what it gives the reader of a block
(`segInv_read`).  At the end the block bookkeeping of AppendWipToSegfile: `runBlk` against its specification `cutBlocks`.
-/
import SigModel.Model.TlvSeg
import SigModel.Lemmas.C01
import SigModel.Lemmas.C01b
import SigModel.Lemmas.C01d

namespace SigModel.Lemmas.C01
open SigModel.Tlv

/-- `evs.any isSome`: the block has the column (some event carries it ⇔ the column has bytes in the block) -/
def BlockLen (c : Nat) (evs : List (Option Val)) : Prop :=
  evs.any Option.isSome = true → ∀ v ∈ evs, (encTLV (getB v)).length = c

/-- for a column the segment knows, the rule that `seenSize` folds over the sizes of one block -/
theorem updSize_some (rc c0 sz : Nat) :
    updSize rc (some c0) sz = some (if c0 = inconsistent then c0 else if c0 ≠ sz then inconsistent else c0) := by
  simp only [updSize, apply_ite some]

theorem updSize_foldl_some (rc : Nat) (l : List Nat) (c0 : Nat) :
    l.foldl (updSize rc) (some c0) =
      some (l.foldl (fun cur sz => if cur = inconsistent then cur else if cur ≠ sz then inconsistent else cur) c0) := by
  induction l generalizing c0 with
  | nil => rfl
  | cons a l ih => rw [List.foldl_cons, updSize_some, ih, List.foldl_cons]

/-- the one-block model (`Model/Tlv.lean`) and the segment's rule agree -/
theorem updSize_foldl_none (rc : Nat) (l : List Nat) : l.foldl (updSize rc) none = seenSize rc l := by
  cases l with
  | nil => rfl
  | cons a l => exact updSize_foldl_some rc l _

/-- `getD c = c`: the size is `c`, or there is none yet -/
theorem updSize_genuine {rc : Nat} {cur : Option Nat} {sz c : Nat} (hc : c ≠ inconsistent)
    (h : (updSize rc cur sz).getD c = c) : cur.getD c = c ∧ sz = c := by
  cases cur with
  | none =>
    refine ⟨rfl, ?_⟩
    by_cases hr : rc > 0
    · exact absurd ((if_pos hr).symm.trans h).symm hc
    · exact (if_neg hr).symm.trans h
  | some d => exact sizeStep_consistent d sz c hc ((congrArg (·.getD c) (updSize_some rc d sz)).symm.trans h)

theorem event_col (f : Bool) (lim : Nat) (st : SegSt) (v : Option Val) :
    (st.eventWith f lim v).col = st.col.step lim st.blkRec v := rfl

theorem event_blocks (f : Bool) (lim : Nat) (st : SegSt) (v : Option Val) :
    (st.eventWith f lim v).blocks = st.blocks := rfl

/-- the third conjunct: the 1-byte records `backFillPastRecords` writes for a column new to the block at a block record
number ≠ 0 -/
theorem event_genuine (lim : Nat) (st : SegSt) (v : Option Val) {c : Nat} (hc : c ≠ inconsistent)
    (h : (st.event lim v).size.getD c = c) :
    st.size.getD c = c ∧ ((st.col.seen || v.isSome) = true → (encTLV (getB v)).length = c) ∧
      (st.col.seen = false → v.isSome = true → st.blkRec ≠ 0 → 1 = c) := by
  obtain ⟨size, rc, rn, ⟨buf, dict, sizes, seen, firstRec⟩, bloom, range, blocks⟩ := st
  cases seen with
  | true =>
    -- the block has the column: one record, one report
    obtain ⟨h1, h2⟩ := updSize_genuine (sz := (encTLV (getB v)).length) hc (by cases v <;> exact h)
    exact ⟨h1, fun _ => h2, fun hf => Bool.noConfusion hf⟩
  | false =>
    cases v with
    | none => exact ⟨h, Bool.noConfusion, fun _ hv => Bool.noConfusion hv⟩
    | some x =>
      -- new to the block: the record's own report, after the report of the back-fill records if there are any
      obtain ⟨h1, h2⟩ := updSize_genuine (sz := (encTLV x).length) hc h
      cases rn with
      | zero => exact ⟨h1, fun _ => h2, fun _ _ hn => absurd rfl hn⟩
      | succ n => exact ⟨(updSize_genuine hc h1).1, fun _ => h2, fun _ _ _ => (updSize_genuine hc h1).2⟩

theorem map_getD_eq (evs : List (Option Val)) : evs.map (fun v => v.getD .backfill) = evs.map getB := rfl

theorem flush_out (st : SegSt) (cur : List (Option Val)) (hf : FillInv st.col cur) :
    ∃ out, (st.flush cur).blocks = st.blocks ++ [out] ∧
      out.buf = (if cur.any Option.isSome then encCol (storedVals out.mixed (cur.map getB)) else []) ∧
      (st.flush cur).size = if out.mixed then some inconsistent else st.size := by
  unfold SegSt.flush
  cases hm : (st.col.seen && st.bloom && st.range) with
  | true =>
    -- a block that is rewritten has the column
    exact ⟨_, rfl, (if_pos (hf.seen.symm.trans (Bool.and_eq_true_iff.mp (Bool.and_eq_true_iff.mp hm).1).1)).symm, rfl⟩
  | false =>
    refine ⟨_, rfl, ?_, rfl⟩
    cases hany : cur.any Option.isSome with
    | true => exact hf.buf (hf.seen.trans hany)
    | false => exact congrArg ColSt.buf (hf.fresh (hf.seen.trans hany))

/-- `done`: the events of the flushed blocks, `cur`: those of the open block -/
structure SegInv (st : SegSt) (done : List (List (Option Val))) (cur : List (Option Val)) : Prop where
  fill : FillInv st.col cur
  blkRec : st.blkRec = cur.length
  nblocks : st.blocks.length = done.length
  rel : ∀ p ∈ st.blocks.zip done,
    p.1.buf = if p.2.any Option.isSome then encCol (storedVals p.1.mixed (p.2.map getB)) else []
  /-- `getD c = c` as in `updSize_genuine` -/
  sized : ∀ c, c ≠ inconsistent → st.size.getD c = c →
    (∀ b ∈ st.blocks, b.mixed = false) ∧ BlockLen c cur ∧ ∀ evs ∈ done, BlockLen c evs

theorem segInv_init : SegInv ({} : SegSt) [] [] :=
  ⟨fillInv_empty, rfl, rfl, List.forall_mem_nil _, fun _ _ _ =>
    ⟨List.forall_mem_nil _, fun h => Bool.noConfusion h, List.forall_mem_nil _⟩⟩

section
variable {st : SegSt} {done : List (List (Option Val))} {cur : List (Option Val)}

theorem event_inv (lim : Nat) (v : Option Val) (inv : SegInv st done cur) :
    SegInv (st.event lim v) done (cur ++ [v]) := by
  refine ⟨?_, (congrArg (· + 1) inv.blkRec).trans (List.length_append (bs := [v])).symm, inv.nblocks, inv.rel,
    fun c hc h => ?_⟩
  · have hcol := step_inv lim st.col cur v inv.fill
    rw [← inv.blkRec] at hcol
    exact hcol
  obtain ⟨h0, hv, hfill⟩ := event_genuine lim st v hc h
  obtain ⟨hmix, hcur, hdone⟩ := inv.sized c hc h0
  refine ⟨hmix, fun hany => ?_, hdone⟩
  rw [List.any_append, List.any_cons, List.any_nil, Bool.or_false, ← inv.fill.seen] at hany
  refine List.forall_mem_append.mpr ⟨fun u hu => ?_, List.forall_mem_singleton.mpr (hv hany)⟩
  cases hs : st.col.seen with
  | true => exact hcur (inv.fill.seen.symm.trans hs) u hu
  | false =>
    -- a column new to the block: the earlier events of the block lack it and get the 1-byte back-fill record
    cases u with
    | some y => exact absurd rfl (List.any_eq_false.mp (inv.fill.seen.symm.trans hs) _ hu)
    | none =>
      refine hfill hs ((Bool.false_or _).symm.trans (hs ▸ hany)) fun hz => ?_
      exact List.ne_nil_of_mem hu (List.eq_nil_of_length_eq_zero (inv.blkRec.symm.trans hz))

theorem events_inv (lim : Nat) (tail : List (Option Val)) (inv : SegInv st done cur) :
    SegInv (tail.foldl (fun s v => s.event lim v) st) done (cur ++ tail) :=
  foldl_inv _ (fun s pre => SegInv s done pre) (fun _ _ v => event_inv lim v) tail st cur inv

theorem flush_inv (inv : SegInv st done cur) : SegInv (st.flush cur) (done ++ [cur]) [] := by
  obtain ⟨out, hb, hbuf, hsz⟩ := flush_out st cur inv.fill
  refine ⟨fillInv_empty, rfl, ?_, ?_, fun c hc h => ?_⟩
  · rw [hb, List.length_append, List.length_append, inv.nblocks]
    rfl
  · rw [hb, List.zip_append inv.nblocks]
    exact List.forall_mem_append.mpr ⟨inv.rel, List.forall_mem_singleton.mpr hbuf⟩
  · -- a rewritten block leaves no genuine size, so nothing is claimed; any other joins `done` as it was filled
    rw [hsz] at h
    cases hm : out.mixed with
    | true =>
      rw [hm] at h
      exact absurd h.symm hc
    | false =>
      rw [hm] at h
      obtain ⟨hmix, hcur, hdone⟩ := inv.sized c hc h
      rw [hb]
      exact ⟨List.forall_mem_append.mpr ⟨hmix, List.forall_mem_singleton.mpr hm⟩, fun hf => Bool.noConfusion hf,
        List.forall_mem_append.mpr ⟨hdone, List.forall_mem_singleton.mpr hcur⟩⟩

theorem block_inv (lim : Nat) (evs : List (Option Val)) (inv : SegInv st done []) :
    SegInv (st.blockWith true lim evs) (done ++ [evs]) [] :=
  flush_inv (events_inv lim evs inv)

theorem writeSeg_inv (lim : Nat) (seg : List (List (Option Val))) : SegInv (writeSeg lim seg) seg [] :=
  foldl_inv _ (fun s pre => SegInv s pre []) (fun _ _ evs => block_inv lim evs) seg {} [] segInv_init

theorem writeSeg_open_inv (lim : Nat) (seg : List (List (Option Val))) (tail : List (Option Val)) :
    SegInv ((writeSeg lim seg).fillOpen lim tail) seg tail :=
  events_inv lim tail (writeSeg_inv lim seg)

theorem segInv_block (inv : SegInv st done cur) {j : Nat} {evs : List (Option Val)} (hj : done[j]? = some evs) :
    ∃ blk, st.blocks[j]? = some blk ∧
      blk.buf = if evs.any Option.isSome then encCol (storedVals blk.mixed (evs.map getB)) else [] := by
  have hj' : j < st.blocks.length := inv.nblocks ▸ (List.getElem?_eq_some_iff.mp hj).1
  exact ⟨st.blocks[j], List.getElem?_eq_getElem hj', inv.rel (st.blocks[j], evs)
    (List.mem_of_getElem? (List.getElem?_zip_eq_some.mpr ⟨List.getElem?_eq_getElem hj', hj⟩))⟩

theorem segInv_read (inv : SegInv st done cur) {j : Nat} {evs : List (Option Val)} (hj : done[j]? = some evs)
    (hsome : evs.any Option.isSome = true)
    (ns : List Nat) (hns : ∀ n ∈ ns, n < evs.length) :
    ∃ blk, st.blocks[j]? = some blk ∧
      (storedVals blk.mixed (evs.map getB)).length = evs.length ∧
      blk.buf = encCol (storedVals blk.mixed (evs.map getB)) ∧
      ∃ rd, Rd.init blk.buf st.hint = .ok rd ∧
        rd.readMany ns = ns.map (fun n => .ok (encTLV ((storedVals blk.mixed (evs.map getB))[n]!))) := by
  obtain ⟨blk, hblk, hbuf⟩ := segInv_block inv hj
  rw [if_pos hsome] at hbuf
  have hlen := (storedVals_length blk.mixed (evs.map getB)).trans (List.length_map getB)
  -- a genuine advertised size: the block was not rewritten, and every record of it has that length
  have hl : LenOk (storedVals blk.mixed (evs.map getB)) st.hint := by
    refine lenOk_getD _ _ fun c hsz hc => ?_
    obtain ⟨hmix, _, hdone⟩ := inv.sized c hc (congrArg (·.getD c) hsz)
    rw [hmix blk (List.mem_of_getElem? hblk)]
    exact List.forall_mem_map.mpr (hdone evs (List.mem_of_getElem? hj) hsome)
  refine ⟨blk, hblk, hlen, hbuf, ?_⟩
  rw [hbuf]
  exact readMany_init hl (hlen ▸ length_pos_of_any hsome) ns (hlen ▸ hns)

end

/-- block number = position -/
def enumBlocks (l : List Nat) : List (Nat × Nat) := l.zipIdx.map (fun p => (p.2, p.1))

theorem enumBlocks_snoc (l : List Nat) (n : Nat) : enumBlocks (l ++ [n]) = enumBlocks l ++ [(l.length, n)] := by
  simp [enumBlocks, List.zipIdx_append]

theorem enumBlocks_getElem? (l : List Nat) (b : Nat) : (enumBlocks l)[b]? = (l[b]?).map (fun n => (b, n)) := by
  rw [enumBlocks, List.getElem?_map, List.getElem?_zipIdx, Option.map_map]
  exact congrArg (fun k => Option.map (fun n => (k, n)) l[b]?) (Nat.zero_add b)

structure BlkInv (st : BlkSt) (sp : List Nat × Nat) : Prop where
  bsu : st.bsu = enumBlocks sp.1
  nb : st.numBlocks = sp.1.length
  recs : st.blkRec = sp.2

theorem blk_step (st : BlkSt) (sp : List Nat × Nat) (op : BlkOp) (inv : BlkInv st sp) :
    BlkInv (st.opWith true op) (cutStep sp op) := by
  cases op with
  | ev k => exact ⟨inv.bsu, inv.nb, congrArg (· + 1) inv.recs⟩
  | flush =>
    dsimp only [BlkSt.opWith, BlkSt.flushWith, cutStep]
    rw [← inv.recs]
    by_cases h0 : st.blkRec = 0
    · rw [if_pos h0, if_pos h0]
      exact inv
    · rw [if_neg h0, if_neg h0]
      exact ⟨by rw [enumBlocks_snoc, ← inv.bsu, ← inv.nb]; rfl,
        (congrArg (· + 1) inv.nb).trans (List.length_append (bs := [st.blkRec])).symm, rfl⟩

theorem runBlk_inv (ops : List BlkOp) : BlkInv (runBlk ops) (cutBlocks ops) :=
  foldl_inv (BlkSt.opWith true) (fun st pre => BlkInv st (pre.foldl cutStep ([], 0)))
    (fun st _ op inv => List.foldl_append ▸ blk_step st _ op inv) ops {} [] ⟨rfl, rfl, rfl⟩

end SigModel.Lemmas.C01
