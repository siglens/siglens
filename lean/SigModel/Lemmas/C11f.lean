/-
The get-or-create machine of the segstore table (`Model/ConcCreate.lean`) with the program order of createSegStore
extracted from the source and the mark-and-retry protocol of removeStaleSegments / AddEntryToInMemBuf (`Cfg.real`):
the state invariant and its preservation by every step of every schedule.  A call inside createSegStore is described
by its next statement (`after`); only the holder of allSegStoresLock knows anything about the table and the suffix
file, so a step of call `t` keeps what is known about every other call through one lemma (`ThreadOk.frame`).
-/
import SigModel.Model.ConcCreate
namespace SigModel.Lemmas.C11f
open SigModel.ConcCreate

theorem upd_self {α : Type} (f : Nat → α) (i : Nat) (v : α) : upd f i v i = v := if_pos rfl

theorem upd_ne {α : Type} (f : Nat → α) {i j : Nat} (v : α) (h : j ≠ i) : upd f i v j = f j := if_neg h

theorem upd_cases {α : Type} {f : Nat → α} {i : Nat} {v : α} (P : Nat → α → Prop) (h1 : P i v)
    (h2 : ∀ j, j ≠ i → P j (f j)) (j : Nat) : P j (upd f i v j) := by
  by_cases e : j = i
  · rw [e, upd_self]
    exact h1
  · rw [upd_ne _ _ e]
    exact h2 j e

theorem upd_eq {α : Type} {f : Nat → α} {i j : Nat} {v w : α} (h : upd f i v j = w) : j = i ∧ v = w ∨ j ≠ i ∧ f j = w :=
  upd_cases (fun j x => x = w → j = i ∧ v = w ∨ j ≠ i ∧ f j = w) (fun e => .inl ⟨rfl, e⟩) (fun _ hj e => .inr ⟨hj, e⟩) j h

theorem upd_field {α β : Type} (f : α → β) (g : Nat → α) (i : Nat) (v : α) (h : f v = f (g i)) (j : Nat) :
    f (upd g i v j) = f (g j) :=
  upd_cases (fun j w => f w = f (g j)) h (fun _ _ => rfl) j

/-- the rest of `Cfg.real.prog` after statement `a` (every statement occurs once) -/
def after : CStep → List CStep
  | .lock => [.recheck, .sufRead, .sufWrite, .insert, .unlock]
  | .recheck => [.sufRead, .sufWrite, .insert, .unlock]
  | .sufRead => [.sufWrite, .insert, .unlock]
  | .sufWrite => [.insert, .unlock]
  | .insert => [.unlock]
  | .unlock => []

/-- the `todo` of a call whose store is built and waits for its insert -/
abbrev atInsert : List CStep := [.insert, .unlock]

def RetOk (s : St) (th : Thread) : Prop :=
  ∃ r, th.ret = some r ∧ r < s.nstores ∧ ((s.store r).removed = false → s.table th.stream = some r)

def Lk (lk : Option Nat) (t : Nat) : CStep → Prop
  | .lock => lk ≠ some t
  | _ => lk = some t

/-- what the lock holder knows before its next statement -/
def Data (s : St) (th : Thread) : CStep → Prop
  | .sufRead => s.table th.stream = none
  | .sufWrite => s.table th.stream = none ∧ th.suf = s.sufFile th.stream
  | .insert => s.table th.stream = none ∧ ∃ m, th.mine = some m ∧ m < s.nstores ∧
      (s.store m).stream = th.stream ∧ (s.store m).removed = false
  | .unlock => RetOk s th
  | _ => True

def PcOk (s : St) (t : Nat) (th : Thread) : Pc → Prop
  | .create (a :: rest) => rest = after a ∧ Lk s.lock t a ∧ Data s th a
  | .create [] => False
  | .append => s.lock ≠ some t ∧ RetOk s th
  | .done => s.lock ≠ some t ∧ ∃ r, (t, r) ∈ s.acked
  | _ => s.lock ≠ some t

def ThreadOk (s : St) (t : Nat) (th : Thread) : Prop := PcOk s t th th.pc

theorem ThreadOk.at {s : St} {t : Nat} {th : Thread} {pc : Pc} (h : ThreadOk s t th) (e : th.pc = pc) :
    PcOk s t th pc := e ▸ h

def Pending (thread : Nat → Thread) (m : Nat) : Prop :=
  ∃ t, (thread t).pc = .create atInsert ∧ (thread t).mine = some m

def Handed (hd : List (Nat × Nat)) (sf : Nat → Nat) : Prop := (∀ i x, (i, x) ∈ hd → x < sf i) ∧ hd.Nodup

/-- `E`: no eviction has happened so far.  Only then does `built` hold: an evicted store is neither registered nor
waiting for its insert. -/
structure Inv (E : Prop) (s : St) : Prop where
  tab : ∀ i r, s.table i = some r → r < s.nstores ∧ (s.store r).stream = i ∧ (s.store r).removed = false
  ack : ∀ e r, (e, r) ∈ s.acked → e ∈ s.persisted ∨ e ∈ (s.store r).events ∧ s.table (s.store r).stream = some r
  handed : Handed s.handed s.sufFile
  th : ∀ t, ThreadOk s t (s.thread t)
  built : E → ∀ m, m < s.nstores → s.table (s.store m).stream = some m ∨ Pending s.thread m

theorem inv_init {E : Prop} : Inv E init :=
  ⟨nofun, nofun, ⟨nofun, .nil⟩, fun _ => nofun, fun _ _ hm => absurd hm (Nat.not_lt_zero _)⟩

theorem holder_pc {s : St} {t : Nat} {th : Thread} (h : ThreadOk s t th) (hl : s.lock = some t) :
    ∃ a rest, th.pc = .create (a :: rest) ∧ a ≠ .lock ∧ CStep.unlock ∈ a :: rest := by
  unfold ThreadOk PcOk at h
  split at h
  next a rest hp =>
    obtain ⟨rfl, h2, _⟩ := h
    refine ⟨a, _, hp, fun e => ?_, ?_⟩
    · subst e
      exact h2 hl
    · cases a <;> decide
  · exact h.elim
  · exact absurd hl h.1
  · exact absurd hl h.1
  · exact absurd hl h

theorem ThreadOk.frame {s s' : St} {u : Nat} {th : Thread} (h : ThreadOk s u th)
    (hl : s'.lock = some u ↔ s.lock = some u)
    (hr : RetOk s th → RetOk s' th) (ha : ∀ x, x ∈ s.acked → x ∈ s'.acked)
    (hd : ∀ a, s.lock = some u → Data s th a → Data s' th a) : ThreadOk s' u th := by
  unfold ThreadOk PcOk at *
  split at h
  next a _ _ =>
    obtain ⟨h1, h2, h3⟩ := h
    cases a
    · exact ⟨h1, mt hl.1 h2, trivial⟩
    all_goals exact ⟨h1, hl.2 h2, hd _ h2 h3⟩
  · exact h
  · exact ⟨mt hl.1 h.1, hr h.2⟩
  · exact ⟨mt hl.1 h.1, h.2.imp fun r => ha _⟩
  · exact mt hl.1 h

theorem RetOk.fields {s s' : St} {th : Thread} (h : RetOk s th) (ht : s'.table = s.table) (hn : s'.nstores = s.nstores)
    (hrm : ∀ x, (s'.store x).removed = (s.store x).removed) : RetOk s' th :=
  let ⟨x, h1, h2, h3⟩ := h
  ⟨x, h1, hn ▸ h2, fun e => ht ▸ h3 ((hrm x).symm.trans e)⟩

theorem Pending.upd {s : St} {t m : Nat} (th' : Thread) (hpc : (s.thread t).pc ≠ .create atInsert) :
    Pending s.thread m → Pending (upd s.thread t th') m
  | ⟨u, h1, h2⟩ => ⟨u, (upd_ne s.thread th' fun (e : u = t) => hpc (e ▸ h1)).symm ▸ ⟨h1, h2⟩⟩

theorem threads_upd {s' : St} {thread : Nat → Thread} {t : Nat} {th' : Thread} (ht : ThreadOk s' t th')
    (ho : ∀ u, u ≠ t → ThreadOk s' u (thread u)) (u : Nat) : ThreadOk s' u (upd thread t th' u) :=
  upd_cases (ThreadOk s') ht ho u

theorem inv_local {E : Prop} {s : St} (h : Inv E s) {t : Nat} {th' : Thread} {lk' : Option Nat} {st' : List Nat}
    (hpc : (s.thread t).pc ≠ .create atInsert) (hlk : ∀ u, u ≠ t → (lk' = some u ↔ s.lock = some u))
    (ht : ThreadOk { s with lock := lk', thread := upd s.thread t th', started := st' } t th') :
    Inv E { s with lock := lk', thread := upd s.thread t th', started := st' } :=
  ⟨h.tab, h.ack, h.handed,
   threads_upd ht fun u hu => (h.th u).frame (hlk u hu) id (fun _ => id) fun _ _ => id,
   fun he m hm => (h.built he m hm).imp_right (.upd th' hpc)⟩

theorem other_not_holder {s : St} {t u : Nat} (hl : s.lock = some t) (hu : u ≠ t) : s.lock ≠ some u :=
  fun e => hu (Option.some.inj (e.symm.trans hl))

theorem Handed.snoc {hd : List (Nat × Nat)} {sf : Nat → Nat} (h : Handed hd sf) (i : Nat) :
    Handed (hd ++ [(i, sf i)]) (upd sf i (sf i + 1)) := by
  refine ⟨fun j x hx => ?_, List.nodup_append.2 ⟨h.2, List.pairwise_singleton _ _, fun a ha b hb e => ?_⟩⟩
  · rcases List.mem_append.1 hx with hx | hx
    · exact upd_cases (fun j y => (j, x) ∈ hd → x < y) (fun hx => Nat.lt_succ_of_lt (h.1 i x hx)) (fun j _ => h.1 j x) j hx
    · cases List.mem_singleton.1 hx
      rw [upd_self]
      exact Nat.lt_succ_self _
  · cases List.mem_singleton.1 hb
    subst e
    exact Nat.lt_irrefl _ (h.1 _ _ ha)

theorem inv_get {E : Prop} {s : St} {t i : Nat} (h : Inv E s) (hpc : (s.thread t).pc ≠ .create atInsert) :
    Inv E (getStep Cfg.real s t i) := by
  unfold getStep
  cases hl : s.lock with
  | some _ => exact h
  | none =>
    cases ht : s.table i with
    | some r =>
      exact inv_local h hpc (fun _ _ => hl ▸ .rfl) ⟨nofun, r, rfl, (h.tab i r ht).1, fun _ => ht⟩
    | none => exact inv_local h hpc (fun _ _ => hl ▸ .rfl) ⟨rfl, nofun, trivial⟩

theorem inv_create {E : Prop} {s : St} {t : Nat} {a : CStep} {rest : List CStep} (h : Inv E s)
    (hpc : (s.thread t).pc = .create (a :: rest)) : Inv E (createStep s t a rest) := by
  obtain ⟨rfl, hl, hd⟩ := (h.th t).at hpc
  have hni : a ≠ .insert → (s.thread t).pc ≠ .create atInsert := fun ha e =>
    ha (List.cons.inj (Pc.create.inj (hpc.symm.trans e))).1
  cases a with dsimp only [createStep]
  | lock =>
    cases hk : s.lock with
    | some _ => exact h
    | none =>
      exact inv_local h (hni nofun) (fun u hu => hk ▸ ⟨fun e => absurd (Option.some.inj e) (Ne.symm hu), nofun⟩)
        ⟨rfl, rfl, trivial⟩
  | recheck =>
    cases ht : s.table (s.thread t).stream with
    | some r =>
      rw [if_pos (c := s.lock = some t) hl]
      exact inv_local h (hni nofun) (fun _ _ => .rfl) ⟨rfl, hl, r, rfl, (h.tab _ r ht).1, fun _ => ht⟩
    | none => exact inv_local h (hni nofun) (fun _ _ => .rfl) ⟨rfl, hl, ht⟩
  | sufRead => exact inv_local h (hni nofun) (fun _ _ => .rfl) ⟨rfl, hl, hd, rfl⟩
  | unlock =>
    rw [if_pos (c := s.lock = some t) hl]
    exact inv_local h (hni nofun) (fun u hu => ⟨nofun, fun e => absurd e (other_not_holder hl hu)⟩) ⟨nofun, hd⟩
  | sufWrite =>
    -- the new store takes the next number: the stores built so far are untouched
    have hold : ∀ r, r < s.nstores → ∀ v, upd s.store s.nstores v r = s.store r := fun r hr v =>
      upd_ne _ _ (Nat.ne_of_lt hr)
    refine ⟨fun j r hx => ?_, fun e r hx => ?_, ?_, threads_upd ?_ fun u hu => ?_, fun he m hm => ?_⟩
    · have k := h.tab j r hx
      dsimp only
      rw [hold r k.1]
      exact ⟨Nat.lt_succ_of_lt k.1, k.2⟩
    · refine (h.ack e r hx).imp_right fun k => ?_
      dsimp only
      rw [hold r (h.tab _ r k.2).1]
      exact k
    · dsimp only
      rw [hd.2]
      exact h.handed.snoc _
    · exact ⟨rfl, hl, hd.1, _, rfl, Nat.lt_succ_self _, congrArg Store.stream (upd_self _ _ _),
        congrArg Store.removed (upd_self _ _ _)⟩
    · refine (h.th u).frame .rfl (Exists.imp fun r k => ⟨k.1, Nat.lt_succ_of_lt k.2.1, ?_⟩) (fun _ => id)
        fun _ e => absurd e (other_not_holder hl hu)
      dsimp only
      rw [hold r k.2.1]
      exact k.2.2
    · rcases Nat.lt_succ_iff_lt_or_eq.1 hm with hm | rfl
      · refine (h.built he m hm).imp ?_ (.upd _ (hni nofun))
        dsimp only
        rw [hold m hm]
        exact id
      · exact .inr ⟨t, congrArg Thread.pc (upd_self _ _ _), congrArg Thread.mine (upd_self _ _ _)⟩
  | insert =>
    obtain ⟨hnone, m, hm, hm1, hm2, hm3⟩ := hd
    rw [hm]
    dsimp only
    -- the table had no entry for the stream: what is registered is of another stream and stays registered
    have hreg : ∀ j r, s.table j = some r → upd s.table (s.thread t).stream (some m) j = some r := fun j r hx =>
      (upd_ne _ _ fun e => nomatch (e ▸ hx).symm.trans hnone).trans hx
    refine ⟨fun j r hx => ?_, fun e r hx => ?_, h.handed, threads_upd ?_ fun u hu => ?_, fun he m' hm' => .inl ?_⟩
    · rcases upd_eq hx with ⟨rfl, e⟩ | ⟨_, hx⟩
      · cases e
        exact ⟨hm1, hm2, hm3⟩
      · exact h.tab j r hx
    · exact (h.ack e r hx).imp_right fun k => ⟨k.1, hreg _ _ k.2⟩
    · exact ⟨rfl, hl, m, rfl, hm1, fun _ => upd_self _ _ _⟩
    · exact (h.th u).frame .rfl (Exists.imp fun r k => ⟨k.1, k.2.1, fun e => hreg _ _ (k.2.2 e)⟩) (fun _ => id)
        fun _ e => absurd e (other_not_holder hl hu)
    · rcases h.built he m' hm' with hr | ⟨u, h1, h2⟩
      · exact hreg _ _ hr
      · cases Option.some.inj (hl.symm.trans ((h.th u).at h1).2.1)
        cases Option.some.inj (hm.symm.trans h2)
        dsimp only
        rw [hm2]
        exact upd_self _ _ _

theorem inv_call {E : Prop} {s : St} {t i : Nat} (h : Inv E s) : Inv E (callStep Cfg.real s t i) := by
  have ht := h.th t
  unfold ThreadOk at ht
  unfold callStep
  dsimp only
  cases hp : (s.thread t).pc with rw [hp] at ht
  | idle => exact inv_get h fun e => nomatch hp.symm.trans e
  | retry => exact inv_get h fun e => nomatch hp.symm.trans e
  | create todo =>
    cases todo with
    | nil => exact ht.elim
    | cons a rest => exact inv_create h hp
  | done => exact h
  | append =>
    obtain ⟨hn, r, hr, _, hreg⟩ := ht
    have hni : (s.thread t).pc ≠ .create atInsert := fun e => nomatch hp.symm.trans e
    rw [hr]
    dsimp only
    by_cases hrem : (s.store r).removed = true
    · rw [if_pos ⟨rfl, hrem⟩]
      exact inv_local h hni (fun _ _ => .rfl) hn
    · rw [if_neg fun e => hrem e.2]
      have hreg := hreg (Bool.eq_false_iff.2 hrem)
      have hst := upd_field Store.stream s.store r { s.store r with events := (s.store r).events ++ [t] } rfl
      have hrm := upd_field Store.removed s.store r { s.store r with events := (s.store r).events ++ [t] } rfl
      refine ⟨fun j x hx => (h.tab j x hx).imp id (And.imp (hst x).trans (hrm x).trans), fun e x hx => ?_, h.handed,
        threads_upd ⟨hn, r, ?_⟩ fun u _ => ?_, fun he m hm => ?_⟩
      · rcases List.mem_append.1 hx with hx | hx
        · -- an earlier acknowledgement: the append only adds to the events of `r` and keeps its stream
          exact (h.ack e x hx).imp_right fun k => ⟨upd_cases (fun x (st : Store) => e ∈ (s.store x).events → e ∈ st.events)
            (List.mem_append_left _) (fun _ _ => id) x k.1, (congrArg _ (hst x)).trans k.2⟩
        · -- the new one: `t` is now among the events of `r`, and `r` is registered (`hreg`)
          cases List.mem_singleton.1 hx
          exact .inr ⟨(congrArg Store.events (upd_self _ _ _)).symm ▸ List.mem_append_right _ (List.mem_singleton_self _),
            (congrArg _ ((hst r).trans (h.tab _ r hreg).2.1)).trans hreg⟩
      · exact List.mem_append_right _ (List.mem_singleton_self _)
      · exact (h.th u).frame .rfl (·.fields rfl rfl hrm) (fun _ => List.mem_append_left _) fun a _ hd => by
          cases a
          case insert => exact ⟨hd.1, hd.2.imp fun m k => ⟨k.1, k.2.1, (hst m).trans k.2.2.1, (hrm m).trans k.2.2.2⟩⟩
          case unlock => exact RetOk.fields hd rfl rfl hrm
          all_goals exact hd
      · exact (h.built he m hm).imp (congrArg _ (hst m)).trans (.upd _ hni)

theorem inv_flush {E : Prop} {s : St} {i : Nat} (h : Inv E s) : Inv E (flushStep s i) := by
  unfold flushStep
  cases hl : s.lock with
  | some _ => exact h
  | none =>
    cases ht : s.table i with
    | none => exact h
    | some r =>
      dsimp only
      by_cases hev : (s.store r).events = []
      · rw [if_pos hev]
        exact h
      · rw [if_neg hev]
        have hst := upd_field Store.stream s.store r { s.store r with events := [], suffix := s.sufFile i } rfl
        have hrm := upd_field Store.removed s.store r { s.store r with events := [], suffix := s.sufFile i } rfl
        refine ⟨fun j x hx => (h.tab j x hx).imp id (And.imp (hst x).trans (hrm x).trans), fun e x hx => ?_,
          h.handed.snoc i, fun u => ?_, fun he m hm => ?_⟩
        · have h2 := h.ack e x hx
          by_cases hxr : x = r
          · exact .inl (List.mem_append.2 (hxr ▸ h2.imp_right And.left))
          · dsimp only
            rw [upd_ne _ _ hxr]
            exact h2.imp_left (List.mem_append_left _)
        · exact (h.th u).frame (hl ▸ .rfl) (·.fields rfl rfl hrm) (fun _ => id) fun _ e => nomatch hl.symm.trans e
        · exact (h.built he m hm).imp_left (congrArg _ (hst m)).trans

theorem Inv.weaken {E E' : Prop} {s : St} (h : Inv E s) (f : E' → E) : Inv E' s :=
  ⟨h.tab, h.ack, h.handed, h.th, fun e => h.built (f e)⟩

theorem inv_evict {E : Prop} {s : St} {i : Nat} (h : Inv E s) : Inv False (evictStep Cfg.real s i) := by
  unfold evictStep
  cases hl : s.lock with
  | some _ => exact h.weaken nofun
  | none =>
    cases ht : s.table i with
    | none => exact h.weaken nofun
    | some r =>
      dsimp only
      by_cases hev : (s.store r).events = []
      · rw [if_pos hev]
        have hst := upd_field Store.stream s.store r { s.store r with removed := Cfg.real.retry } rfl
        have hne : ∀ j x, s.table j = some x → x ≠ r → j ≠ i := fun j x hx hxr e =>
          hxr (Option.some.inj ((e ▸ hx).symm.trans ht))
        refine ⟨fun j x hx => ?_, fun e x hx => ?_, h.handed, fun u => ?_, nofun⟩
        · rcases upd_eq hx with ⟨_, e⟩ | ⟨hj, hx⟩
          · cases e
          · obtain ⟨h1, h2, h3⟩ := h.tab j x hx
            have hxr : x ≠ r := fun e => hj (h2.symm.trans (e ▸ (h.tab i r ht).2.1))
            exact ⟨h1, (hst x).trans h2, (congrArg _ (upd_ne _ _ hxr)).trans h3⟩
        · refine (h.ack e x hx).imp_right fun k => ?_
          have hxr : x ≠ r := fun c => nomatch hev ▸ c ▸ k.1
          dsimp only
          rw [upd_ne _ _ hxr, upd_ne _ _ (hne _ x k.2 hxr)]
          exact k
        · refine (h.th u).frame (hl ▸ .rfl) (Exists.imp fun x k => ⟨k.1, k.2.1, fun e => ?_⟩) (fun _ => id)
            fun _ e => nomatch hl.symm.trans e
          -- a store that is still unmarked is not `r`: it was registered, for another stream, and stays so
          have hxr : x ≠ r := fun e' => by
            subst e'
            exact nomatch (congrArg Store.removed (upd_self s.store x _)).symm.trans e
          have hreg := k.2.2 ((congrArg _ (upd_ne _ _ hxr)).symm.trans e)
          exact (upd_ne _ _ (hne _ x hreg hxr)).trans hreg
      · rw [if_neg hev]
        exact h.weaken nofun

theorem inv_step {E : Prop} {s : St} {l : Label} (h : Inv E s) : Inv (E ∧ ∀ i, l ≠ .evict i) (step Cfg.real s l) := by
  cases l with
  | call t i => exact (inv_call h).weaken And.left
  | flush i => exact (inv_flush h).weaken And.left
  | evict i => exact (inv_evict h).weaken fun e => e.2 i rfl

theorem inv_run {E : Prop} (ls : List Label) (s : St) (h : Inv E s) :
    Inv (E ∧ evictFree ls = true) (run Cfg.real s ls) := by
  induction ls generalizing s E with
  | nil => exact h.weaken And.left
  | cons l ls ih =>
    refine (ih _ (inv_step (l := l) h)).weaken fun e => ?_
    cases l
    case evict => exact nomatch e.2
    all_goals exact ⟨⟨e.1, nofun⟩, e.2⟩

theorem inv_reach (sched : List Label) : Inv (evictFree sched = true) (run Cfg.real init sched) :=
  (inv_run sched init (inv_init (E := True))).weaken fun e => ⟨trivial, e⟩

theorem one_store {E : Prop} {s : St} (h : Inv E s) (he : E) {m1 m2 : Nat} (h1 : m1 < s.nstores) (h2 : m2 < s.nstores)
    (hs : (s.store m1).stream = (s.store m2).stream) : m1 = m2 := by
  have pend : ∀ m, Pending s.thread m →
      ∃ t, s.lock = some t ∧ (s.thread t).mine = some m ∧ s.table (s.store m).stream = none := fun m ⟨t, hp, hm⟩ => by
    obtain ⟨_, hl, h3, m', h4, _, h6, _⟩ := (h.th t).at hp
    cases Option.some.inj (hm.symm.trans h4)
    exact ⟨t, hl, hm, h6 ▸ h3⟩
  rcases h.built he m1 h1 with r1 | p1
  · rcases h.built he m2 h2 with r2 | p2
    · exact Option.some.inj ((hs ▸ r1).symm.trans r2)
    · obtain ⟨_, _, _, n2⟩ := pend m2 p2
      exact nomatch (hs ▸ r1).symm.trans n2
  · obtain ⟨t1, l1, q1, n1⟩ := pend m1 p1
    rcases h.built he m2 h2 with r2 | p2
    · exact nomatch (hs ▸ n1).symm.trans r2
    · -- both wait for their insert: their builders hold the lock, so they are one call
      obtain ⟨t2, l2, q2, _⟩ := pend m2 p2
      cases Option.some.inj (l1.symm.trans l2)
      exact Option.some.inj (q1.symm.trans q2)

theorem flush_persists {E : Prop} {s : St} (h : Inv E s) (hl : s.lock = none) {e r : Nat} (ha : (e, r) ∈ s.acked) :
    e ∈ (flushStep s (s.store r).stream).persisted := by
  unfold flushStep
  rw [hl]
  rcases h.ack e r ha with hp | ⟨he, hreg⟩
  · cases s.table (s.store r).stream with
    | none => exact hp
    | some x =>
      dsimp only
      by_cases hev : (s.store x).events = []
      · rw [if_pos hev]
        exact hp
      · rw [if_neg hev]
        exact List.mem_append_left _ hp
  · rw [hreg]
    dsimp only
    rw [if_neg fun hc => nomatch hc ▸ he]
    exact List.mem_append_right _ he

end SigModel.Lemmas.C11f
