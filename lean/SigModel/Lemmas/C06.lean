/-
Helper lemmas for C06 (pipeline commands are chunk-invariant): what the Fetch loop `pass` of a streaming command hands downstream
is a function of the rows of the upstream (`pass_flatten`), with head, scroll and the row-wise commands as instances; tail, which
withholds everything until the end and keeps its answer as its final result, so that a later read repeats it (`tail_pass`,
`tail_reread`); the two passes of fillnull.  Core Lean only.
-/
import SigModel.Model.Pipe

namespace SigModel.Lemmas.C06
open SigModel.Pipe

theorem runBatched_onePass (p : Proc σ) (h : p.twoPass = false) (parts : List Table) :
    runBatched p parts = ((pass p (!p.bottleneck) p.init parts).2).flatten := by
  unfold runBatched runBatches
  rw [h, if_neg Bool.false_ne_true]

theorem otl_flatten (o : Option Table) : (otl o).flatten = o.getD [] := by
  cases o with
  | none => rfl
  | some t => exact List.append_nil t

/-- `F s rows`: all that `p` hands out from state `s` on, as a function of the rows -/
theorem pass_flatten (p : Proc σ) (F : σ → Table → Table)
    (hfin : ∀ s, p.final s = none ∧ (p.finish s).2.getD [] = F s [])
    (hstep : ∀ s b t, F s (b ++ t) = (p.process s b).2.1.getD [] ++ F (p.process s b).1 t ∧
      ((p.process s b).2.2 = true → F (p.process s b).1 t = []))
    (parts : List Table) (s : σ) : ((pass p true s parts).2).flatten = F s parts.flatten := by
  fun_induction pass p true s parts with
  | case1 s o h => exact absurd (h.symm.trans (hfin s).1) (Option.some_ne_none o)
  | case2 s h r => exact (otl_flatten _).trans (hfin s).2
  | case3 s b bs o h => exact absurd (h.symm.trans (hfin s).1) (Option.some_ne_none o)
  | case4 s b bs h r hb =>
    rw [List.flatten_cons, (hstep s b _).1, (hstep s b _).2 hb, List.append_nil]
    exact otl_flatten _
  | case5 s b bs h r hb rest ih =>
    rw [List.flatten_cons, (hstep s b _).1, List.flatten_append, ih, if_pos rfl, otl_flatten]

/-- a limit kept across batches by counting what was sent: head's numRecordsSent, getStreamInput's numReturned -/
theorem take_sub_append (n s : Nat) (b t : List α) :
    (b ++ t).take (n - s) = b.take (n - s) ++ t.take (n - (s + (b.take (n - s)).length)) := by
  rw [List.take_append, List.length_take, Nat.sub_add_eq, ← Nat.sub_eq_sub_min]

theorem head_pass (n : Nat) (parts : List Table) (s : Nat) :
    ((pass (headProc n) true s parts).2).flatten = parts.flatten.take (n - s) :=
  pass_flatten (headProc n) (fun s t => t.take (n - s)) (fun _ => ⟨rfl, List.take_nil.symm⟩)
    (fun s b t => ⟨take_sub_append n s b t, fun h =>
      List.take_eq_nil_iff.2 (Or.inl (Nat.sub_eq_zero_of_le (of_decide_eq_true h)))⟩) parts s

theorem scroll_process (f rem : Nat) (b : Table) :
    (scrollProc f).process rem b = (rem - b.length, some (b.drop rem), false) := by
  symm
  dsimp only [scrollProc]
  refine iteInduction (fun h0 => ?_) fun h0 => iteInduction (fun h => ?_) fun h => ?_
  · rw [h0, Nat.zero_sub]
    rfl
  · rw [Nat.sub_eq_zero_of_le (Nat.le_of_lt h)]
  · rw [List.drop_length, List.drop_of_length_le (Nat.le_of_not_lt h)]

theorem scroll_pass (f : Nat) (parts : List Table) (rem : Nat) :
    ((pass (scrollProc f) true rem parts).2).flatten = parts.flatten.drop rem := by
  refine pass_flatten (scrollProc f) (fun rem t => t.drop rem) (fun s => ⟨rfl, List.drop_nil.symm⟩)
    (fun rem b t => ?_) parts rem
  rw [scroll_process]
  exact ⟨List.drop_append, Bool.noConfusion⟩

theorem tail_process (n : Nat) (f : Option Table) (b : Table) :
    (tailProc n).process { fin := f, eof := false } b
      = ({ fin := some ((f.getD [] ++ b).reverse.take n).reverse, eof := false }, none, false) := by
  have hb : b.drop (b.length - n) = (b.reverse.take n).reverse := by rw [List.take_reverse, List.reverse_reverse]
  cases f with
  | none => exact congrArg (fun x => (({ fin := some x, eof := false } : TailSt), none, false)) hb
  | some f =>
    symm
    dsimp only [tailProc, Option.getD_some]
    rw [List.reverse_append, List.take_append, List.reverse_append, List.length_reverse,
      List.take_reverse, List.reverse_reverse, ← hb]
    refine iteInduction (fun h => ?_) fun h => ?_
    · rw [Nat.sub_eq_zero_of_le h, Nat.sub_zero, List.drop_length]
      rfl
    · rw [Nat.sub_eq_zero_of_le (Nat.le_of_not_le h), List.drop_zero]

theorem pass_final (p : Proc σ) (e : Bool) (s : σ) (o : Option Table) (h : p.final s = some o) (parts : List Table) :
    pass p e s parts = (s, otl o) := by
  cases parts <;> unfold pass <;> rw [h]

/-- tail is head of the stream read backwards (hence `reverse.take`); `hf`: the state never holds more than `n` rows -/
theorem tail_pass (n : Nat) (parts : List Table) (f : Option Table) (hf : (f.getD []).length ≤ n) :
    ∃ o, pass (tailProc n) false { fin := f, eof := false } parts = ({ fin := o, eof := true }, otl o) ∧
      o.getD [] = (f.getD [] ++ parts.flatten).reverse.take n := by
  induction parts generalizing f with
  | nil =>
    rw [List.flatten_nil, List.append_nil, List.take_of_length_le (Nat.le_trans (Nat.le_of_eq List.length_reverse) hf)]
    cases f with
    | none => exact ⟨none, rfl, rfl⟩
    | some f => exact ⟨some f.reverse, rfl, rfl⟩
  | cons b bs ih =>
    obtain ⟨o, h, ho⟩ := ih (some ((f.getD [] ++ b).reverse.take n).reverse)
      (Nat.le_trans (Nat.le_of_eq List.length_reverse) (List.length_take_le ..))
    refine ⟨o, ?_, ho.trans ?_⟩
    · rw [pass, tail_process]
      exact h
    · rw [Option.getD_some, List.flatten_cons, ← List.append_assoc, List.reverse_append, List.reverse_append (bs := bs.flatten),
        List.reverse_reverse, List.take_append, List.take_append, List.take_take, Nat.min_eq_left (Nat.sub_le ..)]

theorem tail_pass_flatten (n : Nat) (parts : List Table) :
    ((pass (tailProc n) false (tailProc n).init parts).2).flatten
      = (parts.flatten.drop (parts.flatten.length - n)).reverse := by
  obtain ⟨o, h, ho⟩ := tail_pass n parts none (Nat.zero_le n)
  exact (congrArg (fun r => r.2.flatten) h).trans ((otl_flatten o).trans (ho.trans List.take_reverse))

theorem tail_reread (n : Nat) (e : Bool) (parts parts' : List Table) :
    (pass (tailProc n) e ((tailProc n).rewind (pass (tailProc n) false (tailProc n).init parts).1) parts').2
      = (pass (tailProc n) false (tailProc n).init parts).2 := by
  obtain ⟨o, h, -⟩ := tail_pass n parts none (Nat.zero_le n)
  rw [show pass (tailProc n) false (tailProc n).init parts = _ from h]
  exact congrArg Prod.snd (pass_final (tailProc n) e _ o rfl parts')

theorem rowwise_run (f : Table → Table) (h0 : f [] = []) (happ : ∀ a b, f (a ++ b) = f a ++ f b)
    (parts : List Table) : runBatched (rowwiseProc f) parts = f parts.flatten :=
  (runBatched_onePass _ rfl parts).trans
    (pass_flatten (rowwiseProc f) (fun _ t => f t) (fun _ => ⟨rfl, h0.symm⟩) (fun _ b t => ⟨happ b t, Bool.noConfusion⟩) parts ())

theorem dropEmpty_append (a b : Table) : dropEmpty (a ++ b) = dropEmpty a ++ dropEmpty b :=
  List.filter_append ..

theorem renameTable_append (old new : String) (a b : Table) :
    renameTable old new (a ++ b) = renameTable old new a ++ renameTable old new b :=
  (congrArg dropEmpty List.map_append).trans (dropEmpty_append ..)

theorem fieldsTable_append (inc : Bool) (fs : List String) (a b : Table) :
    fieldsTable inc fs (a ++ b) = fieldsTable inc fs a ++ fieldsTable inc fs b :=
  (congrArg dropEmpty List.map_append).trans (dropEmpty_append ..)

theorem fillAll_pass1 (v : String) (parts : List Table) (k : List String) :
    (pass (fillAllProc v) false { known := k, second := false } parts).1
      = { known := addCols k parts.flatten, second := false } := by
  induction parts generalizing k with
  | nil => rfl
  | cons b bs ih =>
    rw [List.flatten_cons, addCols, List.foldl_append]
    exact ih (addCols k b)

theorem fillAll_pass2 (v : String) (k : List String) (parts : List Table) :
    ((pass (fillAllProc v) true { known := k, second := true } parts).2).flatten = fillTable k v parts.flatten := by
  induction parts with
  | nil => rfl
  | cons b bs ih => exact (congrArg (fillTable k v b ++ ·) ih).trans List.map_append.symm
end SigModel.Lemmas.C06
