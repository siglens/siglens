/- C12: quick-select as coded (`qsel`) returns the k-th smallest element, and `pct` built on it is the interpolation
formula `lerp` on the sorted data. Induction on the fuel: `pickPivot`'s in-place sorts only permute the array, the pivot
lies between two of its elements (`Within`), so both outer parts of the three-way partition are shorter, and the three
parts, sorted, make up `sortN arr`. -/
import SigModel.Lemmas.C12a
import SigModel.Lemmas.C12f

namespace SigModel.Lemmas.C12
open SigModel.Trace List

theorem sortN_append {l₁ l₂ : List Nat} (h : ∀ a ∈ l₁, ∀ b ∈ l₂, a ≤ b) : sortN (l₁ ++ l₂) = sortN l₁ ++ sortN l₂ :=
  sorted_unique (sortN_sorted _)
    (pairwise_append.2 ⟨sortN_sorted _, sortN_sorted _, fun a ha b hb => h a (mem_sortN.1 ha) b (mem_sortN.1 hb)⟩)
    ((sortN_perm _).trans ((sortN_perm l₁).symm.append (sortN_perm l₂).symm))

theorem mem_pivots {l : List Nat} {pv x : Nat}
    (h : x ∈ l.filter (fun el => !(decide (el < pv)) && !(decide (pv < el)))) : x = pv := by
  have := (mem_filter.1 h).2
  simp only [Bool.and_eq_true, Bool.not_eq_true', decide_eq_false_iff_not] at this
  exact Nat.le_antisymm (Nat.le_of_not_lt this.2) (Nat.le_of_not_lt this.1)

theorem count_filter_ite (p : Nat → Bool) (l : List Nat) (a : Nat) :
    count a (l.filter p) = if p a then count a l else 0 := by
  split
  · rename_i h; exact count_filter h
  · rename_i h
    exact count_eq_zero.2 fun hm => h (mem_filter.1 hm).2

theorem partition_perm (l : List Nat) (pv : Nat) :
    l.filter (fun el => decide (el < pv)) ++
      (l.filter (fun el => !(decide (el < pv)) && !(decide (pv < el))) ++
       l.filter (fun el => decide (pv < el))) ~ l := by
  rw [perm_iff_count]
  intro a
  simp only [count_append, count_filter_ite]
  by_cases h1 : a < pv
  · have h2 : ¬ pv < a := by omega
    simp [h1, h2]
  · by_cases h2 : pv < a <;> simp [h1, h2]

theorem sortN_partition (l : List Nat) (pv : Nat) :
    sortN l = sortN (l.filter (fun el => decide (el < pv))) ++
      (l.filter (fun el => !(decide (el < pv)) && !(decide (pv < el))) ++
       sortN (l.filter (fun el => decide (pv < el)))) := by
  -- the middle part holds copies of `pv` only, so it is sorted as it stands
  rw [← sortN_congr (partition_perm l pv), sortN_append, sortN_append,
    sortN_of_sorted (pairwise_of_forall_mem_list fun a ha b hb => Nat.le_of_eq ((mem_pivots ha).trans (mem_pivots hb).symm))]
  · intro a ha b hb
    rw [mem_pivots ha]
    exact Nat.le_of_lt (of_decide_eq_true (mem_filter.1 hb).2)
  · intro a ha b hb
    have hlo : a < pv := of_decide_eq_true (mem_filter.1 ha).2
    rcases mem_append.1 hb with hb | hb
    · rw [mem_pivots hb]; exact Nat.le_of_lt hlo
    · exact Nat.le_of_lt (Nat.lt_trans hlo (of_decide_eq_true (mem_filter.1 hb).2))

theorem chunk5_induct {motive : List Nat → Prop}
    (short : ∀ l, l.length < 5 → chunkSort l = l → medians5 l = [] → motive l)
    (step : ∀ a b c d e rest, motive rest → motive (a :: b :: c :: d :: e :: rest)) : ∀ l, motive l
  | a :: b :: c :: d :: e :: rest => step a b c d e rest (chunk5_induct short step rest)
  | [] | [_] | [_, _] | [_, _, _] | [_, _, _, _] => short _ (Nat.le_of_ble_eq_true rfl) rfl rfl

theorem chunkSort_perm (l : List Nat) : chunkSort l ~ l := by
  induction l using chunk5_induct with
  | short l _ hc _ => rw [hc]
  | step a b c d e rest ih => exact (sortN_perm [a, b, c, d, e]).append ih

theorem mutate_perm (l : List Nat) : mutate l ~ l := by
  unfold mutate
  split
  · exact sortN_perm l
  · exact chunkSort_perm l

theorem afterSelect_perm (l : List Nat) : afterSelect l ~ l := by
  unfold afterSelect
  split
  · exact Perm.refl _
  · exact mutate_perm l

theorem getD_eq_getElem {s : List Nat} {i : Nat} (h : i < s.length) : s.getD i 0 = s[i] := by
  rw [getD_eq_getElem?_getD, getElem?_eq_getElem h]; rfl

theorem medians5_sub (l : List Nat) : ∀ x ∈ medians5 l, x ∈ l := by
  induction l using chunk5_induct with
  | short l _ _ hm => rw [hm]; exact fun _ h => absurd h not_mem_nil
  | step a b c d e rest ih =>
    intro x hx
    show x ∈ [a, b, c, d, e] ++ rest
    rcases mem_cons.1 hx with h | h
    · have h5 : 2 < (sortN [a, b, c, d, e]).length :=
        Nat.lt_of_lt_of_eq (by decide : 2 < 5) (sortN_length [a, b, c, d, e]).symm
      rw [h, getD_eq_getElem h5]
      exact mem_append_left rest (mem_sortN.1 (getElem_mem h5))
    · exact mem_append_right _ (ih x h)

theorem medians5_length (l : List Nat) : (medians5 l).length = l.length / 5 := by
  induction l using chunk5_induct with
  | short l hl _ hm => rw [hm, Nat.div_eq_of_lt hl]; rfl
  | step a b c d e rest ih =>
    show (medians5 rest).length + 1 = (rest.length + 5) / 5
    rw [ih]
    exact (Nat.add_div_right rest.length (by decide : 0 < 5)).symm

/-- not `v ∈ l`: the pivot may be the average of two elements -/
def Within (l : List Nat) (v : Nat) : Prop := (∃ a ∈ l, a ≤ v) ∧ (∃ b ∈ l, v ≤ b)

theorem within_of_mem {l : List Nat} {v : Nat} (h : v ∈ l) : Within l v :=
  ⟨⟨v, h, Nat.le_refl v⟩, ⟨v, h, Nat.le_refl v⟩⟩

theorem within_avg {l : List Nat} {a b : Nat} (ha : a ∈ l) (hb : b ∈ l) : Within l ((a + b) / 2) := by
  have key : ∀ {a b : Nat}, a ∈ l → b ∈ l → a ≤ b → Within l ((a + b) / 2) := fun {a b} ha hb h =>
    ⟨⟨a, ha, (Nat.le_div_iff_mul_le Nat.two_pos).2 (Nat.mul_two a ▸ Nat.add_le_add_left h a)⟩,
      ⟨b, hb, Nat.div_le_of_le_mul (Nat.two_mul b ▸ Nat.add_le_add_right h b)⟩⟩
  rcases Nat.le_total a b with h | h
  · exact key ha hb h
  · exact Nat.add_comm b a ▸ key hb ha h

theorem Within.mono {l l' : List Nat} {v : Nat} (h : Within l v) (hs : ∀ x ∈ l, x ∈ l') : Within l' v :=
  let ⟨⟨a, ha, hav⟩, ⟨b, hb, hvb⟩⟩ := h
  ⟨⟨a, hs a ha, hav⟩, ⟨b, hs b hb, hvb⟩⟩

theorem medianSmall_within {s : List Nat} (h : s ≠ []) : Within s (medianSmall s) := by
  have hj : s.length / 2 < s.length := Nat.div_lt_self (length_pos_iff.2 h) (by decide)
  have hi : s.length / 2 - 1 < s.length := Nat.lt_of_le_of_lt (Nat.sub_le _ _) hj
  unfold medianSmall
  split
  · rw [getD_eq_getElem hj]
    exact within_of_mem (getElem_mem hj)
  · rw [getD_eq_getElem hi, getD_eq_getElem hj]
    exact within_avg (getElem_mem hi) (getElem_mem hj)

def SelOK (sel : List Nat → Nat → Option Nat) (n : Nat) : Prop :=
  ∀ (l : List Nat) (k : Nat), l.length < n → k < l.length → sel l k = (sortN l)[k]?

theorem SelOK.mem {sel : List Nat → Nat → Option Nat} {n : Nat} (hsel : SelOK sel n) {l : List Nat} {k : Nat}
    (hl : l.length < n) (hk : k < l.length) : ∃ v ∈ l, sel l k = some v := by
  have hk' : k < (sortN l).length := by rw [sortN_length]; exact hk
  exact ⟨_, mem_sortN.1 (getElem_mem hk'), by rw [hsel l k hl hk, getElem?_eq_getElem hk']⟩

theorem pivotOf_ok (sel : List Nat → Nat → Option Nat) (arr : List Nat) (hsel : SelOK sel arr.length)
    (hlen : 2 ≤ arr.length) : ∃ pv, pivotOf sel arr = some pv ∧ Within arr pv := by
  unfold pivotOf
  by_cases h5 : arr.length < 5
  · rw [if_pos h5]
    have hne := ne_nil_of_length_pos ((sortN_length arr).symm ▸ Nat.lt_of_lt_of_le Nat.two_pos hlen)
    exact ⟨_, rfl, (medianSmall_within hne).mono fun x => mem_sortN.1⟩
  · rw [if_neg h5]
    have hml := medians5_length arr
    have hms := medians5_sub arr
    generalize medians5 arr = ms at hml hms
    have h5 : 5 ≤ arr.length := Nat.le_of_not_lt h5
    have hlt : ms.length < arr.length := hml ▸ Nat.div_lt_self (Nat.lt_of_lt_of_le (by decide) h5) (by decide)
    have hj : ms.length / 2 < ms.length := Nat.div_lt_self (hml ▸ Nat.div_pos h5 (by decide)) (by decide)
    have hi : ms.length / 2 - 1 < ms.length := Nat.lt_of_le_of_lt (Nat.sub_le _ _) hj
    dsimp only
    by_cases hodd : (ms.length % 2 == 1) = true
    · rw [if_pos hodd]
      obtain ⟨v, hv, ev⟩ := hsel.mem hlt hj
      exact ⟨v, ev, (within_of_mem hv).mono hms⟩
    · rw [if_neg hodd]
      have hmp := mutate_perm ms
      obtain ⟨a, ha, ea⟩ := hsel.mem hlt hi
      obtain ⟨b, hb, eb⟩ :=
        hsel.mem (Nat.lt_of_le_of_lt (Nat.le_of_eq hmp.length_eq) hlt) (Nat.lt_of_lt_of_eq hj hmp.length_eq.symm)
      rw [ea, eb]
      exact ⟨_, rfl, (within_avg ha (hmp.mem_iff.1 hb)).mono hms⟩

theorem getElem?_of_all_eq {P : List Nat} {v j : Nat} (hP : ∀ x ∈ P, x = v) (h : j < P.length) : P[j]? = some v := by
  rw [getElem?_eq_getElem h, hP _ (getElem_mem h)]

theorem partStep_ok (sel : List Nat → Nat → Option Nat) {arr arr' : List Nat} (hp : arr' ~ arr) {k pv : Nat}
    (hsel : SelOK sel arr.length) (hpv : Within arr pv) (hk : k < arr.length) :
    partStep sel arr' k pv = (sortN arr)[k]? := by
  obtain ⟨⟨a, ham, hap⟩, ⟨b, hbm, hbp⟩⟩ := hpv
  have hlen := (partition_perm arr' pv).length_eq
  rw [length_append, length_append, hp.length_eq] at hlen
  rw [← hp.length_eq] at hsel
  rw [partStep, ← sortN_congr hp, sortN_partition arr' pv]
  by_cases h1 : k < (arr'.filter (fun el => decide (el < pv))).length
  · rw [if_pos h1, getElem?_append_left (Nat.lt_of_lt_of_eq h1 (sortN_length _).symm)]
    exact hsel _ _ (length_filter_lt_length_iff_exists.2
      ⟨b, hp.mem_iff.2 hbm, fun h => Nat.not_lt.2 hbp (of_decide_eq_true h)⟩) h1
  · rw [if_neg h1, getElem?_append_right ((sortN_length _).symm ▸ Nat.le_of_not_lt h1), sortN_length]
    split
    · rename_i h2
      have hj := Nat.sub_lt_left_of_lt_add (Nat.le_of_not_lt h1) h2
      rw [getElem?_append_left hj, head?_eq_getElem?, getElem?_of_all_eq (fun _ => mem_pivots) hj,
        getElem?_of_all_eq (fun _ => mem_pivots) (Nat.zero_lt_of_lt hj)]
    · rename_i h2
      rw [getElem?_append_right (Nat.le_sub_of_add_le (Nat.add_comm _ _ ▸ Nat.le_of_not_lt h2))]
      refine hsel _ _ (length_filter_lt_length_iff_exists.2
        ⟨a, hp.mem_iff.2 ham, fun h => Nat.not_lt.2 hap (of_decide_eq_true h)⟩) ?_
      rw [Nat.sub_sub]
      exact Nat.sub_lt_left_of_lt_add (Nat.le_of_not_lt h2) (by rw [Nat.add_assoc, hlen]; exact hk)

theorem qsel_spec : ∀ (f : Nat) (arr : List Nat) (k : Nat), arr.length ≤ f → k < arr.length →
    qsel f arr k = (sortN arr)[k]? := by
  intro f
  induction f with
  | zero => exact fun arr k h1 h2 => absurd (Nat.lt_of_lt_of_le h2 h1) (Nat.not_lt_zero k)
  | succ f ih =>
    intro arr k h1 h2
    match arr, h1, h2 with
    | [x], _, h2 =>
      cases Nat.lt_one_iff.1 h2
      rfl
    | x :: y :: rest, h1, h2 =>
      have hsel : SelOK (qsel f) (x :: y :: rest).length := fun l k' hl hk' =>
        ih l k' (Nat.le_of_lt_succ (Nat.lt_of_lt_of_le hl h1)) hk'
      obtain ⟨pv, hpv, hw⟩ := pivotOf_ok (qsel f) (x :: y :: rest) hsel (Nat.le_add_left 2 rest.length)
      show (match pivotOf (qsel f) (x :: y :: rest) with
        | none => none
        | some pivot => partStep (qsel f) (mutate (x :: y :: rest)) k pivot) = _
      rw [hpv]
      exact partStep_ok (qsel f) (mutate_perm _) hsel hw h2

theorem quickSelect_spec (arr : List Nat) (k : Nat) (hk : k < arr.length) :
    quickSelect arr k = (sortN arr)[k]? := qsel_spec _ arr k (Nat.le_refl _) hk

/-- what `FindPercentileData` is to return, on the sorted array `s` and the float64 index `k` -/
def lerp (s : List Nat) (k : Dy) : Option Dy :=
  if k.floor == k.ceil then s[k.floor]?.map Dy.ofNat
  else match s[k.floor]?, s[k.ceil]? with
    | some lo, some hi =>
      some (Dy.add (Dy.ofNat lo) (Dy.mul (Dy.sub (Dy.ofNat hi) (Dy.ofNat lo)) (Dy.sub k (Dy.ofNat k.floor))))
    | _, _ => none

/-- the second conjunct lets the RED fold run its four selections on one slice (`redRow_pcts`) -/
theorem pct_of_perm {d e : List Nat} (hd : d ~ e) (hne : e ≠ []) {p : Nat} (hp : p ≤ 100)
    (hbig : 100 * e.length < 2 ^ 52) :
    (pct d p).1 = lerp (sortN e) (pctIndex p e.length) ∧ (pct d p).2 ~ e := by
  have hck : (pctIndex p d.length).ceil < d.length :=
    hd.length_eq ▸ pctIndex_ceil_lt p e.length hp (length_pos_iff.2 hne) hbig
  have hf := Nat.lt_of_le_of_lt (Dy.floor_le_ceil _) hck
  have hap := afterSelect_perm d
  have hap1 := hap.trans hd
  have hap2 := (afterSelect_perm (afterSelect d)).trans hap1
  have h1 : ¬ d.isEmpty = true := fun h => hne (isEmpty_iff.1 h ▸ hd).symm.eq_nil
  rw [← hd.length_eq, ← sortN_congr hd]
  unfold pct lerp
  rw [if_neg h1, if_neg (Nat.not_lt.2 hp)]
  unfold pctIndex at hck hf ⊢
  generalize Dy.div _ _ = k at hck hf ⊢
  dsimp only
  rw [quickSelect_spec d _ hf]
  split
  · exact ⟨rfl, hap1⟩
  · rw [quickSelect_spec (afterSelect d) _ (hap.length_eq.symm ▸ hck), sortN_congr hap]
    -- `dsimp only` reduces the two `match`es; unifying `hap2` with the unreduced `(match …).2 ~ e` is slow
    cases (sortN d)[k.floor]? <;> cases (sortN d)[k.ceil]? <;> dsimp only <;> exact ⟨rfl, hap2⟩

end SigModel.Lemmas.C12
