/-
Binary operators between result vectors (Model/PromqlBin.lean): the label part of an id, the partner of a left id, the
ids the left pass keeps, and the samples `leftPts` writes; `and` / `unless` as filters of the left samples, in the model
(per timestamp, repair c09-19) and in the specification (`matchedPts`, Spec/Metrics.lean).
-/
import SigModel.Model.PromqlBin
import SigModel.Spec.Metrics

namespace SigModel.Lemmas.C09bin
abbrev Str := SigModel.Promql.Str

theorem filterMap_if {α β : Type} (l : List α) (c : α → Bool) (g : α → β) :
    l.filterMap (fun a => if c a then some (g a) else none) = (l.filter c).map g := by
  induction l with
  | nil => rfl
  | cons a t ih =>
    rewrite [List.filterMap_cons, List.filter_cons, ih]
    cases c a <;> rfl

theorem mem_filter_or_not {α} (c : α → Bool) {l : List α} {a : α} (h : a ∈ l) :
    (a ∈ l.filter c ∨ a ∈ l.filter (fun x => !c x)) ∧ ¬ (a ∈ l.filter c ∧ a ∈ l.filter (fun x => !c x)) := by
  simp only [List.mem_filter, h, true_and]
  cases c a
  · exact ⟨Or.inr rfl, fun h => nomatch h.1⟩
  · exact ⟨Or.inl rfl, fun h => nomatch h.2⟩

section model
open SigModel.PromqlBin

theorem cutLabel_append (n p : Str) : cutLabel n (n ++ p) = p :=
  (if_pos (List.length_append ▸ Nat.le_add_right _ _)).trans (List.drop_left ..)

theorem cutLabel?_append (n p : Str) (hp : partOK p) : cutLabel? n (n ++ p) = some p := by
  rewrite [cutLabel?, List.drop_left, List.isPrefixOf_iff_prefix.2 (List.prefix_append n p)]
  -- the two tests behind the prefix test are the two cases of `partOK p`
  exact if_pos (Bool.or_eq_true_iff.2 (Or.imp
    (fun h => decide_eq_true (h ▸ congrArg List.length (List.append_nil n))) beq_iff_eq.2 hp))

theorem labelSetOf_append (n p : Str) (hp : partOK p) : labelSetOf n (n ++ p) = canonLabel p := by
  rewrite [labelSetOf, cutLabel?_append n p hp]
  rfl

theorem hasId_iff (v : Vec) (id : Str) : hasId v id = true ↔ id ∈ v.map (·.1) := by
  simp only [hasId, lookupPts, Option.isSome_map, List.find?_isSome, List.mem_map, beq_iff_eq]

theorem outIds_leftPass (op : Op) (b : Bool) (l r : Res) :
    outIds (leftPass op b l r) =
      (vecIds l).filter (fun lid => hasId r.series (partnerId l.name (rKey r) lid) || op == .or || op == .unless) := by
  rewrite [outIds, leftPass, filterMap_if, List.map_map, vecIds, List.filter_map]
  rfl

theorem foldl_pick_mem {α} {f : Option α → α → Option α} (hf : ∀ a x, f (some a) x = some a ∨ f (some a) x = some x)
    {P : Option α → Prop} (t : List α) (a : α) (h : ∀ y ∈ a :: t, P (some y)) : P (t.foldl f (some a)) := by
  induction t generalizing a with
  | nil => exact h a List.mem_cons_self
  | cons x t ih =>
    rewrite [List.foldl_cons]
    rcases hf a x with e | e
    · rewrite [e]
      exact ih a fun y m => h y ((List.mem_cons.1 m).elim (· ▸ List.mem_cons_self) fun m =>
        List.mem_cons_of_mem _ (List.mem_cons_of_mem _ m))
    · rewrite [e]
      exact ih x fun y m => h y (List.mem_cons_of_mem _ m)

/-- no right id is "", so `getD [] ∈ r.2` says that `rGroupIDOfLabelSet` found an id -/
theorem partnerOf_mem_iff (r : Str × List Str) (hne : ([] : Str) ∉ r.2) (c : Str) :
    (partnerOf r c).getD [] ∈ r.2 ↔ ∃ rid ∈ r.2, (cutLabel? r.1 rid).map canonLabel = some c := by
  unfold partnerOf
  cases hF : r.2.filter (fun rid => (cutLabel? r.1 rid).map canonLabel == some c) with
  | nil =>
    exact ⟨fun h => absurd h hne,
      fun h => h.elim fun _ h => absurd (beq_iff_eq.2 h.2) (List.filter_eq_nil_iff.1 hF _ h.1)⟩
  | cons x t =>
    -- the fold ends on one of the filtered ids, and each of them is a right id with the label set
    refine foldl_pick_mem (P := fun o => o.getD [] ∈ r.2 ↔ _)
      (fun a x => (Decidable.em (strLe a x = true)).imp (if_pos ·) (if_neg ·)) t x fun y m => ?_
    have m := List.mem_filter.1 (hF ▸ m)
    exact ⟨fun _ => ⟨y, m.1, eq_of_beq m.2⟩, fun _ => m.1⟩

theorem binop_eq_leftPass {op : Op} (hop : op ≠ .or ∧ op ≠ .unless) (b : Bool) (l r : Res) :
    binop op b l r = leftPass op b l r := by
  unfold binop
  split
  · exact absurd rfl hop.2
  · exact absurd rfl hop.1
  · rfl

theorem partnerId_mem_iff (lname : Str) (r : Str × List Str) (hne : ([] : Str) ∉ r.2) (lid : Str) :
    partnerId lname r lid ∈ r.2 ↔
      ∃ p, cutLabel? lname lid = some p ∧ ∃ rid ∈ r.2, (cutLabel? r.1 rid).map canonLabel = some (canonLabel p) := by
  unfold partnerId
  cases cutLabel? lname lid with
  | none => exact ⟨fun h => absurd h hne, fun h => h.elim fun _ h => absurd h.1.symm (Option.some_ne_none _)⟩
  | some p =>
    exact (partnerOf_mem_iff r hne (canonLabel p)).trans
      ⟨fun h => ⟨p, rfl, h⟩, fun h => h.elim fun _ h => Option.some.inj h.1 ▸ h.2⟩

theorem mem_binop_match (op : Op) (b : Bool) (l r : Res) (hop : op ≠ .or ∧ op ≠ .unless)
    (hne : ([] : Str) ∉ vecIds r) (id : Str) :
    id ∈ outIds (binop op b l r) ↔
      id ∈ vecIds l ∧ ∃ p, cutLabel? l.name id = some p ∧
        ∃ rid ∈ vecIds r, (cutLabel? r.name rid).map canonLabel = some (canonLabel p) := by
  rewrite [binop_eq_leftPass hop, outIds_leftPass, List.mem_filter, beq_eq_false_iff_ne.2 hop.1, beq_eq_false_iff_ne.2 hop.2,
    Bool.or_false, Bool.or_false, hasId_iff]
  exact and_congr_right fun _ => partnerId_mem_iff l.name (rKey r) hne id

theorem leftPts_and (b : Bool) (pl rp : Pts) :
    leftPts .and b pl (some rp) =
      (pl.map (fun p => (p.1, Val.num (p.2 : Rat)))).filter (fun e => (ptAt? rp e.1).isSome) := by
  rewrite [List.filter_map]
  show _ = (pl.filter (fun p => (ptAt? rp p.1).isSome)).map _
  rewrite [← filterMap_if]
  refine congrArg (List.filterMap · pl) (funext fun p => ?_)
  dsimp only [Option.bind_some]
  cases ptAt? rp p.1 <;> rfl

theorem leftPts_unless_some (b : Bool) (pl rp : Pts) :
    leftPts .unless b pl (some rp) =
      (pl.map (fun p => (p.1, Val.num (p.2 : Rat)))).filter (fun e => !(ptAt? rp e.1).isSome) := by
  rewrite [List.filter_map]
  show _ = (pl.filter (fun p => !(ptAt? rp p.1).isSome)).map _
  rewrite [← filterMap_if]
  refine congrArg (List.filterMap · pl) (funext fun p => ?_)
  dsimp only [Option.bind_some]
  cases ptAt? rp p.1 <;> rfl

theorem leftPts_unless_none (b : Bool) (pl : Pts) :
    leftPts .unless b pl none = pl.map (fun p => (p.1, Val.num (p.2 : Rat))) :=
  congrFun List.filterMap_eq_map' pl

theorem mem_rightLabelSets (r : Res) (hr : wellFormed r) (c : Str) :
    c ∈ rightLabelSets r ↔ ∃ q, r.name ++ q ∈ vecIds r ∧ partOK q ∧ canonLabel q = c := by
  refine List.mem_map.trans ⟨fun h => h.elim fun e h => ?_, fun h => h.elim fun q h => ?_⟩
  · have hm := List.mem_map_of_mem (f := (·.1)) h.1
    exact (hr e.1 hm).elim fun q hq =>
      ⟨q, hq.1 ▸ hm, hq.2, (labelSetOf_append _ _ hq.2).symm.trans (hq.1 ▸ h.2)⟩
  · exact (List.mem_map.1 h.1).elim fun e he =>
      ⟨e, he.1, he.2 ▸ (labelSetOf_append _ _ h.2.1).trans h.2.2⟩

end model

section spec
open SigModel.Spec.Metrics

theorem mem_of_ptAt {e : XElem} {t : Nat} {p : BinPt} (h : ptAt e t = some p) :
    (t, p) ∈ e.2 := by
  obtain ⟨q, hq, rfl⟩ := Option.map_eq_some_iff.1 h
  have : q.1 = t := eq_of_beq (List.find?_some (p := fun q : Nat × BinPt => q.1 == t) hq)
  exact this ▸ List.mem_of_find?_eq_some hq

/-- without unjudged samples in `y` the `open` arm is never taken: the match only asks whether there is a sample -/
theorem match_ptAt {α} {y : XElem} (hy : ∀ q ∈ y.2, q.2 ≠ BinPt.open) (t : Nat) (b : α) (f : Bool → α) :
    (match ptAt y t with
      | none => f false
      | some .open => b
      | some _ => f true) = f (ptAt y t).isSome := by
  cases hq : ptAt y t with
  | none => rfl
  | some py =>
    cases py with
    | «open» => exact absurd rfl (hy _ (mem_of_ptAt hq))
    | _ => rfl

theorem matchedPts_and (b : Bool) (x : XElem) {y : XElem} (hy : ∀ q ∈ y.2, q.2 ≠ BinPt.open) :
    matchedPts .and b x y = x.2.filter (fun q => (ptAt y q.1).isSome) := by
  rewrite [← List.filterMap_eq_filter]
  exact congrArg (List.filterMap · x.2) (funext fun q => match_ptAt hy q.1 _ fun s => if s then some q else none)

theorem matchedPts_unless (b : Bool) (x : XElem) {y : XElem} (hy : ∀ q ∈ y.2, q.2 ≠ BinPt.open) :
    matchedPts .unless b x y = x.2.filter (fun q => !(ptAt y q.1).isSome) := by
  rewrite [← List.filterMap_eq_filter]
  exact congrArg (List.filterMap · x.2) (funext fun q => match_ptAt hy q.1 _ fun s => if !s then some q else none)

end spec

end SigModel.Lemmas.C09bin
