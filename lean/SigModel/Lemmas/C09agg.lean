/-
Downsampling and the normal form of the model's aggregation: the running entries of a group in a bucket are one
entry per MEMBER series (a series filed under the group with a sample in the bucket), so the value of the group is the
specification's aggregate over the members, and the keys of the result are the (group, bucket) pairs with a member.
On guarded inputs the result key of a series is the rendering of its PromQL key (Lemmas/C09.lean), so the members of a
result key are the PromQL members of the group and the model's aggregation is the specification's.
-/
import SigModel.Lemmas.C09

namespace SigModel.Lemmas.C09
open SigModel.Promql

theorem mem_dedup {α} [DecidableEq α] {a : α} {l : List α} : a ∈ dedup l ↔ a ∈ l := by
  fun_induction dedup l with
  | case1 => exact Iff.rfl
  | case2 x l hx ih => exact ih.trans (List.mem_cons.trans (or_iff_right_of_imp (· ▸ hx))).symm
  | case3 _ _ _ ih => rw [List.mem_cons, List.mem_cons, ih]

theorem nodup_dedup {α} [DecidableEq α] (l : List α) : (dedup l).Nodup := by
  fun_induction dedup l with
  | case1 => exact List.nodup_nil
  | case2 _ _ _ ih => exact ih
  | case3 _ _ hx ih => exact List.nodup_cons.2 ⟨fun m => hx (mem_dedup.1 m), ih⟩

theorem dedup_eq_self {α} [DecidableEq α] {l : List α} (h : l.Nodup) : dedup l = l := by
  fun_induction dedup l with
  | case1 => rfl
  | case2 _ _ hx => exact absurd hx (List.nodup_cons.1 h).1
  | case3 _ _ _ ih => rw [ih (List.nodup_cons.1 h).2]

def mkEntry (fn : Fn) (step t : Nat) (pts : List (Nat × Int)) : Entry :=
  { t := t, val := reduceVals (dsFn fn) (samplesAt step t pts), cnt := (samplesAt step t pts).length }

theorem sampled_iff {step t : Nat} {pts : List (Nat × Int)} :
    samplesAt step t pts ≠ [] ↔ t ∈ dedup (pts.map (fun p => bucket p.1 step)) := by
  -- contraposed: no sample is kept exactly when no point has the bucket `t`
  refine Decidable.not_iff_comm.1 (Iff.symm (List.map_eq_nil_iff.trans (List.filter_eq_nil_iff.trans ?_)))
  simp only [mem_dedup, List.mem_map, beq_iff_eq, not_exists, not_and]

theorem dsSeries_filter (fn : Fn) (step t : Nat) (pts : List (Nat × Int)) :
    (dsSeries fn step pts).filter (fun e => decide (e.t = t))
      = if (samplesAt step t pts).isEmpty then [] else [mkEntry fn step t pts] := by
  -- the entries of bucket `t` are as many as `t` is listed; a bucket is listed once
  refine List.filter_map.trans ((congrArg _ (List.filter_eq t)).trans ?_)
  cases h : (samplesAt step t pts).isEmpty
  · rewrite [(nodup_dedup _).count.trans (if_pos (sampled_iff.1 (List.isEmpty_eq_false_iff.1 h)))]
    rfl
  · rewrite [List.count_eq_zero_of_not_mem (mt sampled_iff.2 (not_not_intro (List.isEmpty_iff.1 h)))]
    rfl

def members (q : Query) (ss : List Series) (g : Str) (t : Nat) : List Series :=
  ss.filter (fun s => decide (groupOf q (sidOf q s) = g) && !(samplesAt q.step t s.pts).isEmpty)

theorem sampled_and {p : Prop} [Decidable p] {l : List Int} : (decide p && !l.isEmpty) = true ↔ p ∧ l ≠ [] := by
  rw [Bool.and_eq_true, decide_eq_true_iff, Bool.not_eq_true', List.isEmpty_eq_false_iff]

theorem mem_members {q : Query} {ss : List Series} {g : Str} {t : Nat} {s : Series} :
    s ∈ members q ss g t ↔ s ∈ ss ∧ groupOf q (sidOf q s) = g ∧ samplesAt q.step t s.pts ≠ [] :=
  List.mem_filter.trans (and_congr_right fun _ => sampled_and)

theorem mem_specMembers {q : Query} {ss : List Series} {k : Labels} {t : Nat} {s : Series} :
    s ∈ specMembers q ss k t ↔ s ∈ ss ∧ specGroupKey q.fields q.without s.labels = k ∧ samplesAt q.step t s.pts ≠ [] :=
  List.mem_filter.trans (and_congr_right fun _ => sampled_and)

theorem entriesAt_eq (q : Query) (ss : List Series) (g : Str) (t : Nat) :
    entriesAt q ss g t = (members q ss g t).map (fun s => (sidOf q s, mkEntry q.fn q.step t s.pts)) := by
  unfold entriesAt members
  induction ss with
  | nil => rfl
  | cons s ss ih =>
    rewrite [List.flatMap_cons, List.filter_cons, ih, dsSeries_filter]
    -- whichever way `groupOf q (sidOf q s) = g` is decided, both sides compute
    cases instDecidableEqList (groupOf q (sidOf q s)) g with
    | isFalse => rfl
    | isTrue => cases (samplesAt q.step t s.pts).isEmpty <;> rfl

theorem aggAt_eq (q : Query) (ss : List Series) (g : Str) (t : Nat) :
    aggAt q ss g t =
      if (members q ss g t).isEmpty then none else some (specValue q.fn q.step t (members q ss g t)) := by
  simp only [aggAt, entriesAt_eq, List.isEmpty_map, List.length_map, List.map_map]
  refine ite_congr rfl (fun _ => rfl) fun _ => congrArg some ?_
  -- the definitions are opened once, before the case split; by their equations in each case is slower to check
  delta reduceRunning specValue sumVals sumCnts
  cases q.fn with
  | count => rfl
  | sum | min | max | avg =>
    simp only [List.map_map]
    rfl

theorem aggAt_eq_some {q : Query} {ss : List Series} {g : Str} {t : Nat} {v : Rat} :
    aggAt q ss g t = some v ↔
      members q ss g t ≠ [] ∧ specValue q.fn q.step t (members q ss g t) = v := by
  rw [aggAt_eq, Option.ite_none_left_eq_some, List.isEmpty_iff, Option.some.injEq]

theorem mem_keys_iff {q : Query} {ss : List Series} {g : Str} {t : Nat} :
    (g, t) ∈ keys q ss ↔ members q ss g t ≠ [] := by
  refine (mem_dedup.trans List.mem_flatMap).trans ⟨fun h => ?_, fun h => ?_⟩
  · -- the key comes from the entry of a bucket `b = t` of a series `s` filed under `g`: `s` is a member
    refine h.elim fun s hs => (List.mem_map.1 hs.2).elim fun e he => (List.mem_map.1 he.1).elim fun b hb => ?_
    have hbt : b = t := (congrArg Entry.t hb.2).trans (Prod.mk.inj he.2).2
    exact List.ne_nil_of_mem (mem_members.2 ⟨hs.1, (Prod.mk.inj he.2).1, sampled_iff.2 (hbt ▸ hb.1)⟩)
  · -- a member has the bucket `t`, whose entry gives the key
    refine (List.exists_mem_of_ne_nil _ h).elim fun s hm => ⟨s, (mem_members.1 hm).1, ?_⟩
    have hb := sampled_iff.1 (mem_members.1 hm).2.2
    exact List.mem_map.2 ⟨_, List.mem_map.2 ⟨t, hb, rfl⟩, congrArg (·, t) (mem_members.1 hm).2.1⟩

def AllSafe (q : Query) (ss : List Series) : Prop := ∀ s ∈ ss, LabelSafe q.name s.labels

/-- `count` with an empty field list is only right for `by ()`: computeAggCount puts everything under `name{`, also for
`without ()`.  Nothing is asked of `_ss`: since patch c09-26 computeAggCount counts entries, not distinct series ids. -/
def CountOK (q : Query) (_ss : List Series) : Prop :=
  q.fn = .count → q.fields = [] → q.without = false

theorem groupOf_sid {q : Query} {ss : List Series} (hc : CountOK q ss) {s : Series} (S : Safe q.name s.labels) :
    groupOf q (sidOf q s) = render q.without q.name (specGroupKey q.fields q.without s.labels) := by
  fun_cases groupOf q (sidOf q s) with
  | case1 h =>
    -- `count` without fields: `name{` is the rendering of the empty `by` key
    rewrite [hc h.1 h.2, h.2]
    rfl
  | case2 => exact extract_eq_spec q.fields q.without S

theorem aggAt_eq_specAt {q : Query} {ss : List Series} (hs : AllSafe q ss) (hc : CountOK q ss)
    {s0 : Series} (h0 : s0 ∈ ss) (t : Nat) :
    aggAt q ss (render q.without q.name (specGroupKey q.fields q.without s0.labels)) t
      = specAt q ss (specGroupKey q.fields q.without s0.labels) t := by
  -- the filters of `members` and `specMembers` agree on every series of `ss`
  refine (aggAt_eq q ss _ t).trans (congrArg (fun ms => if ms.isEmpty then none else some (specValue q.fn q.step t ms))
    (List.filter_congr fun s hsm => ?_))
  have S := safe_of_labelSafe (hs s hsm)
  rw [groupOf_sid hc S, decide_eq_decide.2 (render_spec_iff _ _ S (safe_of_labelSafe (hs s0 h0)))]

theorem sids_nodup {q : Query} {ss ms : List Series} (hs : AllSafe q ss) (hsub : ms.Sublist ss)
    (hn : (ss.map (·.labels)).Nodup) : (ms.map (sidOf q)).Nodup := by
  have h1 := List.pairwise_map.1 (hn.sublist (hsub.map _))
  refine List.pairwise_map.2 (h1.imp_of_mem (fun ha hb hne e => hne ?_))
  exact seriesIdOf_inj (safe_of_labelSafe (hs _ (hsub.subset ha))).hlabels
    (safe_of_labelSafe (hs _ (hsub.subset hb))).hlabels e

end SigModel.Lemmas.C09
