/-
Stream ids: the model's decimal rendering is Lean's `Nat.toDigits 10`, hence injective and free of `-`;
a list is cut uniquely at the first and at the last occurrence of a separator.
-/
import SigModel.Model.Tenant

namespace SigModel.Lemmas.C13
open SigModel.Tenant

theorem digitChar_eq : ∀ d < 10, digitChar d = Nat.digitChar d := by decide +kernel

theorem decNat_eq_toDigits (n : Nat) : decNat n = Nat.toDigits 10 n := by
  induction n using decNat.induct with
  | case1 n h => rw [decNat, if_pos h, Nat.toDigits_of_lt_base h, digitChar_eq n h]
  | case2 n h ih =>
    rw [decNat, if_neg h, ih, Nat.toDigits_of_base_le (by decide) (Nat.le_of_not_lt h),
      digitChar_eq _ (Nat.mod_lt n (by decide))]

theorem decNat_injective {a b : Nat} (h : decNat a = decNat b) : a = b := by
  rw [← Nat.ofDigitChars_ten_toDigits (n := a), ← decNat_eq_toDigits, h, decNat_eq_toDigits,
    Nat.ofDigitChars_ten_toDigits]

theorem dash_not_mem_decNat (n : Nat) : '-' ∉ decNat n := fun h =>
  absurd (Nat.isDigit_of_mem_toDigits (by decide) (by decide) (decNat_eq_toDigits n ▸ h)) (by decide)

theorem decNat_ne_nil (n : Nat) : decNat n ≠ [] :=
  decNat_eq_toDigits n ▸ Nat.toDigits_ne_nil

theorem toNat_inj {x y : Int} (hx : 0 ≤ x) (hy : 0 ≤ y) (h : x.toNat = y.toNat) : x = y := by
  rw [← Int.toNat_of_nonneg hx, h, Int.toNat_of_nonneg hy]

theorem decInt_injective {a b : Int} (h : decInt a = decInt b) : a = b := by
  unfold decInt at h
  split at h <;> split at h
  case isTrue.isTrue ha hb =>
    exact Int.neg_inj.1 (toNat_inj (Int.neg_nonneg_of_nonpos (Int.le_of_lt ha))
      (Int.neg_nonneg_of_nonpos (Int.le_of_lt hb)) (decNat_injective (List.tail_eq_of_cons_eq h)))
  case isTrue.isFalse | isFalse.isTrue => exact (dash_not_mem_decNat _ (h ▸ List.mem_cons_self)).elim
  case isFalse.isFalse ha hb => exact toNat_inj (Int.not_lt.1 ha) (Int.not_lt.1 hb) (decNat_injective h)

theorem first_split_unique {α : Type} [DecidableEq α] {x : α} {A A' X X' : List α} (hA : x ∉ A) (hA' : x ∉ A')
    (h : A ++ x :: X = A' ++ x :: X') : A = A' ∧ X = X' := by
  have e := congrArg (List.splitOn x) h
  rw [List.splitOn_append_cons_self_of_not_mem hA, List.splitOn_append_cons_self_of_not_mem hA'] at e
  have hAA := List.head_eq_of_cons_eq e
  exact ⟨hAA, List.tail_eq_of_cons_eq (List.append_cancel_left (hAA ▸ h))⟩

theorem last_split_unique {α : Type} [DecidableEq α] {x : α} {B B' C C' : List α} (hC : x ∉ C) (hC' : x ∉ C')
    (h : B ++ x :: C = B' ++ x :: C') : B = B' ∧ C = C' := by
  have hr := congrArg List.reverse h
  simp only [List.reverse_append, List.reverse_cons, List.append_assoc, List.singleton_append] at hr
  have := first_split_unique (mt List.mem_reverse.1 hC) (mt List.mem_reverse.1 hC') hr
  exact ⟨List.reverse_inj.1 this.2, List.reverse_inj.1 this.1⟩

end SigModel.Lemmas.C13
