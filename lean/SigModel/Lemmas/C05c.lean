/-
A Fetch call taken apart (refill, then one round of fetchRRCs), the records the searcher may still release
(`future`), the invariant "what the searcher holds comes from the input", and on top of it the proof that the
released stream is sorted (both modes).  Core Lean only.
-/
import SigModel.Lemmas.C05b

namespace SigModel.Lemmas.C05
open SigModel.Sched

def recsOf (bs : List Block) : List Rec := bs.flatMap (·.recs)

/-- blocks of listed segment requests not handed out yet -/
def pending (st : St) : List Block :=
  (st.unproc.flatMap (·.blocks)).filter (fun b => !st.processed.contains b.id)

def future (st : St) : List Rec := st.unsent ++ recsOf st.remaining ++ recsOf (pending st)

theorem mem_recsOf {bs : List Block} {r : Rec} : r ∈ recsOf bs ↔ ∃ b ∈ bs, r ∈ b.recs := List.mem_flatMap

theorem recsOf_append (a b : List Block) : recsOf (a ++ b) = recsOf a ++ recsOf b := List.flatMap_append

theorem recsOf_perm {a b : List Block} (h : a.Perm b) : (recsOf a).Perm (recsOf b) := h.flatMap_right _

theorem not_contains_iff {x : Nat} {l : List Nat} : (!l.contains x) = true ↔ x ∉ l := by
  rw [Bool.not_eq_true', List.contains_eq_mem, decide_eq_false_iff_not]

theorem mem_pending {st : St} {b : Block} :
    b ∈ pending st ↔ (∃ s ∈ st.unproc, b ∈ s.blocks) ∧ b.id ∉ st.processed :=
  List.mem_filter.trans (and_congr List.mem_flatMap not_contains_iff)

theorem mem_future {st : St} {r : Rec} :
    r ∈ future st ↔ r ∈ st.unsent ∨ (∃ b ∈ st.remaining, r ∈ b.recs) ∨ (∃ b ∈ pending st, r ∈ b.recs) := by
  simp only [future, List.mem_append, mem_recsOf, or_assoc]

theorem mem_allBlocks {segs : List Seg} {b : Block} : b ∈ allBlocks segs ↔ ∃ s ∈ segs, b ∈ s.blocks :=
  List.mem_flatMap

theorem mem_allRecs {segs : List Seg} {b : Block} {r : Rec} (hb : b ∈ allBlocks segs) (hr : r ∈ b.recs) :
    r ∈ allRecs segs := List.mem_flatMap.mpr ⟨b, hb, hr⟩

theorem blockOK_of_mem {segs : List Seg} (hwf : WF segs) {b : Block} (hb : b ∈ allBlocks segs) : BlockOK b := by
  rcases mem_allBlocks.mp hb with ⟨s, hs, hbs⟩
  exact (hwf s hs b hbs).2.2

/-- `r` in `refill`, for any cut-off `c` -/
def newBlocks (m : Mode) (st : St) (c : Nat) : List Block × List Nat :=
  getFilteredBlocks m c ((st.unproc.filter (shouldProcessQSR m c)).flatMap (·.blocks)) st.processed

def refillTo (m : Mode) (st : St) (c : Nat) (ga : Bool) : St :=
  { st with unproc := st.unproc.filter (fun s => !willProcessQSRCompletely m c s), cutoff := c,
            processed := (newBlocks m st c).2, remaining := sortBlocks m ((newBlocks m st c).1 ++ st.remaining),
            gotBlocks := true, gotAll := ga }

def nextCutoff (m : Mode) (st : St) : Nat :=
  match st.unproc with
  | [] => st.cutoff
  | front :: _ => segLast m front

/-- one move covers both branches of `refill`: with no request listed nothing is filtered or handed out, and
`refillTo` only sorts and sets gotAllSegments -/
theorem refill_eq (m : Mode) (st : St) :
    refill m st = if st.gotBlocks then st else refillTo m st (nextCutoff m st) (st.unproc.isEmpty || st.gotAll) := by
  rcases st with ⟨u, p, r, us, c, gb, ga⟩
  cases u <;> rfl

/- Below, states are compared up to unfolding of `refillTo` and `fNext`. The recursive functions inside them never
reduce on a variable list, and the unifier trying it is slow to check. -/
attribute [local irreducible] getFilteredBlocks getNextBlocks sortBy

theorem refill_cases (P : St → Prop) (m : Mode) (st : St) (h0 : st.gotBlocks = true → P st)
    (h1 : st.gotBlocks = false → P (refillTo m st (nextCutoff m st) (st.unproc.isEmpty || st.gotAll))) :
    P (refill m st) := by
  rw [refill_eq]
  cases h : st.gotBlocks
  · exact h1 h
  · exact h0 h

theorem refill_gotBlocks (m : Mode) (st : St) : (refill m st).gotBlocks = true :=
  refill_cases (·.gotBlocks = true) m st id fun _ => rfl

theorem refill_unsent (m : Mode) (st : St) : (refill m st).unsent = st.unsent :=
  refill_cases (·.unsent = st.unsent) m st (fun _ => rfl) fun _ => rfl

theorem sublist_filter {α : Type} {p : α → Bool} {l₁ l₂ : List α} (hs : l₁.Sublist l₂) (hp : ∀ x ∈ l₁, p x = true) :
    l₁.Sublist (l₂.filter p) :=
  List.filter_eq_self.mpr hp ▸ hs.filter p

theorem newBlocks_sublist (m : Mode) (st : St) (c : Nat) : (newBlocks m st c).1.Sublist (pending st) :=
  sublist_filter ((gf_sublist m _ _ _).trans (filter_flatMap_sublist _ _ _)) fun b hb =>
    not_contains_iff.mpr (gf_mem m _ _ _ b hb).2.1

theorem newBlocks_processed (m : Mode) (st : St) (c : Nat) {s : Seg} (hs : s ∈ st.unproc) (hsok : SegOK s)
    {b : Block} (hbs : b ∈ s.blocks) (hstart : m.before c (startOf m b) = false) :
    b.id ∈ (newBlocks m st c).2 :=
  -- `s` passes `shouldProcessQSR`: the cut-off is not before the start of `b`, which is not before that of `s`
  gf_processed m _ _ _ b (List.mem_flatMap.mpr ⟨s, List.mem_filter.mpr
    ⟨hs, congrArg (!·) (nb_trans m hstart (start_nb_segFirst m hsok hbs))⟩, hbs⟩) (congrArg (!·) hstart)

theorem pending_refillTo_sublist (m : Mode) (st : St) (c : Nat) (ga : Bool) :
    (pending (refillTo m st c ga)).Sublist (pending st) :=
  -- requests only leave the list, ids only join processedBlocks
  sublist_filter (List.filter_sublist.trans (filter_flatMap_sublist _ _ _)) fun _ hb =>
    not_contains_iff.mpr fun hp => not_contains_iff.mp (List.mem_filter.mp hb).2 (gf_mono m _ _ _ _ hp)

theorem refill_future_sub (m : Mode) (st : St) : ∀ x ∈ future (refill m st), x ∈ future st := by
  refine refill_cases (fun s => ∀ x ∈ future s, x ∈ future st) m st (fun _ _ hx => hx) fun _ x hx => ?_
  rcases mem_future.mp hx with hx | ⟨b, hb, hr⟩ | ⟨b, hb, hr⟩
  · exact mem_future.mpr (.inl hx)
  · rcases List.mem_append.mp ((mem_sortBy m _ _ _).mp hb) with hb | hb
    · exact mem_future.mpr (.inr (.inr ⟨b, (newBlocks_sublist m st _).subset hb, hr⟩))
    · exact mem_future.mpr (.inr (.inl ⟨b, hb, hr⟩))
  · exact mem_future.mpr (.inr (.inr ⟨b, (pending_refillTo_sublist m st _ _).subset hb, hr⟩))

def fMerged (m : Mode) (mb : Nat) (st : St) : List Rec :=
  merge m (sortRRCs m ((getNextBlocks m st.remaining mb).1.flatMap (·.recs))) st.unsent

def fLast (m : Mode) (mb : Nat) (st : St) : Bool := lastBlocks st (getNextBlocks m st.remaining mb).1.length

def fEnd (m : Mode) (mb : Nat) (st : St) : Nat :=
  if fLast m mb st then flushEnd m else clampEnd m (getNextBlocks m st.remaining mb).2 st.cutoff

def fOut (m : Mode) (mb : Nat) (st : St) : List Rec := getValidRRCs m (fMerged m mb st) (fEnd m mb st)

def fNext (m : Mode) (mb : Nat) (st : St) : St :=
  { st with remaining := st.remaining.drop (getNextBlocks m st.remaining mb).1.length,
            gotBlocks := if (st.remaining.drop (getNextBlocks m st.remaining mb).1.length).isEmpty
                            || fEnd m mb st == st.cutoff then false else st.gotBlocks,
            unsent := (fMerged m mb st).drop (fOut m mb st).length }

def atEOF (st : St) : Bool := st.remaining.isEmpty && st.unsent.isEmpty && st.gotAll

theorem fetchRRCs_eq (m : Mode) (mb : Nat) (st : St) :
    fetchRRCs m mb st = if atEOF st then none else some (fOut m mb st, fNext m mb st) := rfl

theorem runFetch_succ (m : Mode) (mb fuel : Nat) (st : St) :
    runFetch m mb (fuel + 1) st =
      if atEOF (refill m st) then ([], true)
      else (fOut m mb (refill m st) :: (runFetch m mb fuel (fNext m mb (refill m st))).1,
            (runFetch m mb fuel (fNext m mb (refill m st))).2) := by
  simp only [runFetch, fetch, fetchRRCs_eq]
  cases atEOF (refill m st) <;> rfl

theorem atEOF_future {st : St} (h : atEOF st = true) (hg : st.gotAll = true → st.unproc = []) : future st = [] := by
  simp only [atEOF, Bool.and_eq_true, List.isEmpty_iff] at h
  simp only [future, pending, h.1.1, h.1.2, hg h.2, recsOf, List.flatMap_nil, List.filter_nil, List.append_nil]

theorem fEnd_last (m : Mode) (mb : Nat) (st : St) (h : fLast m mb st = true) : fEnd m mb st = flushEnd m :=
  if_pos h

theorem fEnd_notlast (m : Mode) (mb : Nat) (st : St) (h : fLast m mb st = false) :
    fEnd m mb st = clampEnd m (getNextBlocks m st.remaining mb).2 st.cutoff :=
  if_neg (h ▸ Bool.false_ne_true)

theorem fLast_rem (m : Mode) (mb : Nat) (st : St) (h : fLast m mb st = true) : (fNext m mb st).remaining = [] := by
  show st.remaining.drop (getNextBlocks m st.remaining mb).1.length = []
  rw [beq_iff_eq.mp (Bool.and_eq_true_iff.mp h).2]
  exact List.drop_length

theorem fLast_of_nil (m : Mode) (mb : Nat) (st : St) (hr : st.remaining = []) (hg : st.gotAll = true) :
    fLast m mb st = true :=
  Bool.and_eq_true_iff.mpr
    ⟨hg, beq_iff_eq.mpr (Nat.le_antisymm (next_length_le m _ mb) (hr ▸ Nat.zero_le _))⟩

theorem mem_fMerged (m : Mode) (mb : Nat) (st : St) (x : Rec) :
    x ∈ fMerged m mb st ↔ (∃ b ∈ (getNextBlocks m st.remaining mb).1, x ∈ b.recs) ∨ x ∈ st.unsent := by
  unfold fMerged
  rw [mem_merge, sortRRCs, mem_sortBy, List.mem_flatMap]

theorem fNext_unsent (m : Mode) (mb : Nat) (st : St) :
    (fNext m mb st).unsent = (fMerged m mb st).dropWhile (fun r => !m.before (fEnd m mb st) r.2) :=
  drop_takeWhile_length _ _

theorem fOut_unsent (m : Mode) (mb : Nat) (st : St) :
    fOut m mb st ++ (fNext m mb st).unsent = fMerged m mb st := by
  rw [fNext_unsent]
  exact List.takeWhile_append_dropWhile

theorem fetchRRCs_perm (m : Mode) (mb : Nat) (st : St) :
    (future st).Perm (fOut m mb st ++ future (fNext m mb st)) := by
  have hmerged : (fMerged m mb st).Perm (st.unsent ++ recsOf (getNextBlocks m st.remaining mb).1) :=
    ((merge_perm m _ _).trans ((sortBy_perm m _ _).append_right _)).trans List.perm_append_comm
  have hrem : recsOf st.remaining =
      recsOf (getNextBlocks m st.remaining mb).1 ++ recsOf (fNext m mb st).remaining := by
    rw [← recsOf_append]
    exact congrArg recsOf ((List.take_append_drop _ _).symm.trans (congrArg (· ++ _) (next_take m _ mb).symm))
  unfold future
  rw [hrem, ← List.append_assoc (fOut m mb st), ← List.append_assoc (fOut m mb st),
    fOut_unsent, ← List.append_assoc st.unsent]
  exact (hmerged.symm.append_right _).append_right _

structure Inv (m : Mode) (segs : List Seg) (st : St) : Prop where
  unproc_sub : st.unproc.Sublist (sortSegs m segs)
  rem_sub : ∀ b ∈ st.remaining, b ∈ allBlocks segs
  unsent_sub : ∀ r ∈ st.unsent, r ∈ allRecs segs
  gotAll_unproc : st.gotAll = true → st.unproc = []

theorem Inv.seg_mem {m : Mode} {segs : List Seg} {st : St} (h : Inv m segs st) {s : Seg} (hs : s ∈ st.unproc) :
    s ∈ segs := (mem_sortBy m _ segs s).mp (h.unproc_sub.subset hs)

theorem pending_init (m : Mode) (segs : List Seg) : pending (init m segs) = (sortSegs m segs).flatMap (·.blocks) :=
  List.filter_eq_self.mpr (fun _ _ => rfl)

theorem inv_init (m : Mode) (segs : List Seg) : Inv m segs (init m segs) :=
  ⟨.refl _, List.forall_mem_nil _, List.forall_mem_nil _, fun h => absurd h Bool.false_ne_true⟩

theorem refill_inv (m : Mode) (segs : List Seg) (st : St) (h : Inv m segs st) : Inv m segs (refill m st) := by
  refine refill_cases (Inv m segs) m st (fun _ => h) fun _ =>
    ⟨List.filter_sublist.trans h.unproc_sub, fun b hb => ?_, h.unsent_sub, fun hg => ?_⟩
  · rcases List.mem_append.mp ((mem_sortBy m _ _ _).mp hb) with hb | hb
    · rcases (mem_pending.mp ((newBlocks_sublist m st _).subset hb)).1 with ⟨s, hs, hbs⟩
      exact mem_allBlocks.mpr ⟨s, h.seg_mem hs, hbs⟩
    · exact h.rem_sub b hb
  · -- gotAllSegments is set when no request is listed, and stays set only then
    have : st.unproc = [] := (Bool.or_eq_true _ _ ▸ hg).elim List.isEmpty_iff.mp h.gotAll_unproc
    exact congrArg (List.filter _) this

theorem fNext_inv (m : Mode) (mb : Nat) (segs : List Seg) (st : St) (h : Inv m segs st) :
    Inv m segs (fNext m mb st) := by
  refine ⟨h.unproc_sub, fun b hb => h.rem_sub b (List.mem_of_mem_drop hb), fun r hr => ?_, h.gotAll_unproc⟩
  rcases (mem_fMerged m mb st r).mp (List.mem_of_mem_drop hr) with ⟨b, hb, hrb⟩ | hu
  · exact mem_allRecs (h.rem_sub b (List.mem_of_mem_take (next_take m _ mb ▸ hb))) hrb
  · exact h.unsent_sub r hu

structure InvS (m : Mode) (st : St) : Prop where
  unsent_sorted : SortedBy m (·.2) st.unsent
  rem_sorted : SortedBy m (startOf m) st.remaining
  pend_bound : st.gotBlocks = true → ∀ b ∈ pending st, ∀ r ∈ b.recs, m.before st.cutoff r.2 = true

theorem invS_init (m : Mode) (segs : List Seg) : InvS m (init m segs) :=
  ⟨.nil, .nil, fun h => absurd h Bool.false_ne_true⟩

theorem pending_refillTo_bound (m : Mode) (st : St) (hok : ∀ s ∈ st.unproc, SegOK s) (c : Nat) (ga : Bool) :
    ∀ b ∈ pending (refillTo m st c ga), ∀ r ∈ b.recs, m.before c r.2 = true := by
  intro b hb r hr
  rcases mem_pending.mp hb with ⟨⟨s, hs, hbs⟩, hid⟩
  have hs' : s ∈ st.unproc := (List.mem_filter.mp hs).1
  have hsok := hok s hs'
  cases hcase : m.before c r.2 with
  | true => rfl
  | false =>
    -- else the block does not start beyond the cut-off either, and was handed out
    exact absurd (newBlocks_processed m st c hs' hsok hbs (nb_trans m hcase (rec_nb_start m (hsok b hbs).2.2 hr))) hid

theorem refill_invS (m : Mode) (segs : List Seg) (hwf : WF segs) (st : St) (h : Inv m segs st)
    (hs : InvS m st) : InvS m (refill m st) :=
  refill_cases (InvS m) m st (fun _ => hs) fun _ => ⟨hs.unsent_sorted, sortBy_sorted m _ _,
    fun _ => pending_refillTo_bound m st (fun s hs => hwf s (h.seg_mem hs)) _ _⟩

theorem fMerged_sorted {m : Mode} {st : St} (hs : InvS m st) (mb : Nat) : SortedBy m (·.2) (fMerged m mb st) :=
  merge_sorted m _ _ (sortBy_sorted m _ _) hs.unsent_sorted

theorem fNext_invS {m : Mode} {st : St} (hs : InvS m st) (hgb : st.gotBlocks = true) (mb : Nat) :
    InvS m (fNext m mb st) :=
  ⟨(fMerged_sorted hs mb).sublist (List.drop_sublist _ _), hs.rem_sorted.sublist (List.drop_sublist _ _),
    fun _ => hs.pend_bound hgb⟩

theorem fOut_bound (m : Mode) (mb : Nat) (st : St) : ∀ r ∈ fOut m mb st, m.before (fEnd m mb st) r.2 = false :=
  fun _ hr => Bool.not_eq_true' _ ▸ mem_takeWhile_imp (p := fun (r : Rec) => !m.before (fEnd m mb st) r.2) hr

theorem fNext_future_bound (m : Mode) (segs : List Seg) (hwf : WF segs) (mb : Nat) (st : St)
    (h : Inv m segs st) (hs : InvS m st) (hgb : st.gotBlocks = true) :
    ∀ r ∈ future (fNext m mb st), m.before r.2 (fEnd m mb st) = false := by
  intro r hr
  rcases mem_future.mp hr with hr | ⟨b, hb, hrb⟩ | ⟨b, hb, hrb⟩
  · rw [fNext_unsent] at hr
    exact dropWhile_bound m _ _ (fMerged_sorted hs mb) r hr
  · cases hl : fLast m mb st with
    | true => exact absurd (fLast_rem m mb st hl ▸ hb) List.not_mem_nil
    | false =>
      rw [fEnd_notlast m mb st hl]
      have hbok := blockOK_of_mem hwf (h.rem_sub b (List.mem_of_mem_drop hb))
      exact clamp_of_nb m _ (nb_trans m (rec_nb_start m hbok hrb) (next_rest_bound m st.remaining mb hs.rem_sorted b hb))
  · cases hl : fLast m mb st with
    | true =>
      -- the last round: every segment request has handed over its blocks
      rcases (mem_pending.mp hb).1 with ⟨s, hs, _⟩
      exact absurd (h.gotAll_unproc (Bool.and_eq_true_iff.mp hl).1 ▸ hs) List.not_mem_nil
    | false =>
      rw [fEnd_notlast m mb st hl]
      exact clamp_of_before_cutoff m _ (hs.pend_bound hgb b hb r hrb)

theorem run_sorted (m : Mode) (segs : List Seg) (hwf : WF segs) (mb : Nat) (fuel : Nat) (st : St)
    (h : Inv m segs st) (hs : InvS m st) :
    SortedBy m (·.2) (runFetch m mb fuel st).1.flatten ∧ ∀ x ∈ (runFetch m mb fuel st).1.flatten, x ∈ future st := by
  induction fuel generalizing st with
  | zero => exact ⟨.nil, List.forall_mem_nil _⟩
  | succ fuel ih =>
    rw [runFetch_succ]
    cases atEOF (refill m st)
    · rw [if_neg Bool.false_ne_true]
      have h₁ := refill_inv m segs st h
      have hs₁ := refill_invS m segs hwf st h hs
      have hgb := refill_gotBlocks m st
      have ih := ih _ (fNext_inv m mb segs _ h₁) (fNext_invS hs₁ hgb mb)
      rw [List.flatten_cons]
      -- later rounds release records of `future` of the next state (the second part), all beyond this end time
      refine ⟨List.pairwise_append.mpr ⟨(fMerged_sorted hs₁ mb).sublist (List.takeWhile_sublist _), ih.1,
        fun a ha b hb => ?_⟩, fun x hx => ?_⟩
      · exact nb_trans m (fNext_future_bound m segs hwf mb _ h₁ hs₁ hgb b (ih.2 b hb)) (fOut_bound m mb _ a ha)
      · refine refill_future_sub m st x ((fetchRRCs_perm m mb _).mem_iff.mpr ?_)
        exact List.mem_append.mpr ((List.mem_append.mp hx).imp_right (ih.2 x))
    · exact ⟨.nil, List.forall_mem_nil _⟩

end SigModel.Lemmas.C05
