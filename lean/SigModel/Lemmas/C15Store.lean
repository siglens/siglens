import SigModel.Model.Bulk
import SigModel.Lemmas.C15
/-
After the loop, for the repaired code: the grouping of the accepted events into one batch per index name (`callsOf`
through `callFor`), `ProcessIndexRequestPle` on such a batch, the items `markUnavailable` overwrites, the
specification of the final response (`created`, `docsOf`, `refusedIdx`, `finalStatus`, `finalItems`, `finalDocsOf`),
and the response to a well-formed request in its terms: `final_calls`, `final_items`, `final_errors`,
`stored_eq_finalDocs`.  For the versions that ignore the store's error: `response_independent_of_store`.
-/
namespace SigModel.Lemmas.C15
open SigModel.Bulk

theorem mem_keysOf (l : List Nat) (x : Nat) : x ∈ keysOf l ↔ x ∈ l := by
  induction l with
  | nil => simp [keysOf]
  | cons k r ih =>
    by_cases h : x = k
    · simp [keysOf, h]
    · simp [keysOf, ih, h]

theorem keysOf_nodup (l : List Nat) : (keysOf l).Nodup := by
  induction l with
  | nil => simp [keysOf]
  | cons k r ih =>
    simp only [keysOf, List.nodup_cons]
    refine ⟨?_, ih.filter _⟩
    simp

def callFor (env : Env) (ples : List Ple) (x : Nat) : Call :=
  { idx := x, docs := ples.filter (·.1 == x), res := processPle env x (ples.filter (·.1 == x)) }

theorem callsOf_eq (env : Env) (ples : List Ple) :
    callsOf env ples = (keysOf (ples.map (·.1))).map (callFor env ples) := by
  rw [callsOf, batches, List.map_map]; rfl

theorem mem_callsOf (env : Env) (ples : List Ple) (c : Call) :
    c ∈ callsOf env ples ↔ ∃ p ∈ ples, callFor env ples p.1 = c := by
  simp only [callsOf_eq, List.mem_map, mem_keysOf]
  exact ⟨fun ⟨_, ⟨p, hp, hk⟩, hc⟩ => ⟨p, hp, hk ▸ hc⟩, fun ⟨p, hp, hc⟩ => ⟨_, ⟨p, hp, rfl⟩, hc⟩⟩

theorem callsOf_filter (env : Env) (ples : List Ple) (x : Nat) :
    (callsOf env ples).filter (·.idx == x) = if x ∈ ples.map (·.1) then [callFor env ples x] else [] := by
  rw [callsOf_eq, List.filter_map, show ((fun c : Call => c.idx == x) ∘ callFor env ples) = (· == x) from rfl,
    List.filter_beq, (keysOf_nodup _).count]
  simp only [mem_keysOf]
  split <;> rfl

theorem callsOf_count (env : Env) (ples : List Ple) (x : Nat) :
    ((callsOf env ples).filter (·.idx == x)).length ≤ 1 := by
  rw [callsOf_filter]
  split <;> simp

/-- a batch the grouping built never ends in `mismatch` -/
theorem processPle_own (env : Env) (ples : List Ple) (x : Nat) (hv : env.valid x = true) :
    processPle env x (ples.filter (·.1 == x)) =
      if env.store (env.resolve x) ((ples.filter (·.1 == x)).map (·.2.1)) then .stored (env.resolve x)
      else .refused (env.resolve x) := by
  have h : (ples.filter (·.1 == x)).any (·.1 != x) = false := by
    rw [List.any_eq_false]
    intro p hp
    rw [bne_eq_false_iff_eq.2 (beq_iff_eq.1 (List.mem_filter.1 hp).2)]
    exact Bool.false_ne_true
  simp [processPle, h, hv]

theorem callFor_accepted (env : Env) (ples : List Ple) (x : Nat) (hv : env.valid x = true) :
    (callFor env ples x).accepted = env.store (env.resolve x) ((ples.filter (·.1 == x)).map (·.2.1)) := by
  rw [Call.accepted, callFor, processPle_own env ples x hv]
  cases env.store (env.resolve x) ((ples.filter (·.1 == x)).map (·.2.1)) <;> rfl

theorem filter_nil_of_not_mem (ples : List Ple) (x : Nat) (h : x ∉ ples.map (·.1)) :
    ples.filter (·.1 == x) = [] :=
  List.filter_eq_nil_iff.2 fun p hp he => h (List.mem_map.2 ⟨p, hp, beq_iff_eq.1 he⟩)

theorem handedUnder_callsOf (env : Env) (r : Resp) (ples : List Ple) (hr : r.calls = callsOf env ples) (x : Nat) :
    r.handedUnder x = ples.filter (·.1 == x) := by
  rw [Resp.handedUnder, hr, callsOf_filter]
  split
  · exact List.append_nil _
  · exact (filter_nil_of_not_mem ples x ‹_›).symm

theorem callsOf_res (env : Env) (ples : List Ple) (hv : ∀ p ∈ ples, env.valid p.1 = true)
    (c : Call) (hc : c ∈ callsOf env ples) :
    (c.res = .stored (env.resolve c.idx) ∨ c.res = .refused (env.resolve c.idx)) ∧
    (∀ p ∈ c.docs, p.1 = c.idx) ∧ c.docs ≠ [] := by
  obtain ⟨p, hp, rfl⟩ := (mem_callsOf env ples c).1 hc
  refine ⟨?_, fun q hq => beq_iff_eq.1 (List.mem_filter.1 hq).2,
    List.ne_nil_of_mem (List.mem_filter.2 ⟨hp, beq_self_eq_true _⟩)⟩
  show processPle env p.1 _ = _ ∨ processPle env p.1 _ = _
  rw [processPle_own env ples p.1 (hv p hp)]
  cases env.store (env.resolve p.1) ((ples.filter (·.1 == p.1)).map (·.2.1))
  · exact Or.inr rfl
  · exact Or.inl rfl

def refusedDocs (env : Env) (ples : List Ple) : List Ple :=
  ((callsOf env ples).filter (fun c => !c.accepted)).flatMap (·.docs)

theorem mem_refusedDocs (env : Env) (ples : List Ple) (hv : ∀ p ∈ ples, env.valid p.1 = true) (p : Ple) :
    p ∈ refusedDocs env ples ↔
      p ∈ ples ∧ env.store (env.resolve p.1) ((ples.filter (·.1 == p.1)).map (·.2.1)) = false := by
  simp only [refusedDocs, List.mem_flatMap, List.mem_filter, mem_callsOf, Bool.not_eq_true']
  constructor
  · rintro ⟨_, ⟨⟨q, hq, rfl⟩, hacc⟩, hp⟩
    obtain ⟨hp1, hp2⟩ := List.mem_filter.1 hp
    rw [beq_iff_eq.1 hp2, ← callFor_accepted env ples q.1 (hv q hq)]
    exact ⟨hp1, hacc⟩
  · rintro ⟨hp, hs⟩
    exact ⟨_, ⟨⟨p, hp, rfl⟩, by rw [callFor_accepted env ples p.1 (hv p hp), hs]⟩,
      List.mem_filter.2 ⟨hp, beq_self_eq_true _⟩⟩

theorem getElem?_markUnavailable (items : List Status) (batch : List Ple) (k : Nat) :
    (markUnavailable items batch)[k]? =
      if batch.any (·.2.2 == k) then (items[k]?).map (fun _ => Status.unavailable) else items[k]? := by
  unfold markUnavailable
  induction batch generalizing items with
  | nil => rfl
  | cons p r ih =>
    rw [List.foldl_cons, ih, List.getElem?_set', List.any_cons]
    by_cases h1 : p.2.2 = k
    · rw [if_pos h1, beq_iff_eq.2 h1, Bool.true_or, if_pos rfl]
      cases r.any (·.2.2 == k) <;> cases items[k]? <;> rfl
    · rw [if_neg h1, beq_false_of_ne h1, Bool.false_or]

theorem foldl_markUnavailable (items : List Status) (cs : List Call) :
    cs.foldl (fun its c => markUnavailable its c.docs) items = markUnavailable items (cs.flatMap (·.docs)) := by
  unfold markUnavailable
  exact List.foldl_flatMap.symm

theorem handleReq_eq (env : Env) (body : List Line) :
    handleReq env body =
      let st := handle Version.fixed env body
      let failed := (callsOf env st.ples).filter (fun c => !c.accepted)
      { st := st, calls := callsOf env st.ples
        items := failed.foldl (fun its c => markUnavailable its c.docs) st.items
        errors := st.overallError || !failed.isEmpty
        numCreated := failed.foldl (fun n c => n - c.docs.length) st.numCreated } := rfl

theorem handleReq_calls (env : Env) (body : List Line) :
    (handleReq env body).calls = callsOf env (handle Version.fixed env body).ples := by rw [handleReq_eq]

theorem handleReq_st (env : Env) (body : List Line) : (handleReq env body).st = handle Version.fixed env body := by
  rw [handleReq_eq]

theorem handleReq_items (env : Env) (body : List Line) :
    (handleReq env body).items =
      markUnavailable (handle Version.fixed env body).items (refusedDocs env (handle Version.fixed env body).ples) := by
  rw [refusedDocs, ← foldl_markUnavailable, handleReq_eq]

theorem handleReq_errors (env : Env) (body : List Line) :
    (handleReq env body).errors =
      ((handle Version.fixed env body).overallError ||
        !((callsOf env (handle Version.fixed env body).ples).filter (fun c => !c.accepted)).isEmpty) := by
  rw [handleReq_eq]

theorem response_independent_of_store (v : Version) (hv : v.storeErrorIgnored = true) (env : Env)
    (store' : Nat → List Nat → Bool) (body : List Line) :
    (handleReqV v { env with store := store' } body).items = (handleReqV v env body).items ∧
    (handleReqV v { env with store := store' } body).errors = (handleReqV v env body).errors := by
  have hh : handle v { env with store := store' } body = handle v env body := loop_store v env store' _ _ _
  simp only [handleReqV, hv, if_true]
  exact ⟨congrArg St.items hh, congrArg St.overallError hh⟩

def created (env : Env) (acts : List Act) : List (Nat × Nat) := acts.flatMap (Act.storedOf env)

/-- the batch the store is handed for index name `x` -/
def docsOf (env : Env) (acts : List Act) (x : Nat) : List Nat :=
  ((created env acts).filter (·.1 == x)).map (·.2)

def refusedIdx (env : Env) (acts : List Act) (x : Nat) : Bool := !env.store (env.resolve x) (docsOf env acts x)

def finalStatus (env : Env) (acts : List Act) (a : Act) : Status :=
  if a.status env = Status.created ∧ refusedIdx env acts a.idxOf = true then Status.unavailable else a.status env

theorem finalStatus_ne_created_iff (env : Env) (acts : List Act) (a : Act) :
    finalStatus env acts a ≠ Status.created ↔
      a.status env ≠ Status.created ∨ (a.status env = Status.created ∧ refusedIdx env acts a.idxOf = true) := by
  unfold finalStatus
  split
  · exact ⟨fun _ => Or.inr ‹_›, fun _ => by decide⟩
  · exact ⟨Or.inl, fun h => h.elim id (absurd · ‹_›)⟩

theorem finalStatus_of_accepted (env : Env) (acts : List Act) (a : Act) (h : refusedIdx env acts a.idxOf = false) :
    finalStatus env acts a = a.status env := by
  rw [finalStatus, h]
  exact if_neg fun hc => Bool.false_ne_true hc.2

theorem finalStatus_of_refused (env : Env) (acts : List Act) (a : Act) (h : refusedIdx env acts a.idxOf = true) :
    finalStatus env acts a ≠ Status.created := by
  unfold finalStatus
  split
  next => decide
  next hn => exact fun hc => hn ⟨hc, h⟩

def finalItems (env : Env) (acts : List Act) (dangling : Option Line) : List Status :=
  acts.map (finalStatus env acts) ++ tailItems dangling

def finalDocsOf (env : Env) (acts : List Act) (x : Nat) : List Nat :=
  (acts.filter (fun a => finalStatus env acts a == Status.created && a.idxOf == x)).map Act.docId

theorem plesFrom_proj (env : Env) (acts : List Act) (off : Nat) :
    (plesFrom env acts off).map (fun p => (p.1, p.2.1)) = created env acts := by
  induction acts generalizing off with
  | nil => rfl
  | cons a r ih =>
    simp only [plesFrom, List.map_append, ih, created, List.flatMap_cons, Act.pleOf, List.map_map]
    congr 1
    exact List.map_id' _

theorem mem_plesFrom (env : Env) (acts : List Act) (off : Nat) (p : Ple) :
    p ∈ plesFrom env acts off ↔
      ∃ j a, acts[j]? = some a ∧ a.status env = Status.created ∧ p = (a.idxOf, a.docId, off + j) := by
  induction acts generalizing off with
  | nil => simp [plesFrom]
  | cons a r ih =>
    rw [plesFrom, List.mem_append, ih, Act.pleOf, storedOf_eq]
    constructor
    · rintro (h | ⟨j, b, hj, hb, hp⟩)
      · by_cases hc : a.status env = Status.created
        · rw [if_pos hc] at h
          exact ⟨0, a, rfl, hc, List.mem_singleton.1 h⟩
        · rw [if_neg hc] at h
          cases h
      · exact ⟨j + 1, b, hj, hb, by rw [hp, Nat.add_assoc, Nat.add_comm 1]⟩
    · rintro ⟨j, b, hj, hb, hp⟩
      cases j with
      | zero =>
        obtain rfl : a = b := Option.some.inj hj
        exact Or.inl (by rw [if_pos hb, hp]; exact List.mem_singleton.2 rfl)
      | succ j => exact Or.inr ⟨j, b, hj, hb, by rw [hp, Nat.add_assoc, Nat.add_comm 1]⟩

theorem docs_plesFrom (env : Env) (acts : List Act) (off x : Nat) :
    ((plesFrom env acts off).filter (·.1 == x)).map (·.2.1) = docsOf env acts x := by
  unfold docsOf
  rw [← plesFrom_proj env acts off, List.filter_map, List.map_map]
  rfl

theorem plesFrom_valid (env : Env) (acts : List Act) (off : Nat) : ∀ p ∈ plesFrom env acts off, env.valid p.1 = true := by
  intro p hp
  obtain ⟨_, a, _, hc, rfl⟩ := (mem_plesFrom env acts off p).1 hp
  cases a with
  | single l => cases hc
  | withDoc x d => exact ((status_created_iff env x d).1 hc).2.1

theorem store_plesFrom (env : Env) (acts : List Act) (off x : Nat) :
    env.store (env.resolve x) (((plesFrom env acts off).filter (·.1 == x)).map (·.2.1)) = !refusedIdx env acts x := by
  rw [docs_plesFrom, refusedIdx, Bool.not_not]

theorem docsOf_eq_filter (env : Env) (acts : List Act) (x : Nat) :
    docsOf env acts x = (acts.filter (fun a => a.status env == Status.created && a.idxOf == x)).map Act.docId := by
  unfold docsOf created
  induction acts with
  | nil => rfl
  | cons a r ih =>
    rw [List.flatMap_cons, List.filter_append, List.map_append, ih, List.filter_cons, storedOf_eq]
    by_cases hc : a.status env = Status.created
    · rw [if_pos hc, List.filter_cons, List.filter_nil, beq_iff_eq.2 hc, Bool.true_and]
      cases (a.idxOf == x) <;> rfl
    · rw [if_neg hc, beq_false_of_ne hc, Bool.false_and]
      rfl

theorem marked_action (env : Env) (acts : List Act) (k : Nat) :
    (refusedDocs env (plesFrom env acts 0)).any (·.2.2 == k) = true ↔
      ∃ a, acts[k]? = some a ∧ a.status env = Status.created ∧ refusedIdx env acts a.idxOf = true := by
  simp only [List.any_eq_true, mem_refusedDocs env _ (plesFrom_valid env acts 0), mem_plesFrom, store_plesFrom,
    Bool.not_eq_eq_eq_not, Bool.not_false, beq_iff_eq]
  constructor
  · rintro ⟨_, ⟨⟨j, a, ha, hc, rfl⟩, hr⟩, rfl⟩
    exact ⟨a, by rw [← ha, Nat.zero_add], hc, hr⟩
  · rintro ⟨a, ha, hc, hr⟩
    exact ⟨_, ⟨⟨k, a, ha, hc, rfl⟩, hr⟩, Nat.zero_add k⟩

theorem final_calls (env : Env) (acts : List Act) (dangling : Option Line) (nl : Bool)
    (hwf : ∀ a ∈ acts, a.wf) (hd : ∀ l, dangling = some l → l.kind ≠ Kind.other ∧ 0 < l.len) :
    (handleReq env (bodyOf acts dangling nl)).calls = callsOf env (plesFrom env acts 0) := by
  rw [handleReq_calls, (handle_spec env acts dangling nl hwf hd).2.1]

theorem final_items (env : Env) (acts : List Act) (dangling : Option Line) (nl : Bool)
    (hwf : ∀ a ∈ acts, a.wf) (hd : ∀ l, dangling = some l → l.kind ≠ Kind.other ∧ 0 < l.len) :
    (handleReq env (bodyOf acts dangling nl)).items = finalItems env acts dangling := by
  obtain ⟨h1, h2, _⟩ := handle_spec env acts dangling nl hwf hd
  rw [handleReq_items, h1, h2]
  apply List.ext_getElem?
  intro k
  rw [getElem?_markUnavailable, loopItems, finalItems, List.getElem?_append, List.getElem?_append,
    List.getElem?_map, List.getElem?_map, List.length_map, List.length_map]
  have hm := marked_action env acts k
  cases ha : acts[k]? with
  | none =>
    rw [ha] at hm
    rw [if_neg (fun h => by obtain ⟨_, h, _⟩ := hm.1 h; cases h)]
    rfl
  | some a =>
    rw [ha] at hm
    have hk := (List.getElem?_eq_some_iff.1 ha).1
    rw [if_pos hk, if_pos hk]
    show (if _ then some Status.unavailable else some (a.status env)) = some (finalStatus env acts a)
    unfold finalStatus
    by_cases hc : a.status env = Status.created ∧ refusedIdx env acts a.idxOf = true
    · rw [if_pos (hm.2 ⟨a, rfl, hc⟩), if_pos hc]
    · rw [if_neg (fun h => by obtain ⟨_, h, hc'⟩ := hm.1 h; cases h; exact hc hc'), if_neg hc]

theorem some_call_refused_iff (env : Env) (acts : List Act) :
    ((callsOf env (plesFrom env acts 0)).filter (fun c => !c.accepted)).isEmpty = false ↔
      ∃ a ∈ acts, a.status env = Status.created ∧ refusedIdx env acts a.idxOf = true := by
  have hv := plesFrom_valid env acts 0
  simp only [List.isEmpty_eq_false_iff_exists_mem, List.mem_filter, mem_callsOf, Bool.not_eq_true']
  constructor
  · rintro ⟨_, ⟨p, hp, rfl⟩, hacc⟩
    rw [callFor_accepted env _ _ (hv p hp), store_plesFrom] at hacc
    obtain ⟨j, a, ha, hc, rfl⟩ := (mem_plesFrom env acts 0 p).1 hp
    exact ⟨a, List.mem_iff_getElem?.2 ⟨j, ha⟩, hc, by simpa using hacc⟩
  · rintro ⟨a, ha, hc, hr⟩
    obtain ⟨j, hj⟩ := List.mem_iff_getElem?.1 ha
    have hp := (mem_plesFrom env acts 0 _).2 ⟨j, a, hj, hc, rfl⟩
    exact ⟨_, ⟨_, hp, rfl⟩, by rw [callFor_accepted env _ _ (hv _ hp), store_plesFrom, hr]; rfl⟩

theorem final_errors (env : Env) (acts : List Act) (dangling : Option Line) (nl : Bool)
    (hwf : ∀ a ∈ acts, a.wf) (hd : ∀ l, dangling = some l → l.kind ≠ Kind.other ∧ 0 < l.len) :
    (handleReq env (bodyOf acts dangling nl)).errors = (finalItems env acts dangling).any (· ≠ Status.created) := by
  obtain ⟨_, h2, h3⟩ := handle_spec env acts dangling nl hwf hd
  rw [handleReq_errors, h2, h3, Bool.eq_iff_iff, Bool.or_eq_true, Bool.not_eq_true', some_call_refused_iff, loopItems,
    finalItems]
  simp only [List.any_append, List.any_map, Bool.or_eq_true, List.any_eq_true, Function.comp, decide_eq_true_eq,
    finalStatus_ne_created_iff]
  constructor
  · rintro ((⟨a, ha, h⟩ | ht) | ⟨a, ha, h⟩)
    · exact Or.inl ⟨a, ha, Or.inl h⟩
    · exact Or.inr ht
    · exact Or.inl ⟨a, ha, Or.inr h⟩
  · rintro (⟨a, ha, h | h⟩ | ht)
    · exact Or.inl (Or.inl ⟨a, ha, h⟩)
    · exact Or.inr ⟨a, ha, h⟩
    · exact Or.inl (Or.inr ht)

theorem storedUnder_plesFrom (env : Env) (r : Resp) (acts : List Act)
    (hr : r.calls = callsOf env (plesFrom env acts 0)) (x : Nat) :
    r.storedUnder x = if refusedIdx env acts x = true then [] else docsOf env acts x := by
  rw [Resp.storedUnder, hr,
    show (fun c : Call => c.idx == x && c.accepted) = fun c => c.accepted && c.idx == x from
      funext fun c => Bool.and_comm _ _,
    ← List.filter_filter, callsOf_filter, ← docs_plesFrom env acts 0 x]
  split
  next h =>
    obtain ⟨p, hp, rfl⟩ := List.mem_map.1 h
    rw [List.filter_cons, List.filter_nil, callFor_accepted env _ _ (plesFrom_valid env acts 0 p hp), store_plesFrom]
    cases refusedIdx env acts p.1
    · exact congrArg _ (List.append_nil _)
    · rfl
  next h => rw [filter_nil_of_not_mem _ x h, List.map_nil, ite_self]; rfl

theorem stored_eq_finalDocs (env : Env) (acts : List Act) (dangling : Option Line) (nl : Bool)
    (hwf : ∀ a ∈ acts, a.wf) (hd : ∀ l, dangling = some l → l.kind ≠ Kind.other ∧ 0 < l.len) (x : Nat) :
    (handleReq env (bodyOf acts dangling nl)).storedUnder x = finalDocsOf env acts x := by
  rw [storedUnder_plesFrom env _ acts (final_calls env acts dangling nl hwf hd) x, finalDocsOf]
  split
  next hr =>
    -- refused: no action addressed to `x` is finally created
    rw [List.filter_eq_nil_iff.2, List.map_nil]
    intro a _ h
    obtain ⟨hf, hx⟩ := Bool.and_eq_true_iff.1 h
    exact finalStatus_of_refused env acts a (by rwa [beq_iff_eq.1 hx]) (beq_iff_eq.1 hf)
  next hr =>
    rw [docsOf_eq_filter]
    refine congrArg _ (List.filter_congr fun a _ => ?_)
    by_cases hx : a.idxOf = x
    · rw [finalStatus_of_accepted env acts a (by rw [hx]; exact Bool.eq_false_iff.2 hr)]
    · rw [beq_false_of_ne hx, Bool.and_false, Bool.and_false]

end SigModel.Lemmas.C15
