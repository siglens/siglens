/-
Lemmas for C20, the set of alerts and their cron jobs (Model/AlertSet.lean): what the tests of the handlers and a
refused request compute — every request has one shape, test passed / refused (`guarded`, `refused_iff`); the
invariant `Inv` behind "one job per alert after a restart"; `AllSched`, which the requests preserve and a row
rewritten behind the API breaks.  Core Lean only.
-/
import SigModel.Model.AlertSet

namespace SigModel.Lemmas.C20S
open SigModel.AlertSet

theorem accepted_iff {w i t : Nat} :
    accepted w i t = true ↔ (i ≠ 0 ∧ ¬ w < i ∧ (t = 1 ∨ t = 2)) ∧ i ≤ maxInterval := by
  simp only [accepted, Bool.and_eq_true, Bool.or_eq_true, bne_iff_ne, beq_iff_eq, Bool.not_eq_true',
    decide_eq_false_iff_not, decide_eq_true_eq, and_assoc]

theorem accepted_schedulable {k w i t : Nat} (h : accepted w i t = true) :
    schedulable { idx := k, window := w, interval := i, type := t } = true :=
  have h3 := Bool.and_eq_true_iff.1 (Bool.and_eq_true_iff.1 h).1
  Bool.and_eq_true_iff.2 ⟨(Bool.and_eq_true_iff.1 h3.1).1, h3.2⟩

theorem createRow_ok {s : St} {w i t : Nat} (h : accepted w i t = true) :
    createRow s w i t =
      ({ next := s.next + 1, rows := s.rows ++ [⟨s.next, w, i, t⟩], jobs := s.jobs ++ [s.next] }, .ok) :=
  if_pos h

theorem createRow_refused {s : St} {w i t : Nat} (h : accepted w i t = false) :
    createRow s w i t = ({ s with next := s.next + 1 }, .refused) :=
  if_neg (ne_true_of_eq_false h)

theorem guarded {P : St → Prop} {c : Prop} [Decidable c] {a b : St} (ha : c → P a) (hb : P b) :
    P (if c then (a, Ans.ok) else (b, .refused)).1 :=
  iteInduction (motive := fun r : St × Ans => P r.1) ha (fun _ => hb)

theorem refused_iff {c : Prop} [Decidable c] {a b : St} :
    (if c then (a, Ans.ok) else (b, .refused)).2 = .refused ↔ ¬ c :=
  iteInduction (motive := fun r : St × Ans => r.2 = .refused ↔ ¬ c)
    (fun hc => iff_of_false nofun (not_not_intro hc)) (fun hc => iff_of_true rfl hc)

theorem createRow_refused_iff {s : St} {w i t : Nat} :
    (createRow s w i t).2 = .refused ↔ accepted w i t = false :=
  refused_iff.trans Bool.eq_false_iff.symm

theorem step_refused {s : St} {op : Op} (h : (step s op).2 = .refused) :
    (step s op).1 = { s with next := (step s op).1.next } := by
  have keeps {c : Prop} [Decidable c] {a b : St} (hb : b = { s with next := b.next })
      (h : (if c then (a, Ans.ok) else (b, .refused)).2 = .refused) :
      (if c then (a, Ans.ok) else (b, .refused)).1 =
        { s with next := (if c then (a, Ans.ok) else (b, .refused)).1.next } := by
    rw [if_neg (refused_iff.1 h)]
    exact hb
  cases op with
  | create _ _ | createMetrics _ _ | createTyped _ | edit _ _ _ | delete _ => exact keeps rfl h
  | legacyInterval _ | legacyType _ | restart => cases h

structure Inv (s : St) : Prop where
  nodup : (s.rows.map (·.idx)).Nodup
  below : ∀ k ∈ s.rows.map (·.idx), k < s.next

theorem Inv.mono {s s' : St} (h : Inv s) (hsub : (s'.rows.map (·.idx)).Sublist (s.rows.map (·.idx)))
    (hn : s.next ≤ s'.next) : Inv s' :=
  ⟨h.nodup.sublist hsub, fun k hk => Nat.lt_of_lt_of_le (h.below k (hsub.subset hk)) hn⟩

theorem setRow_idx (rows : List Row) (k : Nat) (f : Row → Row) (hf : ∀ r, (f r).idx = r.idx) :
    (setRow rows k f).map (·.idx) = rows.map (·.idx) := by
  rw [setRow, List.map_map]
  exact List.map_congr_left fun r _ =>
    iteInduction (motive := fun x : Row => x.idx = r.idx) (fun _ => hf r) (fun _ => rfl)

theorem mem_setRow {rows : List Row} {k : Nat} {f : Row → Row} {x : Row} (h : x ∈ setRow rows k f) :
    ∃ r ∈ rows, x = r ∨ x = f r := by
  obtain ⟨r, hr, rfl⟩ := List.mem_map.1 h
  exact ⟨r, hr, iteInduction (motive := fun x : Row => x = r ∨ x = f r) (fun _ => .inr rfl) (fun _ => .inl rfl)⟩

theorem inv_setRow (s : St) (k : Nat) (f : Row → Row) (hf : ∀ r, (f r).idx = r.idx) (h : Inv s) (jobs : List Nat) :
    Inv { s with rows := setRow s.rows k f, jobs := jobs } :=
  h.mono (by rw [setRow_idx _ _ _ hf]; exact .refl _) (Nat.le_refl _)

theorem inv_createRow (s : St) (w i t : Nat) (h : Inv s) : Inv (createRow s w i t).1 := by
  refine guarded (fun _ => ⟨?_, fun k hk => ?_⟩) (h.mono (.refl _) (Nat.le_succ _))
  · dsimp only
    rw [List.map_append, List.nodup_append]
    exact ⟨h.nodup, List.pairwise_singleton _ _, fun a ha b hb =>
      List.mem_singleton.1 hb ▸ Nat.ne_of_lt (h.below a ha)⟩
  · dsimp only at hk ⊢
    rw [List.map_append, List.mem_append] at hk
    exact hk.elim (fun hk => Nat.lt_succ_of_lt (h.below k hk))
      (fun hk => List.mem_singleton.1 hk ▸ Nat.lt_succ_self _)

theorem inv_step (s : St) (op : Op) (h : Inv s) : Inv (step s op).1 := by
  cases op with
  | create _ _ | createMetrics _ _ | createTyped _ => exact inv_createRow s _ _ _ h
  | edit k w i =>
    exact guarded
      (fun _ => inv_setRow s k (fun r => { r with window := w, interval := i, type := 1 }) (fun _ => rfl) h _) h
  | delete k => exact guarded (fun _ => h.mono ((List.filter_sublist).map _) (Nat.le_refl _)) h
  | legacyInterval k => exact inv_setRow s k (fun r => { r with window := 0, interval := 0 }) (fun _ => rfl) h _
  | legacyType k => exact inv_setRow s k (fun r => { r with type := 0 }) (fun _ => rfl) h _
  | restart => exact ⟨h.nodup, h.below⟩

theorem inv_init : Inv init := ⟨.nil, fun _ h => nomatch h⟩

theorem inv_run (ops : List Op) (s : St) (h : Inv s) : Inv (run s ops).1 := by
  induction ops generalizing s with
  | nil => exact h
  | cons op ops ih => exact ih _ (inv_step s op h)

def isLegacy : Op → Bool
  | .legacyInterval _ => true
  | .legacyType _ => true
  | _ => false

def AllSched (s : St) : Prop := ∀ r ∈ s.rows, schedulable r = true

theorem allSched_createRow (s : St) (w i t : Nat) (h : AllSched s) : AllSched (createRow s w i t).1 :=
  guarded (fun ha r hr => (List.mem_append.1 hr).elim (h r)
    (fun hr => List.mem_singleton.1 hr ▸ accepted_schedulable ha)) h

theorem allSched_step (s : St) (op : Op) (hl : isLegacy op = false) (h : AllSched s) : AllSched (step s op).1 := by
  cases op with
  | create _ _ | createMetrics _ _ | createTyped _ => exact allSched_createRow s _ _ _ h
  | edit k w i =>
    refine guarded (fun hc x hx => ?_) h
    obtain ⟨r, hr, rfl | rfl⟩ := mem_setRow hx
    · exact h _ hr
    · exact accepted_schedulable (Bool.and_eq_true_iff.1 hc).2
  | delete k => exact guarded (fun _ r hr => h r (List.mem_filter.1 hr).1) h
  | legacyInterval _ | legacyType _ => cases hl
  | restart => exact h

theorem allSched_run (ops : List Op) (s : St) (hl : ∀ op ∈ ops, isLegacy op = false) (h : AllSched s) :
    AllSched (run s ops).1 := by
  induction ops generalizing s with
  | nil => exact h
  | cons op ops ih =>
    exact ih _ (fun o ho => hl o (List.mem_cons_of_mem _ ho)) (allSched_step s op (hl op (List.mem_cons_self ..)) h)

theorem restart_jobs (s : St) : (step s .restart).1.jobs = (s.rows.filter schedulable).map (·.idx) := rfl

theorem restart_jobs_nodup (s : St) (h : Inv s) : (step s .restart).1.jobs.Nodup := by
  rw [restart_jobs]
  exact h.nodup.sublist ((List.filter_sublist).map _)

theorem mem_restart_jobs (s : St) (k : Nat) :
    k ∈ (step s .restart).1.jobs ↔ ∃ r ∈ s.rows, r.idx = k ∧ schedulable r = true :=
  List.mem_map.trans (exists_congr fun _ =>
    ((and_congr_left' List.mem_filter).trans and_assoc).trans (and_congr_right' and_comm))

end SigModel.Lemmas.C20S
