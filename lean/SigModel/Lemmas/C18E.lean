/-
The reader state above the chunk reader (Model/SegReader.lean): the invariant of the state machine, one call of the
interface for any `readBlock` variant, and from that whole call sequences; the same for the timestamp reader; when
`loadOf` succeeds.
-/
import SigModel.Model.SegReader
namespace SigModel.Lemmas.C18E
open SigModel.Wal (Bytes)
open SigModel.SegReader SigModel.Checksum

/-- `t` is the taint flag of `noStaleReturn` -/
def Inv (load : Nat → Load) (st : St) (t : Bool) : Prop :=
  st.loaded = true → t = false → load st.curr = .ok st.buf

theorem inv_init (load : Nat → Load) (t : Bool) : Inv load St.init t := fun h => absurd h Bool.false_ne_true

/-- the test that skips the load, as `noStaleReturn` writes it -/
theorem skip_test (l : Bool) (c b : Nat) : (!l || c != b) = !(l && c == b) := (Bool.not_and _ _).symm

def RbPost (load : Nat → Load) (b : Nat) (t : Bool) : St × RB → Prop
  | (s, .ok) => Inv load s t ∧ load b = .ok s.buf
  | (s, _) => Inv load s t

variable {load : Nat → Load} {rb : St → Nat → St × RB} {st : St}

section Step
-- `t`: the taint after the call.  Each hypothesis is conditional on its branch of the skip test: `guarded_run` has it
-- only there.
variable {b : Nat} {t : Bool}
  (hskip : (st.loaded && st.curr == b) = true → Inv load st false ∧ t = false)
  (hload : (st.loaded && st.curr == b) = false → RbPost load b t (rb st b))
include hskip hload

theorem validate_spec :
    Inv load (validate rb st b).1 t ∧
      ((validate rb st b).2 = false → ∀ i r, (validate rb st b).1.buf[i]? = some r → Genuine load b i r) := by
  unfold validate
  rw [skip_test]
  cases hs : (st.loaded && st.curr == b) with
  | true =>
    obtain ⟨hi, rfl⟩ := hskip hs
    obtain ⟨hl, hc⟩ := Bool.and_eq_true_iff.mp hs
    exact ⟨hi, fun _ _ _ hr => ⟨_, eq_of_beq hc ▸ hi hl rfl, hr⟩⟩
  | false =>
    have h := hload hs
    revert h
    rcases rb st b with ⟨s, _ | _ | _⟩ <;> intro h
    · exact ⟨fun hl => absurd hl Bool.false_ne_true,
        fun _ i r hr => absurd (hr.symm.trans List.getElem?_nil) (Option.some_ne_none r)⟩
    · exact ⟨h, fun hf => absurd hf.symm Bool.false_ne_true⟩
    · exact ⟨h.1, fun _ _ _ hr => ⟨_, h.2, hr⟩⟩

theorem probe_spec : Inv load (probe rb st b).1 t := by
  unfold probe
  rw [skip_test]
  cases hs : (st.loaded && st.curr == b) with
  | true =>
    obtain ⟨hi, rfl⟩ := hskip hs
    exact hi
  | false =>
    have h := hload hs
    revert h
    rcases rb st b with ⟨s, _ | _ | _⟩ <;> intro h
    · exact h
    · exact h
    · exact h.1

theorem step_spec (o : Op) (hb : o.block = b) :
    Inv load (step rb st o).1 t ∧
      ∀ b' i r, o = .rd b' i → (step rb st o).2 = .data r → Genuine load b' i r := by
  subst hb
  cases o with
  | ld b =>
    dsimp only [step]
    exact ⟨(validate_spec hskip hload).1, fun _ _ _ h => Op.noConfusion h⟩
  | pr b =>
    dsimp only [step]
    exact ⟨probe_spec hskip hload, fun _ _ _ h => Op.noConfusion h⟩
  | rd b i =>
    have hv := validate_spec (b := b) hskip hload
    dsimp only [step]
    revert hv
    rcases validate rb st b with ⟨s, _ | _⟩ <;> intro hv
    · cases hget : s.buf[i]? with
      | none => exact ⟨hv.1, fun _ _ _ _ hr => Res.noConfusion hr⟩
      | some r0 =>
        refine ⟨hv.1, fun b' i' r hop hr => ?_⟩
        cases hop
        cases hr
        exact hv.2 rfl i r0 hget
    · exact ⟨hv.1, fun _ _ _ _ hr => Res.noConfusion hr⟩

end Step

theorem serves_nil : ServesOnlyRequestedBlock rb load st [] :=
  fun _ _ _ _ hop _ => absurd (hop.symm.trans List.getElem?_nil) (Option.some_ne_none _)

theorem serves_cons {o : Op} {os : List Op}
    (h : ∀ b i r, o = .rd b i → (step rb st o).2 = .data r → Genuine load b i r)
    (ht : ServesOnlyRequestedBlock rb load (step rb st o).1 os) :
    ServesOnlyRequestedBlock rb load st (o :: os) := by
  intro k b i r hop hres
  cases k with
  | zero => exact h b i r (Option.some.inj hop) (Option.some.inj hres)
  | succ k => exact ht k b i r hop hres

/-- a `readBlock` variant that never leaves a tainted loaded state -/
def RBGood (load : Nat → Load) (rb : St → Nat → St × RB) : Prop :=
  ∀ st b, Inv load st false → RbPost load b false (rb st b)

theorem run_spec (h : RBGood load rb) (ops : List Op) :
    ∀ st : St, Inv load st false → ServesOnlyRequestedBlock rb load st ops := by
  induction ops with
  | nil => exact fun _ _ => serves_nil
  | cons o os ih =>
    intro st hi
    have hs := step_spec (fun _ => ⟨hi, rfl⟩) (fun _ => h st o.block hi) o rfl
    exact serves_cons hs.2 (ih _ hs.1)

/-- the taint is the `t'` of `noStaleReturn` -/
theorem readBlockOld_post {t : Bool} (hi : Inv load st t) (b : Nat) :
    RbPost load b (match load b with | .ok _ => false | .fail _ => true | .absent => t)
      (readBlockOld load st b) := by
  unfold readBlockOld
  cases hl : load b with
  | absent => exact hi
  | fail cl => exact fun _ ht => absurd ht.symm Bool.false_ne_true
  | ok c => exact ⟨fun _ _ => hl, hl⟩

theorem readBlock_good (load : Nat → Load) : RBGood load (readBlock load) := by
  intro st b hi
  unfold readBlock
  cases hl : load b with
  | absent => exact hi
  | fail cl => exact fun hld => absurd hld Bool.false_ne_true
  | ok c => exact ⟨fun _ _ => hl, hl⟩

theorem readBlockOld_good (hk : FailKeeps load) : RBGood load (readBlockOld load) := by
  intro st b hi
  unfold readBlockOld
  cases hl : load b with
  | absent => exact hi
  | fail cl => exact fun hld ht => (hk b cl hl st.buf).symm ▸ hi hld ht
  | ok c => exact ⟨fun _ _ => hl, hl⟩

theorem guarded_run (load : Nat → Load) (ops : List Op) :
    ∀ (st : St) (t : Bool), Inv load st t → noStaleReturn load st t ops = true →
      ServesOnlyRequestedBlock (readBlockOld load) load st ops := by
  induction ops with
  | nil => exact fun _ _ _ _ => serves_nil
  | cons o os ih =>
    intro st t hi hg
    unfold noStaleReturn at hg
    dsimp only at hg
    cases hs : (st.loaded && st.curr == o.block) with
    | true =>
      -- the loaded block is asked for: the guard says it is not tainted
      rw [hs, if_pos rfl] at hg
      cases t with
      | true => exact absurd hg Bool.false_ne_true
      | false =>
        have h := step_spec (rb := readBlockOld load) (fun _ => ⟨hi, rfl⟩)
          (fun hf => absurd (hs.symm.trans hf) (by decide)) o rfl
        exact serves_cons h.2 (ih _ false h.1 hg)
    | false =>
      rw [hs, if_neg (by decide)] at hg
      have h := step_spec (fun ht => absurd (hs.symm.trans ht) (by decide))
        (fun _ => readBlockOld_post hi o.block) o rfl
      exact serves_cons h.2 (ih _ _ h.1 hg)

def TInv (load : Nat → TLoad) (st : TSt) : Prop :=
  st.loaded = true → load st.curr = .ok st.ts

theorem tsRead_spec {load : Nat → TLoad} (hne : NoEof load) {st : TSt} (hi : TInv load st) (b i : Nat) :
    TInv load (tsRead load st b i).1 ∧
      ∀ v, (tsRead load st b i).2 = some v → ∃ c, load b = .ok c ∧ c[i]? = some v := by
  unfold tsRead
  rw [skip_test]
  cases hs : (st.loaded && st.curr == b) with
  | false =>
    cases hl : load b with
    | ok c => exact ⟨fun _ => hl, fun v hv => ⟨c, rfl, hv⟩⟩
    | fail => exact ⟨fun h => absurd h Bool.false_ne_true, fun v hv => absurd hv.symm (Option.some_ne_none v)⟩
    | eof => exact absurd hl (hne b)
    | nometa => exact ⟨hi, fun v hv => absurd hv.symm (Option.some_ne_none v)⟩
  | true =>
    obtain ⟨hl, hc⟩ := Bool.and_eq_true_iff.mp hs
    exact ⟨hi, fun v hv => ⟨st.ts, eq_of_beq hc ▸ hi hl, hv⟩⟩

theorem ts_run (load : Nat → TLoad) (hne : NoEof load) (ops : List (Nat × Nat)) :
    ∀ st : TSt, TInv load st → TsServesOnlyRequestedBlock load st ops := by
  induction ops with
  | nil => exact fun _ _ _ _ _ _ hop _ => absurd (hop.symm.trans List.getElem?_nil) (Option.some_ne_none _)
  | cons o os ih =>
    intro st hi k b i v hop hres
    have hs := tsRead_spec hne hi o.1 o.2
    cases k with
    | zero =>
      cases Option.some.inj hop
      exact hs.2 v (Option.some.inj hres)
    | succ k => exact ih _ hs.1 k b i v hop hres

theorem loadOf_ok {crc : Bytes → Nat} {f : Bytes} {metas : List BlkMeta} {decode : Bytes → Option Contents}
    {clob : Nat → Contents → Contents} {b : Nat} {c : Contents} (h : loadOf crc f metas decode clob b = .ok c) :
    ∃ m d, metas[b]? = some m ∧ readAt crc f m.len m.off = (d, false) ∧ decode d = some c := by
  revert h
  fun_cases loadOf crc f metas decode clob b
  case case4 m hm _ d hr c' hd => exact fun h => ⟨m, d, hm, hr, Load.ok.inj h ▸ hd⟩
  all_goals exact fun h => Load.noConfusion h

end SigModel.Lemmas.C18E
