/-
Lemmas about segment selection by time (Model/SegSelect.lean): what a table holds after the bulks were added
(`mem_tableOf`; `sortDesc` through Lemmas/InsertSort), the generated time tests — `TimeRange_CheckInRange` as membership
in the inclusive range (`checkInRange_iff`), `TimeRange_CheckRangeOverLap` as "the two ranges are not disjoint"
(`checkRangeOverLap_iff`, `checkRangeOverLap_of_point`); Lemmas/C07e uses the first and the last for the search after
restart —, and `keep`, the two filters and `collect` in those terms.  The property theorems are in Props/C02.lean
(completeness and soundness of the rotated and the open selection) and Props/C11.lean (the open segments are collected
whatever the rotated metadata hold).
-/
import SigModel.Model.SegSelect
import SigModel.Lemmas.InsertSort

namespace SigModel.SegSelect
open SigModel.Gen

theorem inserts : Lemmas.InsertSort.Inserts (fun s x : Seg => ¬ s.latest > x.latest) insertDesc :=
  ⟨fun _ => rfl, fun _ _ _ => (ite_not ..).symm⟩

theorem mem_insertDesc (s x : Seg) (l : List Seg) : x ∈ insertDesc s l ↔ x = s ∨ x ∈ l :=
  (inserts.perm s l).mem_iff.trans List.mem_cons

theorem mem_sortDesc (x : Seg) (l : List Seg) : x ∈ sortDesc l ↔ x ∈ l :=
  (Lemmas.InsertSort.SortsBy.perm ⟨rfl, fun _ _ => rfl⟩ inserts l).mem_iff

theorem mem_bulkAdd (x : Seg) (tbl new : List Seg) :
    x ∈ bulkAdd tbl new ↔ x ∈ tbl ∨ (x ∈ new ∧ ∀ y ∈ tbl, y.key ≠ x.key) := by
  unfold bulkAdd
  rw [mem_sortDesc]
  simp [List.mem_append, List.mem_filter]

theorem mem_tableOf_aux (x : Seg) (bulks : List (List Seg)) (acc : List Seg)
    (hacc : ∀ y ∈ acc, y.key = x.key → y = x) (hb : ∀ b ∈ bulks, ∀ y ∈ b, y.key = x.key → y = x)
    (h : x ∈ acc ∨ ∃ b ∈ bulks, x ∈ b) :
    x ∈ bulks.foldl (fun tbl b => bulkAdd tbl (b.filter (·.table == x.table))) acc := by
  induction bulks generalizing acc with
  | nil => simpa using h
  | cons b bs ih =>
    refine ih _ (fun y hy => ?_) (fun b' hb' => hb b' (List.mem_cons_of_mem _ hb')) ?_
    · rcases (mem_bulkAdd ..).mp hy with hy | ⟨hy, _⟩
      · exact hacc y hy
      · exact hb b (List.mem_cons_self ..) y (List.mem_filter.mp hy).1
    · -- `x` enters with the first bulk that holds it: nothing of its key is in the table before
      rcases h with h | ⟨b', hb', hxb⟩
      · exact .inl ((mem_bulkAdd ..).mpr (.inl h))
      · rcases List.mem_cons.mp hb' with rfl | hb'
        · refine .inl ((mem_bulkAdd ..).mpr ?_)
          by_cases hin : x ∈ acc
          · exact .inl hin
          · exact .inr ⟨List.mem_filter.mpr ⟨hxb, beq_self_eq_true _⟩, fun y hy hk => hin (hacc y hy hk ▸ hy)⟩
        · exact .inr ⟨b', hb', hxb⟩

theorem mem_tableOf (bulks : List (List Seg)) (x : Seg)
    (huniq : ∀ b ∈ bulks, ∀ y ∈ b, y.key = x.key → y = x) (hx : ∃ b ∈ bulks, x ∈ b) :
    x ∈ tableOf bulks x.table := by
  unfold tableOf
  exact mem_tableOf_aux x bulks [] (fun _ h => nomatch h) huniq (Or.inr hx)

/-- the record time test: the timestamp lies in the inclusive query range -/
theorem checkInRange_iff (s e t : Int) : TimeRange_CheckInRange e s t = true ↔ s ≤ t ∧ t ≤ e := by
  simp only [TimeRange_CheckInRange, Bool.and_eq_true, decide_eq_true_eq, Bool.if_false_right, Bool.and_true]

/-- the block / segment time test: for well-formed ranges, true exactly when the two ranges are not disjoint -/
theorem checkRangeOverLap_iff (s e lo hi : Int) (hq : s ≤ e) (hb : lo ≤ hi) :
    TimeRange_CheckRangeOverLap e s lo hi = true ↔ ¬ (hi < s ∨ e < lo) := by
  simp only [TimeRange_CheckRangeOverLap, Bool.or_eq_true, Bool.and_eq_true, decide_eq_true_eq, Bool.if_false_right,
    Bool.and_true, not_or, Int.not_lt, ge_iff_le]
  constructor
  · rintro ((h | h) | h)
    · exact ⟨Int.le_trans h.1 hb, h.2⟩
    · exact ⟨h.1, Int.le_trans hb h.2⟩
    · exact ⟨Int.le_trans hq h.2, Int.le_trans h.1 hq⟩
  · rintro ⟨h1, h2⟩
    rcases Int.le_total s lo with h | h
    · exact .inl (.inl ⟨h, h2⟩)
    · rcases Int.le_total hi e with h' | h'
      · exact .inl (.inr ⟨h1, h'⟩)
      · exact .inr ⟨h, h'⟩

/-- two ranges that share an instant overlap (they are well-formed then) -/
theorem checkRangeOverLap_of_point (s e lo hi t : Int) (h1 : s ≤ t) (h2 : t ≤ e) (h3 : lo ≤ t) (h4 : t ≤ hi) :
    TimeRange_CheckRangeOverLap e s lo hi = true :=
  (checkRangeOverLap_iff s e lo hi (Int.le_trans h1 h2) (Int.le_trans h3 h4)).mpr
    (not_or.mpr ⟨Int.not_lt.mpr (Int.le_trans h1 h4), Int.not_lt.mpr (Int.le_trans h3 h2)⟩)

theorem mem_filterRotated (qs qe org : Int) (indexes : List Nat) (tables : Nat → List Seg) (s : Seg) :
    s ∈ filterRotated qs qe org indexes tables ↔ ∃ ix ∈ indexes, s ∈ tables ix ∧ keep qs qe org s = true := by
  unfold filterRotated
  simp [List.mem_flatMap, List.mem_filter]

theorem mem_filterUnrotated (qs qe org : Int) (indexes : List Nat) (open_ : List Seg) (s : Seg) :
    s ∈ filterUnrotated qs qe org indexes open_ ↔ s ∈ open_ ∧ s.table ∈ indexes ∧ keep qs qe org s = true := by
  unfold filterUnrotated
  simp [List.mem_filter]

theorem keep_of_point (qs qe org t : Int) (s : Seg) (h1 : qs ≤ t) (h2 : t ≤ qe) (h3 : s.earliest ≤ t) (h4 : t ≤ s.latest)
    (horg : s.org = org) : keep qs qe org s = true := by
  unfold keep overlaps
  rw [checkRangeOverLap_of_point qs qe _ _ t h1 h2 h3 h4, horg, beq_self_eq_true]
  rfl

theorem point_of_keep (qs qe org : Int) (s : Seg) (hq : qs ≤ qe) (hs : s.earliest ≤ s.latest)
    (h : keep qs qe org s = true) : s.org = org ∧ ∃ t, qs ≤ t ∧ t ≤ qe ∧ s.earliest ≤ t ∧ t ≤ s.latest := by
  obtain ⟨ho, hk⟩ := Bool.and_eq_true_iff.mp h
  have h' := not_or.mp ((checkRangeOverLap_iff qs qe _ _ hq hs).mp ho)
  refine ⟨beq_iff_eq.mp hk, ?_⟩
  rcases Int.le_total qs s.earliest with hc | hc
  · exact ⟨s.earliest, hc, Int.not_lt.mp h'.2, Int.le_refl _, hs⟩
  · exact ⟨qs, Int.le_refl _, hq, hc, Int.not_lt.mp h'.1⟩

theorem collect_has_key (qs qe org : Int) (indexes : List Nat) (tables : Nat → List Seg) (open_ : List Seg) (s : Seg)
    (h : s ∈ filterRotated qs qe org indexes tables ∨ s ∈ filterUnrotated qs qe org indexes open_) :
    ∃ s' ∈ (collect qs qe org indexes tables open_).1 ++ (collect qs qe org indexes tables open_).2, s'.key = s.key := by
  unfold collect
  simp only [List.mem_append, List.mem_filter]
  rcases h with h | h
  · exact ⟨s, Or.inr h, rfl⟩
  · by_cases hk : (filterRotated qs qe org indexes tables).any (·.key == s.key) = true
    · rw [List.any_eq_true] at hk
      obtain ⟨r, hr, hrk⟩ := hk
      exact ⟨r, Or.inr hr, by simpa using hrk⟩
    · exact ⟨s, Or.inl ⟨h, by simpa using hk⟩, rfl⟩

end SigModel.SegSelect
