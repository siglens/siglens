/-
C02 kernel slice: the block range-index check (its kernels' skip rule is that of Lemmas/C03R) and the where stage against the
comparison by value, and the guards of both stages within ±2^53.  Same namespace as Lemmas/C02K.  Core Lean only.
-/
import SigModel.Lemmas.C02K
import SigModel.Lemmas.C03R

namespace SigModel.Lemmas.C02K
open SigModel.Cmp SigModel.Gen

theorem floatPass_sound (op : Op) (L a mn mx : Rat) (h1 : mn ≤ a) (h2 : a ≤ mx) (hs : cmpQ op a L = true) :
    doesFloatPassRangeFilter op.code L mn mx = true := by
  -- the float kernel unfolds to `rangePass` of Lemmas/C03R at `Rat`
  refine Range.rangePass_sound op.code L mn mx a h1 h2 ?_
  cases op <;> simp only [cmpQ, decide_eq_true_eq, Bool.not_eq_true', decide_eq_false_iff_not] at hs
  · exact .inl ⟨rfl, hs⟩
  · exact .inr (.inl ⟨rfl, hs⟩)
  · exact .inr (.inr (.inl ⟨rfl, hs⟩))
  · exact .inr (.inr (.inr (.inl ⟨rfl, hs⟩)))
  · exact .inr (.inr (.inr (.inr (.inl ⟨rfl, hs⟩))))
  · exact .inr (.inr (.inr (.inr (.inr ⟨rfl, hs⟩))))

theorem intPass_eq (c L mn mx : Int) :
    doesIntPassRangeFilter c L mn mx = doesFloatPassRangeFilter c (L : Rat) (mn : Rat) (mx : Rat) := by
  simp only [doesIntPassRangeFilter, doesFloatPassRangeFilter, ge_iff_le, gt_iff_lt, Rat.intCast_le_intCast,
    Rat.intCast_lt_intCast, Rat.intCast_inj]

/-- The guard of `range_check_sound_partial` (Props/C02): every integer that the float fallback (or a float-typed range)
pushes through `float64(·)` is represented exactly — the range bounds, the stored integer, and an integer literal that is
re-read with ParseFloat. -/
def rangeGuard (rnd : Rat → Rat) (ri : Range) (v : SVal) (t : NumText) : Bool :=
  match ri, v with
  | .s mn mx, .int _ =>
    match t.intOk with
    | some k => decide (litVal rnd t = (k : Rat))
    | none => decide (rnd (mn : Rat) = (mn : Rat)) && decide (rnd (mx : Rat) = (mx : Rat)) &&
        decide (litVal rnd t = rnd t.val)
  | .u mn mx, .uint _ =>
    match t.uintOk with
    | some _ => true
    | none => decide (rnd (mn : Rat) = (mn : Rat)) && decide (rnd (mx : Rat) = (mx : Rat)) &&
        decide (litVal rnd t = rnd t.val)
  | .f _ _, .int i => decide (rnd (i : Rat) = (i : Rat)) && decide (litVal rnd t = rnd t.val)
  | .f _ _, .uint n => decide (rnd (n : Rat) = (n : Rat)) && decide (litVal rnd t = rnd t.val)
  | .f _ _, .float _ => decide (litVal rnd t = rnd t.val)
  | _, _ => true

theorem specCmp_num (rnd : Rat → Rat) (v : SVal) (op : Op) (t : NumText) (ht : t.wf) (a : Rat)
    (ha : v.num? rnd = some a) : specCmp rnd v op (mkLit rnd t) = cmpQ op a (litVal rnd t) := by
  simp only [specCmp, ha, (mkLit_numLit rnd t ht).num_eq]

theorem toNumber_int_or_float (x : Rat) :
    (∃ i : Int, -two63 ≤ i ∧ i < two63 ∧ x = i ∧ toNumber x = .i64 i) ∨
      ((∀ i : Int, -two63 ≤ i → i < two63 → x ≠ i) ∧ toNumber x = .f64 x) := by
  unfold toNumber
  by_cases h : x = (x.floor : Rat) ∧ -two63 ≤ x.floor ∧ x.floor < two63
  · exact .inl ⟨x.floor, h.2.1, h.2.2, h.1, if_pos h⟩
  · refine .inr ⟨fun i h1 h2 hx => h ?_, if_neg h⟩
    rw [hx, Rat.floor_intCast]
    exact ⟨rfl, h1, h2⟩

theorem toNumber_toF (rnd : Rat → Rat) (x : Rat) (hx : rnd x = x) : (toNumber x).toF rnd = x := by
  obtain ⟨i, _, _, rfl, h⟩ | ⟨_, h⟩ := toNumber_int_or_float x <;> rw [h]
  · exact hx
  · rfl

theorem whereEq_toNumber (rnd : Rat → Rat) (x y : Rat) (hx : rnd x = x) :
    whereEq rnd (toNumber x) (toNumber y) = decide (x = y) := by
  obtain ⟨i, _, _, rfl, hl⟩ | ⟨hni, hl⟩ := toNumber_int_or_float x <;>
    obtain ⟨j, h1, h2, rfl, hr⟩ | ⟨_, hr⟩ := toNumber_int_or_float y <;> rw [hl, hr]
  · exact (decide_eq_decide.2 Rat.intCast_inj).symm
  -- an int64 against a float: `whereEq` turns the int64 back into its float, which `hx` undoes
  · exact congrArg (fun z => decide (z = y)) hx
  · exact (decide_eq_false (hni j h1 h2)).symm
  · rfl

/-- The guard of `where_eq_spec`: the field integer and an integer literal survive `float64(·)` unchanged (true within
±2^53). -/
def whereGuard (rnd : Rat → Rat) (v : SVal) (_op : Op) (t : NumText) : Bool :=
  decide (litVal rnd t = rnd t.val) &&
  (match v with
    | .int i => decide (rnd (i : Rat) = (i : Rat))
    | .uint n => decide (rnd (n : Rat) = (n : Rat))
    | _ => true)

theorem where_eq_spec (rnd : Rat → Rat) (hr : RndOk rnd) (v : SVal) (hv : v.wf) (op : Op) (t : NumText) (ht : t.wf)
    (hg : whereGuard rnd v op t = true) (b : Bool) (h : whereCmp rnd v op t = some b) :
    b = specCmp rnd v op (mkLit rnd t) := by
  obtain ⟨hl, hg⟩ := Bool.and_eq_true_iff.1 hg
  suffices key : ∀ a, fieldFloat rnd v = some a → v.num? rnd = some a → rnd a = a →
      b = specCmp rnd v op (mkLit rnd t) by
    cases v with
    | int x | uint x => exact key x (congrArg some (of_decide_eq_true hg)) rfl (of_decide_eq_true hg)
    | float x => exact key _ rfl rfl (hr.fix64 x hv)
    | _ => cases h
  intro a hf hn ha
  -- on two fixed points of `rnd` the where stage is the exact comparison, for all six operators
  simp only [whereCmp, whereCmpWith, hf, whereEq_toNumber rnd a _ ha, toNumber_toF rnd a ha,
    toNumber_toF rnd _ (hr.idem _), Option.some.injEq] at h
  rw [specCmp_num rnd v op t ht a hn, of_decide_eq_true hl, ← h]
  rfl

def two53 : Int := 9007199254740992

/-- assumed of `rnd` where a theorem speaks of ±2^53 (a binary64 mantissa has 53 bits) -/
def Exact53 (rnd : Rat → Rat) : Prop := ∀ n : Int, -two53 ≤ n → n ≤ two53 → rnd (n : Rat) = (n : Rat)

def Within53 (v : SVal) (t : NumText) : Prop :=
  (match v with
    | .int i => -two53 ≤ i ∧ i ≤ two53
    | .uint n => (n : Int) ≤ two53
    | _ => True) ∧
  (∀ k : Int, t.val = (k : Rat) → -two53 ≤ k ∧ k ≤ two53)

theorem litVal_exact (rnd : Rat → Rat) (hex : Exact53 rnd) (t : NumText) (ht : t.wf)
    (hl : ∀ k : Int, t.val = (k : Rat) → -two53 ≤ k ∧ k ≤ two53) : litVal rnd t = rnd t.val := by
  have int_exact : ∀ k : Int, t.val = k → t.val = rnd t.val := fun k hk => by
    rw [hk, hex k (hl k hk).1 (hl k hk).2]
  -- `litVal` keeps the text's value only where ParseInt / ParseUint succeeded
  refine ite_eq_right_iff.2 fun hc => ?_
  rcases Bool.or_eq_true_iff.1 hc with h | h
  · obtain ⟨i, hi⟩ := Option.isSome_iff_exists.1 (Bool.and_eq_true_iff.1 h).2
    exact int_exact i (wf_int t ht i hi).1
  · obtain ⟨u, hu⟩ := Option.isSome_iff_exists.1 (Bool.and_eq_true_iff.1 h).2
    exact int_exact u (wf_uint t ht u hu).1

theorem guard_int (rnd : Rat → Rat) (i : Int) (op : Op) (q : Lit) (h : q.dtype = .float → rnd (i : Rat) = i) :
    cmpGuardQ rnd (.int i) op q = true := by
  dsimp only [cmpGuardQ]
  split
  · exact decide_eq_true (h ‹_›)
  · rfl

theorem guards_within_2_53 (rnd : Rat → Rat) (hr : RndOk rnd) (hex : Exact53 rnd) (v : SVal) (op : Op) (t : NumText)
    (ht : t.wf) (hw : Within53 v t) {b : Bool} (hnum : whereCmp rnd v op t = some b)
    (hD : ∀ n, v = .uint n → (mkLit rnd t).dtype ≠ .signed) :
    cmpGuardQ rnd v op (mkLit rnd t) = true ∧ whereGuard rnd v op t = true := by
  have hlv := litVal_exact rnd hex t ht hw.2
  cases v with
  | int i =>
    have hi := hex i hw.1.1 hw.1.2
    exact ⟨guard_int rnd i op _ fun _ => hi, Bool.and_eq_true_iff.2 ⟨decide_eq_true hlv, decide_eq_true hi⟩⟩
  | uint n =>
    have hn := hex n (Int.le_trans (by decide) (Int.natCast_nonneg n)) hw.1
    refine ⟨?_, Bool.and_eq_true_iff.2 ⟨decide_eq_true hlv, decide_eq_true hn⟩⟩
    dsimp only [cmpGuardQ]
    split
    · exact decide_eq_true hn
    · exact absurd ‹_› (hD n rfl)
    · rfl
  | float b =>
    exact ⟨guard_float_of_exact rnd _ _ (mkLit_numLit rnd t ht) (by rw [hlv, hr.idem]) b op,
      Bool.and_eq_true_iff.2 ⟨decide_eq_true hlv, rfl⟩⟩
  | _ => cases hnum

end SigModel.Lemmas.C02K
