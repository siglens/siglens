/-
C01 lemmas, part b: a column block and the record reader (forward scan, restart on going backwards,
consistent-length shortcut), for every column and every sequence of seeks; the size rule by which the writer
arrives at the length it advertises.
-/
import SigModel.Model.Tlv
import SigModel.Lemmas.C01

namespace SigModel.Lemmas.C01
open SigModel.Tlv

-- the default of `vs[k]!` is the back-fill record, what an absent value is stored as (`getElem!_map_getB` in part d)
instance : Inhabited Val := ⟨.backfill⟩

def offs (vs : List Val) (k : Nat) : Nat := (encCol (vs.take k)).length

theorem encCol_append (a b : List Val) : encCol (a ++ b) = encCol a ++ encCol b := by
  simp [encCol]

theorem encCol_cons (v : Val) (vs : List Val) : encCol (v :: vs) = encTLV v ++ encCol vs := by
  simp [encCol]

theorem encCol_split (vs : List Val) (k : Nat) (h : k < vs.length) :
    encCol vs = encCol (vs.take k) ++ (encTLV vs[k] ++ encCol (vs.drop (k + 1))) := by
  rw [← encCol_cons, ← List.drop_eq_getElem_cons h, ← encCol_append, List.take_append_drop]

theorem offs_succ (vs : List Val) (k : Nat) (h : k < vs.length) :
    offs vs (k + 1) = offs vs k + (encTLV vs[k]).length := by
  unfold offs
  rw [← List.take_append_getElem h, encCol_append]
  simp [encCol]

theorem drop_offs (vs : List Val) (k : Nat) (h : k < vs.length) :
    (encCol vs).drop (offs vs k) = encTLV vs[k] ++ encCol (vs.drop (k + 1)) := by
  rw [encCol_split vs k h]
  exact List.drop_left

theorem offs_add_le (vs : List Val) (k : Nat) (h : k < vs.length) :
    offs vs k + (encTLV vs[k]).length ≤ (encCol vs).length := by
  rw [encCol_split vs k h, List.length_append, List.length_append]
  exact Nat.add_le_add_left (Nat.le_add_right _ _) _

/-- what the reader may be told about the record length of the block `encCol vs`: nothing that enables the
shortcut, or the length of every record -/
def LenOk (vs : List Val) (c : Nat) : Prop := ¬ (c > 0 ∧ c ≠ inconsistent) ∨ ∀ v ∈ vs, (encTLV v).length = c

theorem lenOk_zero (vs : List Val) : LenOk vs 0 := Or.inl fun h => Nat.lt_irrefl 0 h.1

theorem lenOk_inconsistent (vs : List Val) : LenOk vs inconsistent := Or.inl fun h => h.2 rfl

theorem lenOk_of_forall {vs : List Val} {c : Nat} (h : ∀ v ∈ vs, (encTLV v).length = c) : LenOk vs c := Or.inr h

/-- the shape in which both writers of a hint advertise it (the column's `seenSize`, the segment's
`AllSeenColumnSizes`): an optional size, INCONSISTENT when there is none -/
theorem lenOk_getD (vs : List Val) (sz : Option Nat)
    (h : ∀ c, sz = some c → c ≠ inconsistent → ∀ v ∈ vs, (encTLV v).length = c) : LenOk vs (sz.getD inconsistent) := by
  cases sz with
  | none => exact lenOk_inconsistent vs
  | some c =>
    by_cases hc : c = inconsistent
    · exact hc ▸ lenOk_inconsistent vs
    · exact lenOk_of_forall (h c rfl hc)

variable {vs : List Val} {c : Nat}

theorem curRecLen_offs (hl : LenOk vs c) (k : Nat) (h : k < vs.length) :
    curRecLen (encCol vs) c (offs vs k) = .ok (encTLV vs[k]!).length := by
  unfold curRecLen
  rw [getElem!_pos vs k h]
  by_cases hc : c > 0 ∧ c ≠ inconsistent
  · rw [if_pos hc, hl.resolve_left (not_not_intro hc) _ (List.getElem_mem h)]
  · rw [if_neg hc, drop_offs vs k h]
    exact recLen_encTLV _ _

/-- the reader on record `k` of the block `encCol vs` with the hint `c`: every state the reader reaches on a written
column is of this form -/
abbrev pos (vs : List Val) (c k : Nat) : Rd :=
  { buf := encCol vs, constLen := c, recNum := k, off := offs vs k, recLen := (encTLV vs[k]!).length }

theorem cur_pos {k : Nat} (h : k < vs.length) : (pos vs c k).cur = .ok (encTLV vs[k]!) := by
  unfold Rd.cur pos
  simp only [getElem!_pos vs k h]
  rw [if_pos (offs_add_le vs k h), drop_offs vs k h, List.take_left]

theorem next_pos {k : Nat} (hl : LenOk vs c) (h : k + 1 < vs.length) :
    (pos vs c k).next = .ok (pos vs c (k + 1)) := by
  have hk : k < vs.length := Nat.lt_of_succ_lt h
  have hoff : offs vs k + (encTLV vs[k]!).length = offs vs (k + 1) := by
    rw [getElem!_pos vs k hk, offs_succ vs k hk]
  rw [Rd.next]
  dsimp only
  -- not at the end of the block: record `k + 1`, at least one byte long, begins at the next offset
  rw [hoff, if_neg (Nat.not_le.mpr (Nat.lt_of_lt_of_le (Nat.lt_add_of_pos_right (encTLV_length_pos _)) (offs_add_le vs _ h))),
    curRecLen_offs hl _ h]

theorem scan_pos (hl : LenOk vs c) (n : Nat) (hn : n < vs.length) (fuel k : Nat)
    (hle : k ≤ n) (hf : n - k < fuel) : Rd.scan fuel (pos vs c k) n = (pos vs c n, .ok (encTLV vs[n]!)) := by
  induction fuel generalizing k with
  | zero => exact absurd hf (Nat.not_lt_zero _)
  | succ fuel ih =>
    rw [Rd.scan]
    by_cases heq : k = n
    · rw [if_pos heq, cur_pos (heq ▸ hn), heq]
    · have hlt : k < n := Nat.lt_of_le_of_ne hle heq
      rw [if_neg heq, if_neg (Nat.not_lt.mpr hle), next_pos hl (Nat.lt_of_le_of_lt hlt hn)]
      exact ih (k + 1) hlt (Nat.lt_of_lt_of_le (Nat.sub_succ_lt_self n k hlt) (Nat.le_of_lt_succ hf))

theorem readRecord_pos (hl : LenOk vs c) (k n : Nat) (hn : n < vs.length) :
    (pos vs c k).readRecord n = (pos vs c n, .ok (encTLV vs[n]!)) := by
  rw [Rd.readRecord]
  by_cases hb : k > n
  · -- `offs vs 0` is `0` by evaluation only, hence the `show`
    rw [if_pos hb, show curRecLen (encCol vs) c 0 = _ from curRecLen_offs hl 0 (Nat.zero_lt_of_lt hn)]
    exact scan_pos hl n hn (n + 2) 0 (Nat.zero_le n) (Nat.lt_add_of_pos_right (Nat.zero_lt_succ 1))
  · rw [if_neg hb]
    exact scan_pos hl n hn _ k (Nat.not_lt.mp hb) (Nat.lt_add_of_pos_right (Nat.zero_lt_succ 1))

theorem readMany_pos (hl : LenOk vs c) (ns : List Nat) (hns : ∀ n ∈ ns, n < vs.length)
    (k : Nat) : (pos vs c k).readMany ns = ns.map (fun n => .ok (encTLV (vs[n]!))) := by
  induction ns generalizing k with
  | nil => rfl
  | cons n ns ih =>
    obtain ⟨hn, hns'⟩ := List.forall_mem_cons.mp hns
    unfold Rd.readMany
    rw [readRecord_pos hl k n hn]
    exact congrArg _ (ih hns' n)

theorem checkedLen_encCol (vs : List Val) (c : Nat) (h0 : 0 < vs.length) :
    checkedLen (encCol vs) c =
      if c > 0 ∧ c ≠ inconsistent then (if (encTLV vs[0]).length = c then c else inconsistent) else c := by
  cases vs with
  | nil => exact absurd h0 (Nat.lt_irrefl 0)
  | cons v r => simp only [checkedLen, encCol_cons, recLen_encTLV, List.getElem_cons_zero]

/-- `h` is `LenOk vs c` written out -/
theorem checkedLen_ok (vs : List Val) (c : Nat) (h0 : 0 < vs.length)
    (h : ¬ (c > 0 ∧ c ≠ inconsistent) ∨ ∀ v ∈ vs, (encTLV v).length = c) : checkedLen (encCol vs) c = c := by
  rw [checkedLen_encCol vs c h0]
  by_cases hc : c > 0 ∧ c ≠ inconsistent
  · rw [if_pos hc, if_pos (h.resolve_left (not_not_intro hc) _ (List.getElem_mem h0))]
  · rw [if_neg hc]

theorem init_pos {c' : Nat} (hck : checkedLen (encCol vs) c = c') (hl : LenOk vs c')
    (h0 : 0 < vs.length) : Rd.init (encCol vs) c = .ok (pos vs c' 0) := by
  have hlen : curRecLen (encCol vs) c' 0 = _ := curRecLen_offs hl 0 h0
  rw [Rd.init, hck, hlen]
  rfl

theorem seekConst_good {c' : Nat} (hck : checkedLen (encCol vs) c = c') (hl : LenOk vs c')
    (i : Nat) (hi : i < vs.length) : seekConst c (encCol vs) i = some (encTLV vs[i]) := by
  simp [seekConst, init_pos hck hl (Nat.zero_lt_of_lt hi), readRecord_pos hl 0 i hi, hi]

theorem readMany_init (hl : LenOk vs c) (h0 : 0 < vs.length)
    (ns : List Nat) (hns : ∀ n ∈ ns, n < vs.length) :
    ∃ rd, Rd.init (encCol vs) c = .ok rd ∧ rd.readMany ns = ns.map (fun n => .ok (encTLV (vs[n]!))) :=
  ⟨_, init_pos (checkedLen_ok vs c h0 hl) hl h0, readMany_pos hl ns hns 0⟩

/-- `h`: one round of the fold in `seenSize`, the rule of `updateColValueSizeInAllSeenColumns` for a column the
segment knows -/
theorem sizeStep_consistent (cur sz c : Nat) (hc : c ≠ inconsistent)
    (h : (if cur = inconsistent then cur else if cur ≠ sz then inconsistent else cur) = c) : cur = c ∧ sz = c := by
  by_cases h1 : cur = inconsistent
  · rw [if_pos h1] at h
    exact absurd (h ▸ h1) hc
  · rw [if_neg h1] at h
    by_cases h2 : cur ≠ sz
    · rw [if_pos h2] at h
      exact absurd h.symm hc
    · rw [if_neg h2] at h
      exact ⟨h, (Classical.not_not.mp h2).symm.trans h⟩

theorem seenSize_fold (l : List Nat) (s c : Nat) (hc : c ≠ inconsistent)
    (h : l.foldl (fun cur sz => if cur = inconsistent then cur else if cur ≠ sz then inconsistent else cur) s = c) :
    s = c ∧ ∀ x ∈ l, x = c := by
  induction l generalizing s with
  | nil => exact ⟨h, fun _ hx => nomatch hx⟩
  | cons a l ih =>
    obtain ⟨h1, h2⟩ := ih _ h
    obtain ⟨hs, ha⟩ := sizeStep_consistent s a c hc h1
    exact ⟨hs, List.forall_mem_cons.mpr ⟨ha, h2⟩⟩

theorem seenSize_consistent (firstRec : Nat) (sizes : List Nat) (c : Nat) (hc : c ≠ inconsistent)
    (h : seenSize firstRec sizes = some c) : firstRec = 0 ∧ ∀ s ∈ sizes, s = c := by
  cases sizes with
  | nil => nomatch h
  | cons s rest =>
    obtain ⟨h1, h2⟩ := seenSize_fold rest _ c hc (Option.some.inj h)
    split at h1
    · exact absurd h1.symm hc
    · exact ⟨Nat.eq_zero_of_not_pos ‹_›, List.forall_mem_cons.mpr ⟨h1, h2⟩⟩

end SigModel.Lemmas.C01
