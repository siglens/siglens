/-
Sum cells.  The running sum (`addSum`: int64 until the first float or until the sum leaves int64, float64 after) against
the mathematical sum `ratSum` and the cell it is supposed to be, `sumSpec`.  `IsSum s ns` — `s` is A sum cell of `ns`: the
right value always, the right cell while the int64 part cannot wrap — holds of the fold `sumCell` and is kept by `addSum`,
so of every merge of folds; a relation, because the type of such a cell depends on the way it was computed (patch c04-15).
A sum cell sits in `NumStats` (nil without a number) and in the Sum cell of the group-by bucket (BACKFILL without): one
equation for each of their merge functions `mergeNum` and `sumStep`.  `eq_refl` and `rewrite` stand for `rfl` and `rw`,
which try further ways of closing a goal first and are slow to check on these terms.  Core Lean only.
-/
import SigModel.Lemmas.C04Sb
import SigModel.Lemmas.MachInt

namespace SigModel.Stats
open SigModel.MachInt

def Num.toRat : Num → Rat
  | .int i => (i : Rat)
  | .flt q => q

def Num.isFlt : Num → Bool
  | .int _ => false
  | .flt _ => true

def Num.intPart : Num → Int
  | .int i => i
  | .flt _ => 0

def ratSum : List Num → Rat
  | [] => 0
  | x :: r => x.toRat + ratSum r

def intSum : List Num → Int
  | [] => 0
  | x :: r => x.intPart + intSum r

/-- no sub-sum, in any order, can leave int64 while this is below 2^63 -/
def absIntSum : List Num → Nat
  | [] => 0
  | x :: r => x.intPart.natAbs + absIntSum r

def anyFlt : List Num → Bool
  | [] => false
  | x :: r => x.isFlt || anyFlt r

theorem ratSum_append (xs ys : List Num) : ratSum (xs ++ ys) = ratSum xs + ratSum ys := by
  induction xs with
  | nil => exact (Rat.zero_add _).symm
  | cons x r ih => exact (congrArg _ ih).trans (Rat.add_assoc x.toRat _ _).symm
theorem intSum_append (xs ys : List Num) : intSum (xs ++ ys) = intSum xs + intSum ys := by
  induction xs with
  | nil => exact (Int.zero_add _).symm
  | cons x r ih => exact (congrArg _ ih).trans (Int.add_assoc x.intPart _ _).symm
theorem absIntSum_append (xs ys : List Num) : absIntSum (xs ++ ys) = absIntSum xs + absIntSum ys := by
  induction xs with
  | nil => exact (Nat.zero_add _).symm
  | cons x r ih => exact (congrArg _ ih).trans (Nat.add_assoc x.intPart.natAbs _ _).symm
theorem anyFlt_append (xs ys : List Num) : anyFlt (xs ++ ys) = (anyFlt xs || anyFlt ys) := by
  induction xs with
  | nil => eq_refl
  | cons x r ih => exact (congrArg _ ih).trans (Bool.or_assoc x.isFlt _ _).symm

theorem absIntSum_append_lt {xs ys : List Num} {B : Nat} (h : absIntSum (xs ++ ys) < B) :
    absIntSum xs < B ∧ absIntSum ys < B := by
  rewrite [absIntSum_append] at h
  exact ⟨Nat.lt_of_le_of_lt (Nat.le_add_right _ _) h, Nat.lt_of_le_of_lt (Nat.le_add_left _ _) h⟩

theorem natAbs_intSum_le (ns : List Num) : (intSum ns).natAbs ≤ absIntSum ns := by
  induction ns with
  | nil => exact Nat.le_refl _
  | cons x r ih => exact Nat.le_trans (Int.natAbs_add_le _ _) (Nat.add_le_add_left ih _)

theorem ratSum_of_noFlt (ns : List Num) (h : anyFlt ns = false) : ratSum ns = ((intSum ns : Int) : Rat) := by
  induction ns with
  | nil => eq_refl
  | cons x r ih =>
    cases x with
    | int i => exact ((Rat.intCast_add i _).trans (congrArg _ (ih h).symm)).symm
    | flt q => exact Bool.noConfusion h

theorem inRange_of_natAbs_lt {x : Int} (h : x.natAbs < 9223372036854775808) :
    -9223372036854775808 ≤ x ∧ x < 9223372036854775808 :=
  have hi := Int.ofNat_lt.2 h
  have hn := Int.natAbs_neg x ▸ Int.le_natAbs (a := -x)
  ⟨Int.neg_le_of_neg_le (Int.le_trans hn (Int.le_of_lt hi)), Int.lt_of_le_of_lt Int.le_natAbs hi⟩

theorem wrapS64_of_inRange (x : Int) (h : x.natAbs < 9223372036854775808) : wrapS64 x = x :=
  have r := inRange_of_natAbs_lt h
  wrapS64_id x r.1 r.2

/-- for getRange (patch c04-15): `x` is a difference of two int64 -/
theorem wrapS64_of_not_neg {x : Int} (h0 : 0 ≤ x) (h1 : x < 18446744073709551616) (hw : ¬ wrapS64 x < 0) :
    wrapS64 x = x := by
  unfold wrapS64 at *
  omega

theorem wrapS64_add_wrapS64 (a i : Int) : wrapS64 (wrapS64 a + i) = wrapS64 (a + i) := by
  unfold wrapS64
  rw [Int.add_right_comm (_ - _) i, Int.sub_add_cancel, Int.emod_add_emod, Int.add_right_comm]

theorem addInt_of_inRange (a i : Int) (h : (a + i).natAbs < 9223372036854775808) : addInt exact a i = .int (a + i) :=
  have r := inRange_of_natAbs_lt h
  if_pos (decide_eq_true ⟨r.1, Int.le_of_lt_add_one r.2⟩)

theorem addSum_toRat (s v : Num) : (addSum exact s v).toRat = s.toRat + v.toRat := by
  cases s with
  | flt a => cases v <;> eq_refl
  | int a =>
    cases v with
    | flt f => eq_refl
    | int i =>
      show (addInt exact a i).toRat = _
      unfold addInt
      cases fitsI64 (a + i)
      · eq_refl
      · exact Rat.intCast_add a i

def sumSpec (ns : List Num) : Num := if anyFlt ns then .flt (ratSum ns) else .int (intSum ns)

def sumCellOld (ns : List Num) : Num := ns.foldl (addSumOld exact) (.int 0)

theorem foldl_addSumOld_ints (ns : List Num) (h : anyFlt ns = false) (a : Int) :
    ns.foldl (addSumOld exact) (.int (wrapS64 a)) = .int (wrapS64 (a + intSum ns)) := by
  induction ns generalizing a with
  | nil => exact congrArg (fun z => Num.int (wrapS64 z)) (Int.add_zero a).symm
  | cons x r ih =>
    cases x with
    | int i =>
      rewrite [List.foldl_cons]
      show r.foldl _ (Num.int (wrapS64 (wrapS64 a + i))) = _
      rewrite [wrapS64_add_wrapS64, ih h, Int.add_assoc]
      eq_refl
    | flt q => exact Bool.noConfusion h

theorem addSum_sumSpec (xs ys : List Num) (h : absIntSum (xs ++ ys) < 9223372036854775808) :
    addSum exact (sumSpec xs) (sumSpec ys) = sumSpec (xs ++ ys) := by
  unfold sumSpec
  rewrite [anyFlt_append, ratSum_append, intSum_append]
  cases fx : anyFlt xs
  · cases fy : anyFlt ys
    · rewrite [absIntSum_append] at h
      have sums := Nat.add_le_add (natAbs_intSum_le xs) (natAbs_intSum_le ys)
      exact addInt_of_inRange _ _ (Nat.lt_of_le_of_lt (Nat.le_trans (Int.natAbs_add_le _ _) sums) h)
    · rewrite [ratSum_of_noFlt xs fx]
      eq_refl
  · cases fy : anyFlt ys
    · rewrite [ratSum_of_noFlt ys fy]
      eq_refl
    · eq_refl

theorem sumSpec_single (x : Num) : sumSpec [x] = x := by
  cases x with
  | int i => exact congrArg Num.int (Int.add_zero i)
  | flt q => exact congrArg Num.flt (Rat.add_zero q)

theorem sumSpec_toRat (ns : List Num) : (sumSpec ns).toRat = ratSum ns := by
  unfold sumSpec
  cases h : anyFlt ns
  · exact (ratSum_of_noFlt ns h).symm
  · eq_refl

theorem sumSpec_comm (xs ys : List Num) : sumSpec (xs ++ ys) = sumSpec (ys ++ xs) := by
  simp only [sumSpec, anyFlt_append, ratSum_append, intSum_append, Bool.or_comm (anyFlt xs), Rat.add_comm (ratSum xs),
    Int.add_comm (intSum xs)]

structure IsSum (s : Num) (ns : List Num) : Prop where
  toRat : s.toRat = ratSum ns
  spec : absIntSum ns < 9223372036854775808 → s = sumSpec ns

theorem IsSum.nil : IsSum (.int 0) [] := ⟨rfl, fun _ => rfl⟩

theorem IsSum.single (x : Num) : IsSum x [x] :=
  ⟨(Rat.add_zero x.toRat).symm, fun _ => (sumSpec_single x).symm⟩

theorem IsSum.add {s t : Num} {nx ny : List Num} (hs : IsSum s nx) (ht : IsSum t ny) :
    IsSum (addSum exact s t) (nx ++ ny) :=
  ⟨by rw [addSum_toRat, hs.toRat, ht.toRat, ratSum_append],
   fun h => by rw [hs.spec (absIntSum_append_lt h).1, ht.spec (absIntSum_append_lt h).2, addSum_sumSpec _ _ h]⟩

theorem IsSum.comm {s : Num} {nx ny : List Num} (h : IsSum s (nx ++ ny)) : IsSum s (ny ++ nx) :=
  ⟨by rw [h.toRat, ratSum_append, ratSum_append, Rat.add_comm],
   fun g => by
    rewrite [absIntSum_append, Nat.add_comm, ← absIntSum_append] at g
    rewrite [sumSpec_comm]
    exact h.spec g⟩

theorem sumCell_isSum (ns : List Num) : IsSum (sumCell ns) ns := by
  induction ns using snocInd with
  | nil => exact .nil
  | append_singleton ns x ih => rw [sumCell_snoc]; exact ih.add (.single x)

/-- no guard: patch c04-15 -/
theorem sumCell_toRat (ns : List Num) : (sumCell ns).toRat = ratSum ns := (sumCell_isSum ns).toRat

theorem sumCell_eq_spec (ns : List Num) (h : absIntSum ns < 9223372036854775808) : sumCell ns = sumSpec ns :=
  (sumCell_isSum ns).spec h

/-- `rbSum ns` (C04Sd) is `sumCellWith ns (sumSpec ns)` -/
def sumCellWith (ns : List Num) (s : Num) : CV := if ns.isEmpty then .backfill else s.toCV

theorem mergeNum_numStatsWith {s t : Num} {nx ny : List Num} (hs : IsSum s nx) (ht : IsSum t ny) :
    ∃ u, IsSum u (nx ++ ny) ∧ mergeNum exact (numStatsWith nx s) (numStatsWith ny t) = numStatsWith (nx ++ ny) u := by
  cases nx with
  | nil => exact ⟨t, ht, rfl⟩
  | cons a r =>
    cases ny with
    | nil =>
      rewrite [List.append_nil]
      exact ⟨s, hs, rfl⟩
    | cons b q =>
      exact ⟨_, hs.add ht, (congrArg (fun n => some (NumStats.mk n _)) List.length_append).symm⟩

theorem sumStep_toCV (x y : Num) : sumStep exact x.toCV y.toCV = (addSum exact x y).toCV := by
  cases x <;> cases y <;> eq_refl

theorem sumStep_sumCellWith {s t : Num} {nx ny : List Num} (hs : IsSum s nx) (ht : IsSum t ny) :
    ∃ u, IsSum u (nx ++ ny) ∧ sumStep exact (sumCellWith nx s) (sumCellWith ny t) = sumCellWith (nx ++ ny) u := by
  cases nx with
  | nil =>
    refine ⟨t, ht, ?_⟩
    cases ny with
    | nil => eq_refl
    | cons b q => cases t <;> eq_refl
  | cons a r =>
    cases ny with
    | nil =>
      rewrite [List.append_nil]
      refine ⟨s, hs, ?_⟩
      cases s <;> eq_refl
    | cons b q => exact ⟨_, hs.add ht, sumStep_toCV s t⟩

theorem sumStep_nonnum (ns : List Num) (s : Num) {e : CV} (he : e = .backfill ∨ ∃ t, e = .str t) :
    sumStep exact (sumCellWith ns s) e = sumCellWith ns s := by
  cases ns with
  | nil => rcases he with rfl | ⟨t, rfl⟩ <;> eq_refl
  | cons a r => rcases he with rfl | ⟨t, rfl⟩ <;> cases s <;> eq_refl

theorem isEmpty_append_comm {α : Type} (xs ys : List α) : (xs ++ ys).isEmpty = (ys ++ xs).isEmpty := by
  cases xs <;> cases ys <;> eq_refl

theorem numStatsWith_comm (nx ny : List Num) (s : Num) : numStatsWith (nx ++ ny) s = numStatsWith (ny ++ nx) s := by
  unfold numStatsWith
  rw [isEmpty_append_comm, List.length_append, Nat.add_comm, ← List.length_append]

def CV.rat? : CV → Option Rat
  | .int i => some (i : Rat)
  | .flt q => some q
  | _ => none

theorem sumCellWith_rat? (ns : List Num) {s : Num} (hs : IsSum s ns) :
    (sumCellWith ns s).rat? = if ns = [] then none else some (ratSum ns) := by
  cases ns with
  | nil => eq_refl
  | cons a r => cases s <;> exact congrArg some hs.toRat

end SigModel.Stats
