import SigModel.Model.Bulk
/-
The vocabulary the C15 theorems are stated in — a request as a list of actions (`Act`), the per-action specification
(`Act.status`, `Act.storedOf`), the accepted events with the positions of their items (`plesFrom`) — and the loop of
the repaired code (`Version.fixed`) on such a request: `loop_inv`, `handle_spec`.
-/
namespace SigModel.Lemmas.C15
open SigModel.Bulk

/-- `single`: a one-line action (delete / unknown / malformed); `withDoc`: an index/create/update line and its document line -/
inductive Act where
  | single (l : Line)
  | withDoc (a doc : Line)
deriving Repr, DecidableEq

def Act.lines : Act → List Line
  | .single l => [l]
  | .withDoc a d => [a, d]

/-- assumed of every action; a body with an empty line anywhere but at its end is not covered -/
def Act.wf : Act → Prop
  | .single l => l.kind = Kind.other ∧ 0 < l.len
  | .withDoc a d => a.kind ≠ Kind.other ∧ 0 < a.len ∧ 0 < d.len

def Act.status (env : Env) : Act → Status
  | .single _ => .failed
  | .withDoc a d =>
    if a.kind = Kind.update then .failed
    else if env.valid a.idx = false then .failed
    else if maxRecordSize ≤ d.len then .tooLarge
    else if env.kibana a.idx = true then .failed
    else if d.docOk then .created else .failed

def Act.storedOf (env : Env) : Act → List (Nat × Nat)
  | .single _ => []
  | .withDoc a d =>
    if a.kind ≠ Kind.update ∧ env.valid a.idx = true ∧ d.len < maxRecordSize ∧ env.kibana a.idx = false ∧ d.docOk
    then [(a.idx, d.id)] else []

def Act.idxOf : Act → Nat
  | .single l => l.idx
  | .withDoc a _ => a.idx

def Act.docId : Act → Nat
  | .single l => l.id
  | .withDoc _ d => d.id

theorem status_created_iff (env : Env) (x d : Line) :
    (Act.withDoc x d).status env = Status.created ↔
      x.kind ≠ Kind.update ∧ env.valid x.idx = true ∧ d.len < maxRecordSize ∧ env.kibana x.idx = false ∧ d.docOk = true := by
  rw [Act.status]
  by_cases h1 : x.kind = Kind.update
  · simp [h1]
  cases h2 : env.valid x.idx
  · simp
  by_cases h3 : d.len < maxRecordSize
  · cases h4 : env.kibana x.idx <;> simp [h1, h3, Nat.not_le.2 h3]
  · simp [h1, h3, Nat.le_of_not_lt h3]

theorem storedOf_eq (env : Env) (a : Act) :
    a.storedOf env = if a.status env = Status.created then [(a.idxOf, a.docId)] else [] := by
  cases a with
  | single l => rfl
  | withDoc x d => simp only [Act.storedOf, status_created_iff, Act.idxOf, Act.docId]

theorem storedOf_ne_nil_iff (env : Env) (a : Act) : a.storedOf env ≠ [] ↔ a.status env = Status.created := by
  rw [storedOf_eq]
  split
  · exact ⟨fun _ => ‹_›, fun _ => List.cons_ne_nil _ _⟩
  · exact ⟨fun h => absurd rfl h, fun h => absurd h ‹_›⟩

def Act.pleOf (env : Env) (a : Act) (pos : Nat) : List Ple := (a.storedOf env).map (fun p => (p.1, p.2, pos))

def plesFrom (env : Env) : List Act → Nat → List Ple
  | [], _ => []
  | a :: r, off => a.pleOf env off ++ plesFrom env r (off + 1)

def emptyLine : Line := { kind := .other, len := 0, docOk := false, id := 0, idx := 0 }

def tailItems (dangling : Option Line) : List Status :=
  (dangling.map (fun _ => Status.failed)).toList

/-- what some iterations of the loop do to the state; `numCreated`, `processed` and the per-action flags are not followed -/
def Extends (s s' : St) (its : List Status) (st : List Ple) : Prop :=
  s'.items = s.items ++ its ∧ s'.ples = s.ples ++ st ∧
  s'.overallError = (s.overallError || its.any (· ≠ Status.created))

theorem Extends.refl (s : St) : Extends s s [] [] :=
  ⟨(List.append_nil _).symm, (List.append_nil _).symm, (Bool.or_false _).symm⟩

theorem Extends.trans {s s' s'' : St} {i1 i2 : List Status} {t1 t2 : List Ple}
    (h1 : Extends s s' i1 t1) (h2 : Extends s' s'' i2 t2) : Extends s s'' (i1 ++ i2) (t1 ++ t2) := by
  obtain ⟨a1, b1, c1⟩ := h1
  obtain ⟨a2, b2, c2⟩ := h2
  refine ⟨?_, ?_, ?_⟩
  · rw [a2, a1, List.append_assoc]
  · rw [b2, b1, List.append_assoc]
  · rw [c2, c1, List.any_append, Bool.or_assoc]

theorem len_beq_zero {l : Line} (h : 0 < l.len) : (l.len == 0) = false :=
  beq_false_of_ne (Nat.ne_of_gt h)

theorem loop_nil (v : Version) (env : Env) (f : Nat) (s : St) : loop v env f s [] = s := by
  cases f <;> rfl

theorem loop_store (v : Version) (env : Env) (store' : Nat → List Nat → Bool) (f : Nat) (s : St) (b : List Line) :
    loop v { env with store := store' } f s b = loop v env f s b := by
  induction f generalizing s b with
  | zero => rfl
  | succ f ih =>
    have hstep : ∀ s l r, stepAction v { env with store := store' } s l r = stepAction v env s l r := fun _ _ _ => rfl
    simp only [loop, hstep, ih]

theorem loop_succ (env : Env) {l : Line} (hl : 0 < l.len) (f : Nat) (s : St) (rest : List Line) :
    loop Version.fixed env (f+1) s (l :: rest) =
      loop Version.fixed env f (stepAction Version.fixed env s l rest).1 (stepAction Version.fixed env s l rest).2 := by
  simp only [loop, readLine, len_beq_zero hl, Bool.false_and, Bool.false_eq_true, if_false]

theorem stepAction_single (env : Env) (l : Line) (hk : l.kind = Kind.other) (s : St) (rest : List Line) :
    (stepAction Version.fixed env s l rest).2 = rest ∧ Extends s (stepAction Version.fixed env s l rest).1 [Status.failed] [] := by
  simp [stepAction, hk, Extends]

/-- `index` and `create` lines take the same branch of the switch -/
theorem stepAction_eq_index (v : Version) (env : Env) (s : St) (l : Line) (hk : l.kind ≠ .other) (hu : l.kind ≠ .update)
    (rest : List Line) : stepAction v env s l rest = stepAction v env s { l with kind := .index } rest := by
  unfold stepAction
  cases h : l.kind with
  | other => exact absurd h hk
  | update => exact absurd h hu
  -- the sides agree once the `match` and the projections of `{ l with … }` reduce; plain `rfl` is slow to check
  | index => with_reducible rfl
  | create => with_reducible rfl

/-- the cascade of the switch is the cascade of `Act.status` -/
theorem stepAction_withDoc (env : Env) (a d : Line) (hk : a.kind ≠ Kind.other) (hd : 0 < d.len)
    (s : St) (rest : List Line) :
    (stepAction Version.fixed env s a (d :: rest)).2 = rest ∧
    Extends s (stepAction Version.fixed env s a (d :: rest)).1 [(Act.withDoc a d).status env]
      ((Act.withDoc a d).pleOf env s.items.length) := by
  by_cases hu : a.kind = Kind.update
  · simp [stepAction, hu, readLine, Extends, Act.status, Act.storedOf, Act.pleOf]
  have hne := len_beq_zero hd
  rw [stepAction_eq_index _ _ _ _ hk hu]
  by_cases hv : env.valid a.idx = true
  case neg => simp [stepAction, readLine, Extends, Act.status, Act.storedOf, Act.pleOf, hne, hu, hv]
  by_cases h1 : d.len < maxRecordSize
  case neg =>
    simp [stepAction, readLine, Extends, Act.status, Act.storedOf, Act.pleOf, hne, hu, hv, h1, Nat.le_of_not_lt h1]
  by_cases hkb : env.kibana a.idx = true
  case pos =>
    simp [stepAction, Version.fixed, readLine, Extends, Act.status, Act.storedOf, Act.pleOf, hne, hu, hv, h1,
      Nat.not_le.2 h1, hkb]
  cases h2 : d.docOk <;>
    simp [stepAction, readLine, Extends, Act.status, Act.storedOf, Act.pleOf, hne, hu, hv, h1, Nat.not_le.2 h1, hkb, h2]

/-- the document is missing: end of body, or only the trailing newline follows -/
theorem stepAction_dangling (env : Env) (l : Line) (hk : l.kind ≠ Kind.other) (s : St) (rest : List Line)
    (h : readLine rest = (emptyLine, [])) :
    (stepAction Version.fixed env s l rest).2 = [] ∧
    Extends s (stepAction Version.fixed env s l rest).1 [Status.failed] [] := by
  have h0 : emptyLine.len = 0 := rfl
  by_cases hu : l.kind = Kind.update
  · simp [stepAction, hu, Extends, h]
  · rw [stepAction_eq_index _ _ _ _ hk hu]
    simp [stepAction, Extends, h, h0, remEmpty]

theorem loop_act (env : Env) (a : Act) (hwf : a.wf) (f : Nat) (s : St) (rest : List Line) :
    ∃ s', loop Version.fixed env (f+1) s (a.lines ++ rest) = loop Version.fixed env f s' rest ∧
      Extends s s' [a.status env] (a.pleOf env s.items.length) := by
  cases a with
  | single l =>
    obtain ⟨h1, h2⟩ := stepAction_single env l hwf.1 s rest
    exact ⟨_, (loop_succ env hwf.2 f s rest).trans (congrArg _ h1), h2⟩
  | withDoc x d =>
    obtain ⟨h1, h2⟩ := stepAction_withDoc env x d hwf.1 hwf.2.2 s rest
    exact ⟨_, (loop_succ env hwf.2.1 f s (d :: rest)).trans (congrArg _ h1), h2⟩

theorem loop_tail (env : Env) (dangling : Option Line) (nl : Bool)
    (hd : ∀ l, dangling = some l → l.kind ≠ Kind.other ∧ 0 < l.len) (f : Nat) (s : St) :
    Extends s (loop Version.fixed env (f+1) s (dangling.toList ++ if nl then [emptyLine] else [])) (tailItems dangling) [] := by
  cases dangling with
  | none =>
    rw [show loop Version.fixed env (f+1) s _ = s by cases nl <;> rfl]
    exact Extends.refl s
  | some l =>
    obtain ⟨hk, hl⟩ := hd l rfl
    obtain ⟨h1, h2⟩ := stepAction_dangling env l hk s _
      (show readLine (if nl then [emptyLine] else []) = _ by cases nl <;> rfl)
    rw [Option.toList_some, List.singleton_append, loop_succ env hl, h1, loop_nil]
    exact h2

theorem loop_inv (env : Env) (tl : List Line) (tits : List Status)
    (htl : ∀ f s, Extends s (loop Version.fixed env (f+1) s tl) tits []) (acts : List Act) (hwf : ∀ a ∈ acts, a.wf) :
    ∀ (f : Nat) (s : St), acts.length ≤ f →
      Extends s (loop Version.fixed env (f+1) s (acts.flatMap Act.lines ++ tl))
        (acts.map (Act.status env) ++ tits) (plesFrom env acts s.items.length) := by
  induction acts with
  | nil => exact fun f s _ => htl f s
  | cons a acts ih =>
    intro f s hf
    cases f with
    | zero => exact absurd hf (Nat.not_succ_le_zero _)
    | succ f =>
      obtain ⟨s', h1, h2⟩ := loop_act env a (hwf a List.mem_cons_self) (f+1) s (acts.flatMap Act.lines ++ tl)
      have h3 := ih (fun b hb => hwf b (List.mem_cons_of_mem _ hb)) f s' (Nat.le_of_succ_le_succ hf)
      rw [h2.1, List.length_append] at h3
      rw [List.flatMap_cons, List.append_assoc, h1]
      exact h2.trans h3

theorem length_le_flatMap_lines (acts : List Act) : acts.length ≤ (acts.flatMap Act.lines).length := by
  induction acts with
  | nil => exact Nat.le_refl _
  | cons a acts ih =>
    rw [List.flatMap_cons, List.length_append, List.length_cons, Nat.add_comm]
    exact Nat.add_le_add (by cases a <;> exact Nat.succ_pos _) ih

/-- complete actions, then optionally an index/create/update line without its document, then optionally the trailing
newline (a final empty line) -/
def bodyOf (acts : List Act) (dangling : Option Line) (nl : Bool) : List Line :=
  acts.flatMap Act.lines ++ dangling.toList ++ (if nl then [emptyLine] else [])

def loopItems (env : Env) (acts : List Act) (dangling : Option Line) : List Status :=
  acts.map (Act.status env) ++ tailItems dangling

theorem handle_spec (env : Env) (acts : List Act) (dangling : Option Line) (nl : Bool)
    (hwf : ∀ a ∈ acts, a.wf) (hd : ∀ l, dangling = some l → l.kind ≠ Kind.other ∧ 0 < l.len) :
    (handle Version.fixed env (bodyOf acts dangling nl)).items = loopItems env acts dangling ∧
    (handle Version.fixed env (bodyOf acts dangling nl)).ples = plesFrom env acts 0 ∧
    (handle Version.fixed env (bodyOf acts dangling nl)).overallError = (loopItems env acts dangling).any (· ≠ Status.created) := by
  unfold handle bodyOf
  rw [List.append_assoc]
  exact loop_inv env _ _ (loop_tail env dangling nl hd) acts hwf _ {}
    (by rw [List.length_append]; exact Nat.le_trans (length_le_flatMap_lines acts) (Nat.le_add_right _ _))

end SigModel.Lemmas.C15
