/-
The vocabulary of the property theorems (numeric values of a list as exact rationals, their total, the guards) and how
it reads off the closed form `build`; left-to-right merge of several parts is a statistics of all the values
(`statsOf_mergeAll`); what EVERY statistics of a list holds and answers, in that vocabulary (`StatsOf.spec`, `.avg`,
`.count`).  Core Lean only.
-/
import SigModel.Lemmas.C04Sc
import SigModel.Lemmas.C04Sp

namespace SigModel.Stats
open SigModel.MachInt

/-- both paths, fixed code: numbers, and strings that are decimal numerals with at least one mantissa digit -/
def Val.number? : Val → Option Rat
  | .absent => none
  | .int i => some (i : Rat)
  | .flt q => some q
  | .str s => parseFast exact s

def numbers (vs : List Val) : List Rat := vs.filterMap Val.number?

def total : List Rat → Rat
  | [] => 0
  | x :: r => x + total r

/-- the int64 running sum cannot wrap, whatever the order and the split -/
def NoInt64Overflow (vs : List Val) : Prop := absIntSum (nums (parseFast exact) vs) < 9223372036854775808

instance (vs : List Val) : Decidable (NoInt64Overflow vs) := by unfold NoInt64Overflow; infer_instance

/-- no string is a digit-less FastParseFloat form ("-", "+", ".", "e5", …): the class on which the paths agreed BEFORE the
fixes -/
def NoDigitlessForm (vs : List Val) : Prop := ∀ s, Val.str s ∈ vs → HasMantissaDigit s

theorem number_eq (v : Val) : v.number? = (numOf (parseFast exact) v).map Num.toRat := by
  cases v with
  | str s => dsimp only [Val.number?, numOf]; cases parseFast exact s <;> rfl
  | _ => rfl

theorem numbers_eq (vs : List Val) : numbers vs = ratVals (nums (parseFast exact) vs) := by
  rw [ratVals, nums, List.map_filterMap]
  exact congrArg (List.filterMap · vs) (funext number_eq)

theorem total_ratVals (ns : List Num) : total (ratVals ns) = ratSum ns := by
  induction ns with
  | nil => rfl
  | cons x r ih => exact congrArg (x.toRat + ·) ih

theorem NoInt64Overflow.left {xs ys : List Val} (h : NoInt64Overflow (xs ++ ys)) : NoInt64Overflow xs := by
  unfold NoInt64Overflow at *; rw [nums_append] at h; exact (absIntSum_append_lt h).1
theorem NoInt64Overflow.right {xs ys : List Val} (h : NoInt64Overflow (xs ++ ys)) : NoInt64Overflow ys := by
  unfold NoInt64Overflow at *; rw [nums_append] at h; exact (absIntSum_append_lt h).2
theorem NoInt64Overflow.swap {xs ys : List Val} (h : NoInt64Overflow (xs ++ ys)) : NoInt64Overflow (ys ++ xs) := by
  unfold NoInt64Overflow at *; rw [nums_append, absIntSum_append] at *; rw [Nat.add_comm]; exact h

theorem build_comm (parse : Str → Option Rat) (xs ys : List Val)
    (hov : absIntSum (nums parse (xs ++ ys)) < 9223372036854775808) : build parse (xs ++ ys) = build parse (ys ++ xs) :=
  (statsOf_build parse (xs ++ ys)).eq (statsOf_build parse (ys ++ xs)).comm hov

/-- what StatsResults.MergeSegStats does batch after batch -/
def mergeAll (ps : List (List Val)) : Option SegStats := ps.foldl (fun acc p => mergeO exact acc (foldQ exact p)) none

theorem mergeAll_snoc (ps : List (List Val)) (p : List Val) :
    mergeAll (ps ++ [p]) = mergeO exact (mergeAll ps) (foldQ exact p) := by
  rw [mergeAll, List.foldl_append]; rfl

theorem statsOf_mergeAll (ps : List (List Val)) : StatsOf (parseFast exact) ps.flatten (mergeAll ps) := by
  induction ps using snocInd with
  | nil => exact statsOf_build _ []
  | append_singleton ps p ih =>
    rw [List.flatten_append, List.flatten_singleton, mergeAll_snoc]
    exact ih.merge (statsOf_foldQ p)

/-- `generalizing := false`: by default the match would take `h` along, and the statement would not be the one
`stats_fold_eq_spec` has -/
theorem StatsOf.spec {vs : List Val} {o : Option SegStats} (h : StatsOf (parseFast exact) vs o) :
    match (generalizing := false) o with
    | none => present vs = 0
    | some st =>
      st.count = present vs ∧
      st.isNumeric = !(numbers vs).isEmpty ∧
      (match st.num with
        | none => numbers vs = []
        | some ns => ns.ncount = (numbers vs).length ∧ ns.sum.toRat = total (numbers vs) ∧ numbers vs ≠ []) ∧
      IsMinOf st.min (numbers vs) ∧ IsMaxOf st.max (numbers vs) := by
  obtain ⟨s, hs, rfl⟩ := h
  have hmin := minCell_isMin (parseFast exact) vs
  have hmax := maxCell_isMax (parseFast exact) vs
  have ht := hs.toRat
  rw [numbers_eq, total_ratVals]
  unfold statsWith
  generalize present vs = c
  generalize nums (parseFast exact) vs = ns at *
  cases c with
  | zero => rfl
  | succ n =>
    cases ns with
    | nil => exact ⟨rfl, rfl, rfl, hmin, hmax⟩
    | cons a r => exact ⟨rfl, rfl, ⟨(List.length_map _).symm, ht, List.cons_ne_nil _ _⟩, hmin, hmax⟩

theorem avg_mkStats {c : Nat} {mn mx : CV} {ns : List Num} {s : Num} (h0 : c = 0 → ns = []) :
    (derive exact (mkStats c mn mx ns s)).avg =
      if List.map Num.toRat ns = [] then none else some (.flt (s.toRat / (ns.length : Rat))) := by
  cases c with
  | zero => rw [h0 rfl]; rfl
  | succ n =>
    cases ns with
    | nil => rfl
    | cons a r => cases s <;> rfl

theorem StatsOf.avg {vs : List Val} {o : Option SegStats} (h : StatsOf (parseFast exact) vs o) :
    (derive exact o).avg =
      if numbers vs = [] then none else some (.flt (total (numbers vs) / ((numbers vs).length : Rat))) := by
  obtain ⟨s, hs, rfl⟩ := h
  rw [numbers_eq, total_ratVals, ratVals, List.length_map, ← hs.toRat]
  exact avg_mkStats (fun h0 => (fresh_cells _ vs h0).2.2)

theorem StatsOf.count {parse : Str → Option Rat} {vs : List Val} {o : Option SegStats} (h : StatsOf parse vs o) :
    (derive exact o).count = if present vs = 0 then none else some (.int (present vs)) := by
  obtain ⟨s, _, rfl⟩ := h
  unfold statsWith
  generalize present vs = c
  cases c <;> rfl

end SigModel.Stats
