/-
Lemmas about the bloom model (Model/Bloom.lean).  Writer side: `splitSpace` is core's `List.splitOn 32` (through
Lemmas/Split), ASCII case folding, which keys `addedKeys` holds.  Record side: a sub-word hit (`subWord_iff_index`,
Lemmas/C02Sub) cuts the value between spaces, so every non-empty word of the needle is an added key (`pieces_added`).
Block side: the entry loops in closed form (`pass_of_found`) and the keys a match filter probes.  `pass_wordsOfKeys` and
`pass_probe` join the three: the record matcher finds the probe's keys in a value, so the block holding it is kept.
-/
import SigModel.Lemmas.C02Sub
import SigModel.Lemmas.Split

namespace SigModel.Bloom
open SigModel.Tlv (Bytes)

theorem splitSpace_eq (s : Bytes) : splitSpace s = s.splitOn 32 :=
  Lemmas.Split.eq_splitOn rfl (fun _ _ _ h => by simp [splitSpace, h]) (fun _ _ _ _ hc h => by simp [splitSpace, hc, h]) s

theorem splitSpace_ne_nil (s : Bytes) : splitSpace s ≠ [] := splitSpace_eq s ▸ List.splitOn_ne_nil 32 s

theorem splitSpace_ind {P : Bytes → List Bytes → Prop} (nil : P [] [[]])
    (space : ∀ r, P r (splitSpace r) → P (32 :: r) ([] :: splitSpace r))
    (byte : ∀ b r s ss, b ≠ 32 → P r (s :: ss) → P (b :: r) ((b :: s) :: ss)) (v : Bytes) : P v (splitSpace v) := by
  induction v with
  | nil => exact nil
  | cons b r ih =>
    rw [splitSpace]
    by_cases hb : b = 32
    · rw [if_pos hb]
      exact hb ▸ space r ih
    · obtain ⟨s, ss, e⟩ := List.exists_cons_of_ne_nil (splitSpace_ne_nil r)
      rw [if_neg hb, e]
      exact byte b r s ss hb (e ▸ ih)

/-- the hypothesis is the test `addedKeys` makes (`hasSubWords` stays false) -/
theorem splitSpace_of_length_le_one (v : Bytes) (h : (splitSpace v).length ≤ 1) : splitSpace v = [v] := by
  rw [splitSpace_eq, Lemmas.Split.length_splitOn] at h
  have h0 : v.count 32 = 0 := Nat.le_zero.mp (Nat.le_of_succ_le_succ h)
  exact (splitSpace_eq v).trans (List.splitOn_eq_singleton (List.count_eq_zero.mp h0))

theorem any_hasUpper_splitSpace (v : Bytes) : (splitSpace v).any hasUpper = hasUpper v := by
  refine splitSpace_ind (P := fun v l => l.any hasUpper = hasUpper v) rfl (fun r ih => ih) (fun b r s ss _ ih => ?_) v
  simp only [hasUpper, List.any_cons, Bool.or_assoc] at ih ⊢
  rw [ih]

theorem noUpper_piece (v s : Bytes) (hs : s ∈ splitSpace v) (hu : hasUpper v = false) : hasUpper s = false := by
  rw [← any_hasUpper_splitSpace, List.any_eq_false] at hu
  simpa using hu s hs

theorem piece_of_not_blank (w : Bytes) : blankWord w = false → ∃ s ∈ splitSpace w, s ≠ [] := by
  refine splitSpace_ind (P := fun w l => blankWord w = false → ∃ s ∈ l, s ≠ []) nofun (fun r ih h => ?_) (fun b r s ss _ _ _ => ?_) w
  · obtain ⟨s, hs, hne⟩ := ih h
    exact ⟨s, List.mem_cons_of_mem _ hs, hne⟩
  · exact ⟨b :: s, List.mem_cons_self .., List.cons_ne_nil _ _⟩

/-- the bound (past 'z') makes the statement finite -/
theorem lowerB_xor32 : ∀ a < 123, isAlphaB a = true → lowerB (a ^^^ 32) = lowerB a := by decide +kernel

theorem ciEqB_lower (a b : Nat) (h : ciEqB a b = true) : lowerB a = lowerB b := by
  simp only [ciEqB, Bool.or_eq_true, Bool.and_eq_true, beq_iff_eq] at h
  rcases h with rfl | ⟨⟨ha, _⟩, rfl⟩
  · rfl
  · have : a < 123 := by
      simp only [isAlphaB, isUpperB, Bool.or_eq_true, Bool.and_eq_true, decide_eq_true_eq] at ha
      omega
    exact (lowerB_xor32 a this ha).symm

theorem toLower_eq_of_ciEq (a b : Bytes) (hl : a.length = b.length)
    (h : (a.zip b).all (fun xy => ciEqB xy.1 xy.2) = true) : toLower a = toLower b := by
  induction a generalizing b with
  | nil => rw [List.eq_nil_of_length_eq_zero hl.symm]
  | cons x a ih =>
    cases b with
    | nil => exact absurd hl (Nat.succ_ne_zero _)
    | cons y b =>
      have ⟨hxy, hr⟩ := Bool.and_eq_true _ _ |>.mp h
      show lowerB x :: toLower a = lowerB y :: toLower b
      rw [ciEqB_lower x y hxy, ih b (Nat.succ.inj hl) hr]

theorem toLower_of_noUpper (s : Bytes) (h : hasUpper s = false) : toLower s = s :=
  (List.map_congr_left fun b hb => if_neg (List.any_eq_false.mp h b hb)).trans (List.map_id' s)

/-! Case-insensitive search is for needles without upper-case bytes (`hlow`), which is what the query grammar produces. -/

theorem needle_of_bytesEq (ci : Bool) (t w : Bytes) (hlow : ci = true → hasUpper w = false)
    (h : bytesEq ci t w = true) : w = t ∨ w = toLower t := by
  cases ci with
  | false => exact .inl (beq_iff_eq.mp h).symm
  | true =>
    have ⟨hl, hz⟩ := Bool.and_eq_true _ _ |>.mp h
    exact .inr ((toLower_of_noUpper w (hlow rfl)).symm.trans (toLower_eq_of_ciEq t w (beq_iff_eq.mp hl) hz).symm)

theorem lowerB_eq_32 {b : Nat} (h : lowerB b = 32) : b = 32 := by
  unfold lowerB at h
  split at h
  · next hu => exact absurd (Nat.add_eq_right.mp h ▸ hu) (by decide)
  · exact h

theorem toLower_length (s : Bytes) : (toLower s).length = s.length := by simp [toLower]

theorem splitSpace_toLower (s : Bytes) : splitSpace (toLower s) = (splitSpace s).map toLower := by
  refine splitSpace_ind (P := fun s l => splitSpace (toLower s) = l.map toLower) rfl (fun r ih => congrArg ([] :: ·) ih)
    (fun b r s ss hb ih => ?_) s
  show splitSpace (lowerB b :: toLower r) = _
  rw [splitSpace, if_neg (mt lowerB_eq_32 hb), ih]
  rfl

/-! `x = s ∨ x = toLower s`: the writer adds the lower-cased copy only when the VALUE has upper case; otherwise it is the
key itself. -/

theorem self_mem_addedKeys (v x : Bytes) (hx : x = v ∨ x = toLower v) : x ∈ addedKeys v := by
  unfold addedKeys
  cases hu : hasUpper v
  · rw [toLower_of_noUpper v hu, or_self] at hx
    exact hx ▸ List.mem_cons_self ..
  · exact hx.elim (· ▸ List.mem_cons_self ..) (· ▸ List.mem_append_right _ (List.mem_singleton_self _))

theorem piece_mem_addedKeys (v s x : Bytes) (hs : s ∈ splitSpace v) (hne : s ≠ []) (hx : x = s ∨ x = toLower s) :
    x ∈ addedKeys v := by
  by_cases hl : (splitSpace v).length ≤ 1
  · rw [splitSpace_of_length_le_one v hl] at hs
    exact self_mem_addedKeys v x (List.mem_singleton.mp hs ▸ hx)
  · have hv := splitSpace_ne_nil v
    have hpair : x ∈ [s, toLower s] := List.mem_cons.mpr (hx.imp_right List.mem_singleton.mpr)
    unfold addedKeys
    refine List.mem_append_left _ (List.mem_append_right _ ?_)
    rw [if_neg hl, List.getLast?_eq_some_getLast hv]
    -- a piece before the last one is a key of the loop, the last one (it is not empty) of the step after the loop
    rcases List.mem_append.mp ((List.dropLast_concat_getLast hv).symm ▸ hs) with h | h
    · refine List.mem_append_left _ (List.mem_flatMap_of_mem h ?_)
      cases hu : hasUpper v
      · rw [toLower_of_noUpper s (noUpper_piece v s hs hu), or_self] at hx
        exact List.mem_singleton.mpr hx
      · exact hpair
    · rw [← List.mem_singleton.mp h]
      refine List.mem_append_right _ ?_
      show x ∈ if s.isEmpty then [] else [s, toLower s]
      rwa [if_neg (mt List.isEmpty_iff.mp hne)]

theorem splitSpace_append_cons (a b : Bytes) : splitSpace (a ++ 32 :: b) = splitSpace a ++ splitSpace b := by
  simp only [splitSpace_eq, List.splitOn_append_cons_self]

theorem pieces_after (pre u : Bytes) (h : pre = [] ∨ pre.getLast? = some 32) : splitSpace u ⊆ splitSpace (pre ++ u) := by
  rcases h with rfl | h
  · exact fun _ h => h
  · obtain ⟨p, rfl⟩ := List.getLast?_eq_some_iff.mp h
    rw [List.append_assoc, List.singleton_append, splitSpace_append_cons]
    exact List.subset_append_right _ _

theorem pieces_before (t post : Bytes) (h : post = [] ∨ post.head? = some 32) : splitSpace t ⊆ splitSpace (t ++ post) := by
  rcases h with rfl | h
  · rw [List.append_nil]
    exact fun _ h => h
  · obtain ⟨q, rfl⟩ := List.head?_eq_some_iff.mp h
    rw [splitSpace_append_cons]
    exact List.subset_append_left _ _

/-- `t` is the slice of the value the needle is compared with: it lies between spaces or the ends -/
theorem subWord_cut (ci : Bool) (v w : Bytes) (h : subWord ci v w = true) :
    ∃ t, bytesEq ci t w = true ∧ splitSpace t ⊆ splitSpace v ∧ (w.length = v.length → t = v) := by
  obtain ⟨i, hi, hbe, hL, hR⟩ := (subWord_iff_index ci v w).mp h
  refine ⟨_, hbe, fun s hs => ?_, fun hl => ?_⟩
  · -- `v` is `take i ++ (slice ++ drop (i + n))`
    have hv := pieces_after _ _ hL (pieces_before _ _ hR hs)
    rwa [← List.drop_drop, List.take_append_drop, List.take_append_drop] at hv
  · -- the offset is 0
    rw [hl] at hi ⊢
    cases Nat.le_zero.mp (Nat.sub_self _ ▸ Nat.le_sub_of_add_le hi)
    exact List.take_length

theorem key_added_value (ci : Bool) (v w : Bytes) (hlow : ci = true → hasUpper w = false)
    (h : bytesEq ci v w = true) : w ∈ addedKeys v :=
  self_mem_addedKeys v w (needle_of_bytesEq ci v w hlow h)

theorem pieces_added (ci : Bool) (v n : Bytes) (hlow : ci = true → hasUpper n = false)
    (h : subWord ci v n = true) : ∀ w ∈ splitSpace n, w ≠ [] → w ∈ addedKeys v := by
  obtain ⟨t, hbe, hsub, _⟩ := subWord_cut ci v n h
  intro w hw hne
  rcases needle_of_bytesEq ci t n hlow hbe with rfl | rfl
  · exact piece_mem_addedKeys v w w (hsub hw) hne (.inl rfl)
  · rw [splitSpace_toLower] at hw
    obtain ⟨s, hs, rfl⟩ := List.mem_map.mp hw
    exact piece_mem_addedKeys v s _ (hsub hs) (fun e => hne (congrArg toLower e)) (.inr rfl)

theorem key_added_token (ci : Bool) (v w : Bytes) (hne : w ≠ []) (hsp : 32 ∉ w)
    (hlow : ci = true → hasUpper w = false) (h : subWord ci v w = true) : w ∈ addedKeys v :=
  pieces_added ci v w hlow h w (by rw [splitSpace_eq, List.splitOn_eq_singleton hsp]; exact List.mem_singleton_self w) hne

theorem key_added_whole (ci : Bool) (v w : Bytes) (hlen : w.length = v.length)
    (hlow : ci = true → hasUpper w = false) (h : subWord ci v w = true) : w ∈ addedKeys v := by
  obtain ⟨t, hbe, _, ht⟩ := subWord_cut ci v w h
  exact key_added_value ci v w hlow (ht hlen ▸ hbe)

/-! The entry loops in closed form: the result does not depend on the order in which Go iterates the key map. -/

theorem forColLoop_and (ex : Bytes → Bool) (ks : List Bytes) : forColLoop ex .and ks = ks.all ex := by
  induction ks with
  | nil => rfl
  | cons k r ih =>
    rw [forColLoop, List.all_cons, ih]
    cases ex k <;> rfl

theorem forColLoop_or (ex : Bytes → Bool) (ks : List Bytes) : forColLoop ex .or ks = true := by
  induction ks with
  | nil => rfl
  | cons k r ih =>
    rw [forColLoop, ih]
    cases ex k <;> rfl

theorem allColLoop_and (ex : Bytes → Bool) (ks : List Bytes) : allColLoop ex .and ks true = ks.all ex := by
  induction ks with
  | nil => rfl
  | cons k r ih =>
    rw [allColLoop, List.all_cons, ih]
    cases ex k <;> rfl

theorem allColLoop_or_false (ex : Bytes → Bool) (ks : List Bytes) : allColLoop ex .or ks false = ks.any ex := by
  induction ks with
  | nil => rfl
  | cons k r ih =>
    rw [allColLoop, List.any_cons, ih]
    cases ex k <;> rfl

theorem allColLoop_or_cons (ex : Bytes → Bool) (k : Bytes) (r : List Bytes) (m : Bool) :
    allColLoop ex .or (k :: r) m = (k :: r).any ex := by
  rw [allColLoop, List.any_cons, allColLoop_or_false]
  cases ex k <;> rfl

theorem allColLoop_or_none (ex : Bytes → Bool) (ks : List Bytes) (h : ks.any ex = false) (hne : ks ≠ []) (m : Bool) :
    allColLoop ex .or ks m = false := by
  cases ks with
  | nil => exact absurd rfl hne
  | cons k r => rw [allColLoop_or_cons, h]

theorem loops_of_found (ex : Bytes → Bool) (op : Op) (ks : List Bytes)
    (h : (∀ k ∈ ks, ex k = true) ∨ (op = .or ∧ ∃ k ∈ ks, ex k = true)) :
    allColLoop ex op ks true = true ∧ forColLoop ex op ks = true := by
  cases op with
  | and =>
    have ha := List.all_eq_true.mpr (h.resolve_right fun h => nomatch h.1)
    exact ⟨(allColLoop_and ex ks).trans ha, (forColLoop_and ex ks).trans ha⟩
  | or =>
    refine ⟨?_, forColLoop_or ex ks⟩
    cases ks with
    | nil => rfl
    | cons k r =>
      rw [allColLoop_or_cons, List.any_eq_true]
      exact h.elim (fun h => ⟨k, List.mem_cons_self, h k List.mem_cons_self⟩) And.right

theorem pass_of_found (allCols : Bool) (cols : Cols) (p : Probe) (negate : Bool)
    (h : (p.wildcard = true ∨ negate = true) ∨ (∀ k ∈ p.keys, needleInCols cols p k = true) ∨
      (p.op = .or ∧ ∃ k ∈ p.keys, needleInCols cols p k = true)) :
    passRotated allCols cols p negate = true ∧ passUnrotated cols p negate = true := by
  unfold passRotated passUnrotated
  rcases h with h | h
  · simp only [Bool.or_eq_true, h, if_true, and_self]
  · obtain ⟨hall, hfor⟩ := loops_of_found (needleInCols cols p) p.op p.keys h
    simp only [hall, hfor, ite_self, and_self]

theorem found_of_holds {ks : List Bytes} (cols : Cols) (b : BloomLike) (p : Probe) (k : Bytes) (hb : b.holds ks)
    (hc : some b ∈ cols) (hk : k ∈ ks) : needleInCols cols p k = true :=
  List.any_eq_true.2 ⟨some b, hc, Bool.or_eq_true_iff.2 (.inl (hb k hk))⟩

theorem mem_exprProbe_keys {fopEq isRegex hasOrig ci : Bool} {val orig k : Bytes} :
    k ∈ (exprProbe fopEq isRegex val hasOrig orig ci).keys → k = val := by
  unfold exprProbe
  cases fopEq
  · exact (absurd · List.not_mem_nil)
  · cases isRegex
    · cases val.isEmpty
      · exact List.mem_singleton.mp
      · exact (absurd · List.not_mem_nil)
    · exact (absurd · List.not_mem_nil)

theorem passUnrotated_false (cols : Cols) (p : Probe) : passUnrotated cols p false = passUnrotatedOld cols p := by
  rw [passUnrotated, passUnrotatedOld, Bool.or_false]

theorem exact_holds (keys : List Bytes) : (exact keys).holds keys :=
  fun _ hk => List.contains_iff_mem.mpr hk

theorem mem_insertKey (ks : List Bytes) (k x : Bytes) : x ∈ insertKey ks k ↔ x ∈ ks ∨ x = k := by
  unfold insertKey
  split
  · next h => exact ⟨.inl, fun h' => h'.elim id (· ▸ List.contains_iff_mem.1 h)⟩
  · simp

theorem mem_foldl_insertKey (l acc : List Bytes) (x : Bytes) : x ∈ l.foldl insertKey acc ↔ x ∈ acc ∨ x ∈ l := by
  induction l generalizing acc with
  | nil => simp
  | cons a r ih => simp only [List.foldl_cons, ih, mem_insertKey, List.mem_cons, or_assoc]

theorem mem_wordsOfKeys (ks : List Bytes) (x : Bytes) :
    x ∈ wordsOfKeys ks ↔ ∃ k ∈ ks, x ∈ splitSpace k ∧ x ≠ [] := by
  simp only [wordsOfKeys, mem_foldl_insertKey, List.mem_flatMap, List.mem_filter, List.not_mem_nil, false_or,
    Bool.not_eq_true', List.isEmpty_eq_false_iff]

theorem wordsLoop_eq (ci lenEq : Bool) (origs l : List Bytes) (i : Nat) (ks : List Bytes) (os : List (Bytes × Bytes))
    (wc : Bool) :
    (wordsLoop ci lenEq origs l i (ks, os, wc)).1 = (l.filter fun w => !hasStar w).foldl insertKey ks ∧
    (wordsLoop ci lenEq origs l i (ks, os, wc)).2.2 = (wc || l.any hasStar) := by
  induction l generalizing i ks os wc with
  | nil => exact ⟨rfl, (Bool.or_false wc).symm⟩
  | cons w r ih =>
    rw [wordsLoop, List.filter_cons, List.any_cons]
    cases hasStar w
    · exact ih ..
    · exact (ih ..).imp_right (·.trans (Bool.or_true wc).symm)

theorem probeOld_words (mf : MatchFilter) (ci : Bool) (hph : mf.isPhrase = false) :
    (mf.probeOld ci).wildcard = mf.words.any hasStar ∧
    (∀ x, x ∈ (mf.probeOld ci).keys ↔ x ∈ mf.words ∧ hasStar x = false) ∧
    (mf.probeOld ci).op = if (mf.probeOld ci).keys.length == 1 then .and else mf.op := by
  obtain ⟨hk, hw⟩ := wordsLoop_eq ci (mf.wordsOrig.length == mf.words.length) mf.wordsOrig mf.words 0 [] [] false
  simp only [MatchFilter.probeOld, hph, Bool.false_eq_true, if_false, hk, hw, Bool.false_or, true_and, and_true]
  intro x
  simp [mem_foldl_insertKey, List.mem_filter]

theorem probeOld_phrase (mf : MatchFilter) (ci : Bool) (hph : mf.isPhrase = true) :
    (mf.probeOld ci).wildcard = hasStar mf.phrase ∧ (mf.probeOld ci).op = mf.op ∧
    (∀ k ∈ (mf.probeOld ci).keys, k = mf.phrase) ∧ (hasStar mf.phrase = false → mf.phrase ∈ (mf.probeOld ci).keys) := by
  unfold MatchFilter.probeOld
  rw [if_pos hph]
  cases hasStar mf.phrase
  · exact ⟨rfl, rfl, fun _ => List.mem_singleton.mp, fun _ => List.mem_singleton_self _⟩
  · exact ⟨rfl, rfl, fun _ h => absurd h List.not_mem_nil, fun h => nomatch h⟩

theorem pass_probe (mf : MatchFilter) (ci allCols : Bool) (cols : Cols)
    (h : ((mf.probeNoBlankTest ci).op = .or → ∀ w ∈ mf.words, blankWord w = false) →
      passRotated allCols cols (mf.probeNoBlankTest ci) false = true ∧ passUnrotated cols (mf.probeNoBlankTest ci) false = true) :
    passRotated allCols cols (mf.probe ci) false = true ∧ passUnrotated cols (mf.probe ci) false = true := by
  unfold MatchFilter.probe
  by_cases hc : ((mf.probeNoBlankTest ci).op == .or && mf.words.any blankWord) = true
  · rw [if_pos hc]
    exact pass_of_found _ _ _ _ (.inr (.inl fun _ hk => absurd hk List.not_mem_nil))
  · rw [if_neg hc]
    exact h fun hop w hw => Bool.eq_false_iff.mpr fun hb =>
      hc ((Bool.and_eq_true _ _).mpr ⟨beq_iff_eq.mpr hop, List.any_eq_true.mpr ⟨w, hw, hb⟩⟩)

theorem matchRaw_and (mf : MatchFilter) (ci : Bool) (v : Bytes) (hop : mf.op = .and) (hph : mf.isPhrase = false)
    (h : matchRaw mf ci (.str v) = true) : ∀ w ∈ mf.words, subWord ci v w = true := by
  unfold matchRaw at h
  by_cases he : mf.words.isEmpty = true
  · exact fun w hw => absurd hw (List.isEmpty_iff.mp he ▸ List.not_mem_nil)
  · rw [if_neg he, hop, hph] at h
    exact List.all_eq_true.mp h

theorem matchRaw_or (mf : MatchFilter) (ci : Bool) (v : Bytes) (hop : mf.op = .or)
    (h : matchRaw mf ci (.str v) = true) : mf.words = [] ∨ ∃ w ∈ mf.words, subWord ci v w = true := by
  unfold matchRaw at h
  by_cases he : mf.words.isEmpty = true
  · exact .inl (List.isEmpty_iff.mp he)
  · rw [if_neg he, hop] at h
    exact .inr (List.any_eq_true.mp h)

theorem matchRaw_probeOld (mf : MatchFilter) (ci : Bool) (v : Bytes) (hph : mf.isPhrase = false)
    (h : matchRaw mf ci (.str v) = true) :
    (mf.probeOld ci).wildcard = true ∨ (∀ k ∈ (mf.probeOld ci).keys, subWord ci v k = true) ∨
      ((mf.probeOld ci).op = .or ∧ ∃ k ∈ (mf.probeOld ci).keys, subWord ci v k = true) := by
  obtain ⟨hw, hk, hopP⟩ := probeOld_words mf ci hph
  cases hop : mf.op with
  | and => exact .inr (.inl fun k hkk => matchRaw_and mf ci v hop hph h k ((hk k).1 hkk).1)
  | or =>
    rcases matchRaw_or mf ci v hop h with hw0 | ⟨w0, hw0, hsub⟩
    · exact .inr (.inl fun k hkk => absurd ((hk k).1 hkk).1 (hw0 ▸ List.not_mem_nil))
    · cases hs : hasStar w0 with
      | true => exact .inl (hw.trans (List.any_eq_true.mpr ⟨w0, hw0, hs⟩))
      | false =>
        have hw0k := (hk w0).2 ⟨hw0, hs⟩
        by_cases h1 : ((mf.probeOld ci).keys.length == 1) = true
        · -- a single key is probed as And: it is the matching word
          obtain ⟨a, ha⟩ := List.length_eq_one_iff.1 (beq_iff_eq.1 h1)
          refine .inr (.inl fun k hkk => ?_)
          rw [ha] at hkk hw0k
          cases List.mem_singleton.1 hkk; cases List.mem_singleton.1 hw0k; exact hsub
        · exact .inr (.inr ⟨by rw [hopP, if_neg h1, hop], w0, hw0k, hsub⟩)

/-- for an Or the found key must not be blank: a blank key has no words left to probe -/
theorem pass_wordsOfKeys (ci : Bool) (v : Bytes) (b : BloomLike) (cols : Cols) (allCols : Bool) (p : Probe)
    (hb : b.holds (addedKeys v)) (hc : some b ∈ cols) (hlow : ci = true → ∀ k ∈ p.keys, hasUpper k = false)
    (h : p.wildcard = true ∨ (∀ k ∈ p.keys, subWord ci v k = true) ∨
      (p.op = .or ∧ ∃ k ∈ p.keys, blankWord k = false ∧ subWord ci v k = true)) :
    passRotated allCols cols { p with keys := wordsOfKeys p.keys } false = true ∧
    passUnrotated cols { p with keys := wordsOfKeys p.keys } false = true := by
  have hE : ∀ k ∈ p.keys, subWord ci v k = true → ∀ x ∈ splitSpace k, x ≠ [] →
      needleInCols cols { p with keys := wordsOfKeys p.keys } x = true := fun k hk hsub x hx hne =>
    found_of_holds cols b _ x hb hc (pieces_added ci v k (fun e => hlow e k hk) hsub x hx hne)
  apply pass_of_found
  rcases h with h | h | ⟨hop, k, hk, hnb, hsub⟩
  · exact .inl (.inl h)
  · refine .inr (.inl fun x hx => ?_)
    obtain ⟨k, hk, hxk, hne⟩ := (mem_wordsOfKeys _ x).1 hx
    exact hE k hk (h k hk) x hxk hne
  · obtain ⟨s, hs, hsne⟩ := piece_of_not_blank k hnb
    exact .inr (.inr ⟨hop, s, (mem_wordsOfKeys _ s).2 ⟨k, hk, hs, hsne⟩, hE k hk hsub s hs hsne⟩)

end SigModel.Bloom
