/-
C01 lemmas, part c: the dictionary block (PackDictEnc / ReadDictEnc / deGetRec).  `readDict_packDict'` reads a packed
dictionary back as its words and the record table `tableOf`; the lemmas on `tableOf` say which word a record number
gets (that of the last entry listing it).  At the end a counting lemma on increasing lists, for the guard on the number
of records of one word.
-/
import SigModel.Model.Tlv
import SigModel.Lemmas.C01

namespace SigModel.Lemmas.C01
open SigModel.Tlv

def encEntry (e : Bytes × List Nat) : Bytes :=
  e.1 ++ leN 2 e.2.length ++ (e.2.take (e.2.length % 65536)).flatMap (leN 2)

theorem packDict_eq (d : Dict) : packDict d = leN 2 d.length ++ (d.map encEntry).flatten := rfl

def DictWordOk (w : Bytes) : Prop := ∀ r, dictWordLen (w ++ r) = .ok w.length

/-- the kinds `ReadDictEnc` knows -/
def dictKind : Val → Prop
  | .str _ | .bool _ | .backfill => True
  | .num k _ => k = .i64 ∨ k = .f64

theorem dictWordLen_str (s r : Bytes) (h : s.length < 65536) :
    dictWordLen (encTLV (.str s) ++ r) = .ok (3 + s.length) ∧
      dictWordLenOld (encTLV (.str s) ++ r) = .ok ((3 + s.length) % 65536) := by
  simp [dictWordLen, dictWordLenOld, encTLV_str_wf s h, rdN_leN 2 _ _ h]

theorem dictWordOk_of_wf (v : Val) (hk : dictKind v) (hw : wf v) : DictWordOk (encTLV v) := by
  intro r
  cases v with
  | str s => rw [(dictWordLen_str s r hw).1, encTLV_str_length s hw]
  | bool b => cases b <;> rfl
  | backfill => rfl
  | num k bits => rcases hk with rfl | rfl <;> rfl

def EntryOk (e : Bytes × List Nat) : Prop :=
  DictWordOk e.1 ∧ e.2.length < 65536 ∧ ∀ r ∈ e.2, r < 65536

/-- effect of one word's record numbers on `deRecToTlv` -/
def applyRecs (w rc : Nat) (rs : List Nat) (tbl : List Nat) : List Nat :=
  rs.foldl (fun t r => if r ≥ rc then t else t.set r w) tbl

theorem applyRecs_cons (w rc r : Nat) (rs tbl : List Nat) :
    applyRecs w rc (r :: rs) tbl = applyRecs w rc rs (if r ≥ rc then tbl else tbl.set r w) := rfl

/-- `deRecToTlv` after the entries `es`, the first of which is word number `w` -/
def tableOf (rc : Nat) : Nat → Dict → List Nat → List Nat
  | _, [], tbl => tbl
  | w, e :: es, tbl => tableOf rc (w + 1) es (applyRecs w rc e.2 tbl)

def anyBad (rc : Nat) (es : Dict) : Bool := es.any (fun e => e.2.any (fun r => decide (r ≥ rc)))

theorem anyBad_eq_false (rc : Nat) (es : Dict) : anyBad rc es = false ↔ ∀ e ∈ es, ∀ r ∈ e.2, r < rc := by
  simp only [anyBad, List.any_eq_false, Bool.not_eq_true, decide_eq_false_iff_not, ge_iff_le, Nat.not_le]

theorem readRecNums_ok (w rc : Nat) (rs : List Nat) (rest : Bytes) (tbl : List Nat) (bad : Bool)
    (h : ∀ r ∈ rs, r < 65536) :
    readRecNums w rc rs.length (rs.flatMap (leN 2) ++ rest) tbl bad
      = .ok (rest, applyRecs w rc rs tbl, bad || rs.any (fun r => decide (r ≥ rc))) := by
  induction rs generalizing tbl bad with
  | nil => simp [readRecNums, applyRecs]
  | cons r rs ih =>
    obtain ⟨hr, h'⟩ := List.forall_mem_cons.mp h
    by_cases hge : r ≥ rc <;> simp [readRecNums, rdN_leN 2 r _ hr, hge, ih _ _ h', applyRecs_cons]

theorem readWords_ok (rc : Nat) (es : Dict) (hes : ∀ e ∈ es, EntryOk e) (w : Nat) (rest : Bytes)
    (words : List Bytes) (tbl : List Nat) (bad : Bool) :
    readWords rc es.length w ((es.map encEntry).flatten ++ rest) words tbl bad
      = .ok { words := words ++ es.map (·.1), recToWord := tableOf rc w es tbl, badRec := bad || anyBad rc es } := by
  induction es generalizing w words tbl bad with
  | nil => simp [readWords, tableOf, anyBad]
  | cons e es ih =>
    obtain ⟨⟨hw, hl, hr⟩, hes'⟩ := List.forall_mem_cons.mp hes
    -- one round of the loop: the word (`hw`), its record count (`hl`), its record numbers (`hr`), then the rest
    simp [readWords, encEntry, Nat.mod_eq_of_lt hl, hw _, rdN_leN 2 _ _ hl, readRecNums_ok w rc e.2 _ _ _ hr, ih hes',
      tableOf, anyBad, Bool.or_assoc]

theorem readDict_packDict' (d : Dict) (rc : Nat) (hn : d.length < 65536) (hes : ∀ e ∈ d, EntryOk e) :
    readDict (packDict d) rc
      = .ok { words := d.map (·.1), recToWord := tableOf rc 0 d (List.replicate rc 0), badRec := anyBad rc d } := by
  have h := readWords_ok rc d hes 0 [] [] (List.replicate rc 0) false
  rw [List.append_nil] at h
  rw [packDict_eq, readDict, rdN_leN 2 _ _ hn]
  exact h

theorem applyRecs_length (w rc : Nat) (rs tbl : List Nat) : (applyRecs w rc rs tbl).length = tbl.length := by
  induction rs generalizing tbl with
  | nil => rfl
  | cons r rs ih => rw [applyRecs_cons, ih, apply_ite List.length, List.length_set, ite_self]

theorem applyRecs_not_mem (w rc : Nat) (rs tbl : List Nat) (r : Nat) (h : r ∉ rs) :
    (applyRecs w rc rs tbl)[r]? = tbl[r]? := by
  induction rs generalizing tbl with
  | nil => rfl
  | cons x rs ih =>
    obtain ⟨hx, hr⟩ := not_or.mp (mt List.mem_cons.mpr h)
    rw [applyRecs_cons, ih _ hr, apply_ite (·[r]?), List.getElem?_set_ne (Ne.symm hx), ite_self]

theorem applyRecs_mem (w rc : Nat) (rs tbl : List Nat) (r : Nat) (h : r ∈ rs) (hr : r < rc) (hl : tbl.length = rc) :
    (applyRecs w rc rs tbl)[r]? = some w := by
  induction rs generalizing tbl with
  | nil => exact absurd h List.not_mem_nil
  | cons x rs ih =>
    rw [applyRecs_cons]
    by_cases hm : r ∈ rs
    · -- the table after `x` alone is `applyRecs w rc [x] tbl` by evaluation
      exact ih _ hm ((applyRecs_length w rc [x] tbl).trans hl)
    · obtain rfl : x = r := ((List.mem_cons.mp h).resolve_right hm).symm
      rw [applyRecs_not_mem _ _ _ _ _ hm, if_neg (Nat.not_le.mpr hr), List.getElem?_set_self (hl ▸ hr)]

theorem tableOf_length (rc w : Nat) (es : Dict) (tbl : List Nat) : (tableOf rc w es tbl).length = tbl.length := by
  induction es generalizing w tbl with
  | nil => rfl
  | cons e es ih => simp [tableOf, ih, applyRecs_length]

theorem tableOf_not_mem (rc w : Nat) (es : Dict) (tbl : List Nat) (r : Nat) (h : ∀ e ∈ es, r ∉ e.2) :
    (tableOf rc w es tbl)[r]? = tbl[r]? := by
  induction es generalizing w tbl with
  | nil => rfl
  | cons e es ih =>
    obtain ⟨he, hes⟩ := List.forall_mem_cons.mp h
    rw [tableOf, ih _ _ hes, applyRecs_not_mem _ _ _ _ _ he]

theorem tableOf_getElem? (rc w : Nat) (d : Dict) (tbl : List Nat) (j : Nat) (hj : j < d.length) (r : Nat)
    (hm : r ∈ d[j].2) (hr : r < rc) (hl : tbl.length = rc)
    (hlast : ∀ j', j < j' → (hj' : j' < d.length) → r ∉ d[j'].2) :
    (tableOf rc w d tbl)[r]? = some (w + j) := by
  induction d generalizing w tbl j with
  | nil => nomatch hj
  | cons e es ih =>
    cases j with
    | zero =>
      -- the later entries leave `r` alone, the first one sets it
      refine (tableOf_not_mem rc (w + 1) es _ r fun x hx => ?_).trans (applyRecs_mem _ _ _ _ _ hm hr hl)
      obtain ⟨k, hk, rfl⟩ := List.getElem_of_mem hx
      exact hlast (k + 1) (Nat.succ_pos k) (Nat.succ_lt_succ hk)
    | succ j =>
      exact Nat.add_right_comm w 1 j ▸ ih (w + 1) _ j (Nat.lt_of_succ_lt_succ hj) hm ((applyRecs_length ..).trans hl)
        fun j' hlt hj' => hlast (j' + 1) (Nat.succ_lt_succ hlt) (Nat.succ_lt_succ hj')

theorem length_add_le_of_pairwise_lt (l : List Nat) (lo hi : Nat) (hp : l.Pairwise (· < ·)) (hlo : lo ≤ hi)
    (hb : ∀ r ∈ l, lo ≤ r ∧ r < hi) : l.length + lo ≤ hi := by
  induction l generalizing lo with
  | nil => exact (Nat.zero_add lo).symm ▸ hlo
  | cons a t ih =>
    obtain ⟨ha, ht⟩ := List.forall_mem_cons.mp hb
    obtain ⟨hlt, hp'⟩ := List.pairwise_cons.mp hp
    have := ih (a + 1) hp' ha.2 (fun r hr => ⟨hlt r hr, (ht r hr).2⟩)
    rw [List.length_cons, Nat.add_right_comm]
    exact Nat.le_trans (Nat.add_le_add_left (Nat.succ_le_succ ha.1) _) this

end SigModel.Lemmas.C01
