/-
C10 slice "walrecover", repairs c10-5 / c10-6 and the flush sub-steps (Model/WalRecover.lean: flushCrashed,
recoverNames, sysMetaAfterRecovery).
A crash between the system calls of the flushBlock inside RecoverWALData is repaired by the next restart; a crash inside
RecoverMNameWALData loses no metric name; the meta entry written by a segment's rotation stays the segment's entry
(`hMeta`: the history on which it did not, before c10-6).
-/
import SigModel.Lemmas.C10Rd
namespace SigModel.Lemmas.C10R
open SigModel.Wal (Dp)
open SigModel.WalRecover SigModel.Assoc

theorem flushTo_flushCrashed (m : Nat) (k : Key) (v : List Dp) (d : Disk) :
    flushTo k v (flushCrashed m k v d) = flushTo k v d := by
  unfold flushCrashed
  by_cases h1 : m ≤ 1
  · rw [if_pos h1]
  · rw [if_neg h1]
    by_cases h5 : m < 5
    · rw [if_pos h5]
      exact isPut_flushTo.put_put k v [] d
    · rw [if_neg h5]
      exact isPut_flushTo.put_put k v v d

theorem flush_crashed_recovery (m : Nat) (d : RawDir) (disk : Disk) :
    diskAfterFlushCrashedRecovery m d disk = applyFlushes disk (recover d) := by
  unfold diskAfterFlushCrashedRecovery recoverFlushCrashed
  cases h : recover d with
  | nil => rfl
  | cons kv rest =>
    obtain ⟨k, v⟩ := kv
    simp only [applyFlushes, List.foldl_cons]
    rw [flushTo_flushCrashed]

theorem recovery_flush_crash_safe (cap shard : Nat) (h : List Op) (m : Nat)
    (hs : (run cap shard h).seg < 18446744073709551616) (hb : (run cap shard h).blkNum < 18446744073709551616)
    (hi : (run cap shard h).walIdx < 18446744073709551616) (k : Key) :
    lookup k (diskAfterFlushCrashedRecovery m (dirAfter cap shard h) (durableBlocks cap shard h)) = specBlock cap shard h k := by
  rw [flush_crashed_recovery]
  exact recover_exact_full cap shard h hs hb hi k

def mnmLookup (seg : Nat) : List (Nat × List Nat) → Option (List Nat)
  | [] => none
  | (s, v) :: r => if s = seg then some v else mnmLookup seg r

theorem isGet_mnmLookup : IsGet mnmLookup some none :=
  ⟨fun _ => rfl, fun _ _ _ => if_pos rfl, fun _ _ _ _ h => if_neg h⟩

theorem isPut_writeMnm : IsPut writeMnm := ⟨fun _ _ => rfl, fun _ _ _ _ => if_pos rfl, fun _ _ _ _ _ h => if_neg h⟩

theorem mnmLookup_writeMnm (seg : Nat) (ns : List Nat) (l : List (Nat × List Nat)) :
    mnmLookup seg (writeMnm seg ns l) = some ns :=
  isGet_mnmLookup.put_self isPut_writeMnm seg ns l

theorem mnmNamesOf_eq_lookup (seg : Nat) (l : List (Nat × List Nat)) :
    mnmNamesOf seg l = (mnmLookup seg l).getD [] := by
  induction l with
  | nil => rfl
  | cons sv r ih =>
    obtain ⟨s, v⟩ := sv
    by_cases hs : s = seg
    · simp [mnmNamesOf, mnmLookup, hs]
    · simp [mnmNamesOf, mnmLookup, hs, ih]

theorem mnmNamesOf_writeMnm (seg : Nat) (ns : List Nat) (l : List (Nat × List Nat)) :
    mnmNamesOf seg (writeMnm seg ns l) = ns := by
  rw [mnmNamesOf_eq_lookup, mnmLookup_writeMnm]
  rfl

theorem mem_mergeNames (old new : List Nat) (n : Nat) : n ∈ mergeNames old new ↔ n ∈ old ∨ n ∈ new := by
  simp only [mergeNames, List.mem_append, List.mem_filter, List.contains_eq_mem, Bool.not_eq_true', decide_eq_false_iff_not]
  constructor
  · rintro (h | ⟨h, _⟩)
    · exact Or.inl h
    · exact Or.inr h
  · rintro (h | h)
    · exact Or.inl h
    · by_cases ho : n ∈ old
      · exact Or.inl ho
      · exact Or.inr ⟨h, ho⟩

theorem mergeNames_of_subset (old new : List Nat) (h : ∀ n ∈ new, n ∈ old) : mergeNames old new = old := by
  rw [mergeNames, List.filter_eq_nil_iff.mpr, List.append_nil]
  intro n hn
  rw [List.contains_iff_mem.mpr (h n hn)]
  decide

theorem mergeNames_idem (old new : List Nat) : mergeNames (mergeNames old new) new = mergeNames old new :=
  mergeNames_of_subset _ _ (fun n hn => (mem_mergeNames old new n).2 (Or.inr hn))

theorem recoverNames_spec (seg : Nat) (ns : List Nat) (mnm : List (Nat × List Nat)) :
    (recoverNames seg { wal := some ns, mnm := mnm }).wal = none ∧
    (recoverNames seg { wal := some ns, mnm := mnm }).mnm =
      (if ns.isEmpty then mnm else writeMnm seg (mergeNames (mnmNamesOf seg mnm) ns) mnm) := by
  cases ns <;> exact ⟨rfl, rfl⟩

theorem name_recovery_crash_safe (m seg : Nat) (nd : NameDisk) :
    namesAfterCrashedRecovery m seg nd = recoverNames seg nd := by
  obtain ⟨wal, mnm⟩ := nd
  cases m with
  | zero => rfl
  | succ m =>
    cases wal with
    | none => rfl
    | some ns =>
      cases ns with
      | nil =>
        show recoverNames seg (List.foldl applyNameAct _ (List.take (m + 1) [NameAct.delete])) = _
        rw [List.take_of_length_le (Nat.le_add_left 1 m)]
        rfl
      | cons n ns =>
        -- steps: [flush, delete]; after the flush alone the second restart writes the same names over the same file
        cases m with
        | zero =>
          show NameDisk.mk none (writeMnm seg (mergeNames (mnmNamesOf seg (writeMnm seg _ mnm)) _) (writeMnm seg _ mnm)) =
            ⟨none, writeMnm seg _ mnm⟩
          rw [mnmNamesOf_writeMnm, mergeNames_idem, isPut_writeMnm.put_put]
        | succ m =>
          show recoverNames seg (List.foldl applyNameAct _ (List.take (m + 2) [_, NameAct.delete])) = _
          rw [List.take_of_length_le (Nat.le_add_left 2 m)]
          rfl

theorem hasMetaEntry_of_match (l : List MetaEntry) (e : MetaEntry) (shard seg : Nat)
    (he : (e.shard == shard && e.seg == seg) = true) :
    hasMetaEntry l e = l.any (fun x => x.shard == shard && x.seg == seg) := by
  obtain ⟨h1, h2⟩ := Bool.and_eq_true_iff.mp he
  rw [hasMetaEntry, eq_of_beq h1, eq_of_beq h2]

theorem meta_rotation_entry_final (s : Sys) (shard seg : Nat)
    (hrot : (s.metaFile.filter (fun x => x.shard == shard && x.seg == seg)) ≠ []) :
    metaEntryOf (sysMetaAfterRecovery s) shard seg = metaEntryOf s.metaFile shard seg := by
  have hany : s.metaFile.any (fun x => x.shard == shard && x.seg == seg) = true :=
    (Bool.eq_false_or_eq_true _).resolve_right fun h =>
      hrot (List.filter_eq_nil_iff.mpr (List.any_eq_false.mp h))
  have hnil : (s.metaWal.filter (fun e => !hasMetaEntry s.metaFile e)).filter
      (fun x => x.shard == shard && x.seg == seg) = [] := by
    refine List.filter_eq_nil_iff.mpr fun e he hp => ?_
    have h2 := (List.mem_filter.mp he).2
    rw [hasMetaEntry_of_match _ e shard seg hp, hany] at h2
    exact Bool.noConfusion h2
  unfold sysMetaAfterRecovery metaEntryOf
  rw [List.filter_append, hnil, List.append_nil]

theorem meta_wal_entry_recovered (s : Sys) (shard seg : Nat)
    (hrot : (s.metaFile.filter (fun x => x.shard == shard && x.seg == seg)) = []) :
    metaEntryOf (sysMetaAfterRecovery s) shard seg = metaEntryOf s.metaWal shard seg := by
  have hany : s.metaFile.any (fun x => x.shard == shard && x.seg == seg) = false :=
    List.any_eq_false.mpr (List.filter_eq_nil_iff.mp hrot)
  unfold sysMetaAfterRecovery metaEntryOf
  rw [List.filter_append, hrot, List.nil_append, List.filter_filter]
  refine congrArg List.getLast? (List.filter_congr fun e _ => ?_)
  cases hp : (e.shard == shard && e.seg == seg) with
  | false => rfl
  | true =>
    rw [hasMetaEntry_of_match _ e shard seg hp, hany]
    rfl

/-- at the crash the meta WAL holds an older entry of the rotated segment -/
def hMeta : List SysOp :=
  [.shard 0 (.ingest 0 ⟨1, 1, 0⟩ false), .metaFlush, .shard 0 (.ingest 0 ⟨50, 1, 0⟩ false), .shard 0 .segRotate]

end SigModel.Lemmas.C10R
