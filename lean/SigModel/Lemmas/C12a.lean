/- C12: insertion sort (`isort`, `sortN`), `uniq`, and `dedupBy`, which keeps the first item of each key. -/
import SigModel.Model.Trace
import SigModel.Lemmas.InsertSort

namespace SigModel.Lemmas.C12
open SigModel.Trace List

theorem inserts {α} (le : α → α → Bool) : InsertSort.Inserts (fun a b => ¬ le a b) (insertBy le) :=
  ⟨fun _ => rfl, fun _ _ _ => (ite_not ..).symm⟩

theorem sorts {α} (le : α → α → Bool) : InsertSort.SortsBy (insertBy le) (isort le) := ⟨rfl, fun _ _ => rfl⟩

theorem isort_perm {α} (le : α → α → Bool) (l : List α) : isort le l ~ l := (sorts le).perm (inserts le) l

theorem mem_isort {α} {le : α → α → Bool} {l : List α} {a : α} : a ∈ isort le l ↔ a ∈ l :=
  (isort_perm le l).mem_iff

theorem length_isort {α} (le : α → α → Bool) (l : List α) : (isort le l).length = l.length :=
  (isort_perm le l).length_eq

theorem isort_pairwise {α} (le : α → α → Bool)
    (trans : ∀ a b c, le a b → le b c → le a c) (total : ∀ a b, le a b || le b a)
    (l : List α) : (isort le l).Pairwise (fun x y => le x y) :=
  (sorts le).pairwise (inserts le) (fun a b h => ((Bool.or_eq_true _ _).mp (total a b)).resolve_left h)
    (fun a b h => have := Decidable.not_not.mp h; ⟨this, fun c => trans a b c this⟩) l

theorem sortN_perm (l : List Nat) : sortN l ~ l := isort_perm _ l

theorem sortN_length (l : List Nat) : (sortN l).length = l.length := (sortN_perm l).length_eq

theorem mem_sortN {l : List Nat} {a : Nat} : a ∈ sortN l ↔ a ∈ l := (sortN_perm l).mem_iff

theorem sortN_sorted (l : List Nat) : (sortN l).Pairwise (· ≤ ·) :=
  (isort_pairwise (fun a b : Nat => decide (a ≤ b))
    (fun _ _ _ hab hbc => decide_eq_true (Nat.le_trans (of_decide_eq_true hab) (of_decide_eq_true hbc)))
    (fun a b => Bool.or_eq_true_iff.mpr ((Nat.le_total a b).imp decide_eq_true decide_eq_true)) l).imp of_decide_eq_true

theorem sorted_unique {l₁ l₂ : List Nat} (h₁ : l₁.Pairwise (· ≤ ·)) (h₂ : l₂.Pairwise (· ≤ ·))
    (p : l₁ ~ l₂) : l₁ = l₂ :=
  Perm.eq_of_pairwise (le := (· ≤ ·)) (fun _ _ _ _ hab hba => Nat.le_antisymm hab hba) h₁ h₂ p

theorem sortN_congr {l₁ l₂ : List Nat} (p : l₁ ~ l₂) : sortN l₁ = sortN l₂ :=
  sorted_unique (sortN_sorted _) (sortN_sorted _) ((sortN_perm l₁).trans (p.trans (sortN_perm l₂).symm))

theorem sortN_of_sorted {l : List Nat} (h : l.Pairwise (· ≤ ·)) : sortN l = l :=
  sorted_unique (sortN_sorted _) h (sortN_perm l)

theorem sortN_idem (l : List Nat) : sortN (sortN l) = sortN l := sortN_of_sorted (sortN_sorted l)

theorem mem_uniq {α} [BEq α] [LawfulBEq α] {l : List α} {a : α} : a ∈ uniq l ↔ a ∈ l := by
  fun_induction uniq l with
  | case1 => exact Iff.rfl
  | case2 b l hc ih =>
    exact ih.trans ⟨mem_cons_of_mem b, fun h => (mem_cons.1 h).elim (fun e => e ▸ contains_iff_mem.1 hc) id⟩
  | case3 b l hc ih => rw [mem_cons, mem_cons, ih]

theorem uniq_nodup {α} [BEq α] [LawfulBEq α] (l : List α) : (uniq l).Nodup := by
  fun_induction uniq l with
  | case1 => exact nodup_nil
  | case2 b l hc ih => exact ih
  | case3 b l hc ih => exact nodup_cons.2 ⟨fun h => hc (contains_iff_mem.2 (mem_uniq.1 h)), ih⟩

/-- the common shape of the two models of `dropRedeliveredSpans`: `Trace.dedupAux` (key = span id) and
`TraceE2E.dedupAux` (key = (trace id, span id)) -/
def dedupBy {α κ} [BEq κ] (key : α → κ) (seen : List κ) : List α → List α
  | [] => []
  | a :: l => if seen.contains (key a) then dedupBy key seen l else a :: dedupBy key (key a :: seen) l

section
variable {α κ : Type} [BEq κ] [LawfulBEq κ] (key : α → κ)

theorem dedupBy_mem (l : List α) (seen : List κ) (x : α) : x ∈ dedupBy key seen l → x ∈ l ∧ key x ∉ seen := by
  fun_induction dedupBy key seen l with
  | case1 => exact fun h => absurd h not_mem_nil
  | case2 seen a l hs ih => exact fun h => ⟨mem_cons_of_mem a (ih h).1, (ih h).2⟩
  | case3 seen a l hs ih =>
    intro h
    rcases mem_cons.1 h with rfl | h
    · exact ⟨mem_cons_self, fun hm => hs (contains_iff_mem.2 hm)⟩
    · exact ⟨mem_cons_of_mem a (ih h).1, fun hx => (ih h).2 (mem_cons_of_mem _ hx)⟩

theorem dedupBy_nodup (l : List α) (seen : List κ) : ((dedupBy key seen l).map key).Nodup := by
  fun_induction dedupBy key seen l with
  | case1 => exact nodup_nil
  | case2 seen a l hs ih => exact ih
  | case3 seen a l hs ih =>
    refine nodup_cons.2 ⟨fun hm => ?_, ih⟩
    obtain ⟨x, hx, e⟩ := mem_map.1 hm
    exact (dedupBy_mem key l _ x hx).2 (e ▸ mem_cons_self)

theorem dedupBy_of_nodup (l : List α) (seen : List κ) : (l.map key).Nodup → (∀ a ∈ l, key a ∉ seen) →
    dedupBy key seen l = l := by
  fun_induction dedupBy key seen l with
  | case1 => exact fun _ _ => rfl
  | case2 seen a l hs ih => exact fun _ h => absurd (contains_iff_mem.1 hs) (h a mem_cons_self)
  | case3 seen a l hs ih =>
    intro hn h
    have ⟨h1, h2⟩ := nodup_cons.1 hn
    refine congrArg (a :: ·) (ih h2 fun x hx hm => ?_)
    rcases mem_cons.1 hm with e | hm
    · exact h1 (e ▸ mem_map_of_mem hx)
    · exact h x (mem_cons_of_mem _ hx) hm

theorem dedupBy_drop_later (a : List α) (seen : List κ) (r : α) (b : List α) :
    key r ∈ a.map key ++ seen → dedupBy key seen (a ++ r :: b) = dedupBy key seen (a ++ b) := by
  fun_induction dedupBy key seen a with
  | case1 seen => exact fun h => if_pos (contains_iff_mem.2 h)
  | case2 seen y a hs ih =>
    intro h
    have h' : key r ∈ a.map key ++ seen :=
      (mem_cons.1 h).elim (fun e => mem_append_right _ (e ▸ contains_iff_mem.1 hs)) id
    exact (if_pos hs).trans ((ih h').trans (if_pos hs).symm)
  | case3 seen y a hs ih =>
    exact fun h => (if_neg hs).trans ((congrArg (y :: ·) (ih (perm_middle.mem_iff.2 h))).trans (if_neg hs).symm)

end

end SigModel.Lemmas.C12
