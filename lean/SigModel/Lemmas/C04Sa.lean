/-
The algebra of the min / max cells under exact arithmetic.  `reduceMinMax exact isMin` — `cvMin` for `isMin = true`,
`cvMax` for `false` — is associative and commutative with identity `invalid` on cells that are not `backfill` (SegStats
cells never are); the laws are proved once for both values of `isMin` from those of the component operations
`pickI` / `pickQ` / `pickS`.  A running (min, max) pair that has seen the same values stays compatible (`Compat`):
merging the max of the other side into the min changes nothing.  Core Lean only.
-/
import SigModel.Model.Stats

namespace SigModel.Stats

@[simp] theorem exact_apply (q : Rat) : exact q = q := rfl

theorem pickI_comm (m : Bool) (a b : Int) : pickI m a b = pickI m b a := by
  unfold pickI
  rw [Int.min_comm, Int.max_comm]

theorem pickI_assoc (m : Bool) (a b c : Int) : pickI m (pickI m a b) c = pickI m a (pickI m b c) := by
  unfold pickI; split
  · exact Int.min_assoc a b c
  · exact Int.max_assoc a b c

theorem pickQ_comm (m : Bool) (a b : Rat) : pickQ m a b = pickQ m b a := by
  unfold pickQ; split
  · exact Std.Commutative.comm a b
  · simp only [Rat.max_def]
    split <;> split
    · exact Rat.le_antisymm ‹_› ‹_›
    · rfl
    · rfl
    · exact absurd (Rat.le_total.resolve_left ‹_›) ‹_›

/-- `r` may be a linear order, strict or not: the min and the max of `Rat` and of `Str` are four such choices -/
theorem sel_assoc {α : Type} {r : α → α → Prop} [DecidableRel r] (T : ∀ {a b c}, r a b → r b c → r a c)
    (N : ∀ {a b c}, ¬ r a b → ¬ r b c → ¬ r a c) (a b c : α) :
    (if r (if r a b then a else b) c then (if r a b then a else b) else c) =
      if r a (if r b c then b else c) then a else (if r b c then b else c) := by
  by_cases h1 : r a b <;> by_cases h2 : r b c
  · rw [if_pos h1, if_pos h2, if_pos h1, if_pos (T h1 h2)]
  · rw [if_pos h1, if_neg h2]
  · rw [if_neg h1, if_pos h2, if_neg h1]
  · rw [if_neg h1, if_neg h2, if_neg (N h1 h2)]

theorem pickQ_assoc (m : Bool) (a b c : Rat) : pickQ m (pickQ m a b) c = pickQ m a (pickQ m b c) := by
  unfold pickQ; split
  · exact Std.Associative.assoc a b c
  -- `max a b = if a ≤ b then b else a` chooses by `≥` with the arguments exchanged
  · exact (sel_assoc (r := fun x y => y ≤ x) (fun h1 h2 => Rat.le_trans h2 h1)
      (fun h1 h2 h3 => h1 (Rat.le_trans (Rat.le_total.resolve_left h2) h3)) c b a).symm

theorem pickQ_cast (m : Bool) (a b : Int) : ((pickI m a b : Int) : Rat) = pickQ m a b := by
  unfold pickI pickQ; split
  · simp only [Int.min_def, Rat.min_def, Rat.intCast_le_intCast]; split <;> rfl
  · simp only [Int.max_def, Rat.max_def, Rat.intCast_le_intCast]; split <;> rfl

theorem pickS_assoc (m : Bool) (a b c : Str) : pickS m (pickS m a b) c = pickS m a (pickS m b c) := by
  unfold pickS; split
  · exact sel_assoc (r := (· < ·)) List.lt_trans (fun h1 h2 => List.le_trans h2 h1) a b c
  · exact sel_assoc (r := fun x y => y < x) (fun h1 h2 => List.lt_trans h2 h1) (fun h1 h2 => List.le_trans h1 h2) a b c

theorem pickS_comm (m : Bool) (a b : Str) : pickS m a b = pickS m b a := by
  unfold pickS strMin strMax
  by_cases h1 : a < b <;> by_cases h2 : b < a <;> simp only [h1, h2, if_true, if_false, ite_self]
  · exact absurd h2 (List.lt_asymm h1)
  · exact List.le_antisymm h1 h2

def cvMin (a b : CV) : CV := reduceMinMax exact true a b
def cvMax (a b : CV) : CV := reduceMinMax exact false a b

def CV.notBackfill : CV → Prop
  | .backfill => False
  | _ => True

theorem cvMin_invalid_left (a : CV) : cvMin .invalid a = a := rfl
theorem cvMax_invalid_left (a : CV) : cvMax .invalid a = a := rfl

theorem reduceMinMax_invalid_right (m : Bool) {a : CV} (h : a.notBackfill) : reduceMinMax exact m a .invalid = a := by
  cases a <;> cases h <;> rfl

theorem reduceMinMax_notBackfill (m : Bool) {a b : CV} (hb : b.notBackfill) : (reduceMinMax exact m a b).notBackfill := by
  cases a with
  | invalid | backfill => exact hb
  | _ => cases b <;> exact trivial

theorem reduceMinMax_comm (m : Bool) {a b : CV} (ha : a.notBackfill) (hb : b.notBackfill) :
    reduceMinMax exact m a b = reduceMinMax exact m b a := by
  cases a <;> cases ha <;> cases b <;> cases hb <;>
    dsimp only [reduceMinMax, exact_apply] <;>
    simp only [pickI_comm m, pickQ_comm m, pickS_comm m]

theorem reduceMinMax_assoc (m : Bool) (a b c : CV) :
    reduceMinMax exact m (reduceMinMax exact m a b) c = reduceMinMax exact m a (reduceMinMax exact m b c) := by
  cases a with
  | invalid | backfill => rfl
  | _ =>
    cases b with
    | invalid | backfill => rfl
    | _ =>
      cases c <;>
        dsimp only [reduceMinMax, exact_apply] <;>
        simp only [pickQ_cast, pickI_assoc, pickQ_assoc, pickS_assoc]

inductive Compat : CV → CV → Prop
  | invalid : Compat .invalid .invalid
  | int {a b : Int} : a ≤ b → Compat (.int a) (.int b)
  | flt {a b : Rat} : a ≤ b → Compat (.flt a) (.flt b)
  | str {a b : Str} : a ≤ b → Compat (.str a) (.str b)

theorem Compat.eqs {mn mx : CV} (h : Compat mn mx) : cvMin mn mx = mn ∧ cvMax mn mx = mx := by
  -- `if_pos rfl` / `if_neg Bool.false_ne_true` read `pick· true` as the min and `pick· false` as the max; leaving that to
  -- the unifier is slow to check
  cases h with
  | invalid => exact ⟨rfl, rfl⟩
  | int h =>
    exact ⟨congrArg CV.int ((if_pos rfl).trans (Int.min_eq_left h)),
      congrArg CV.int ((if_neg Bool.false_ne_true).trans (Int.max_eq_right h))⟩
  | flt h =>
    exact ⟨congrArg CV.flt ((if_pos rfl).trans (if_pos h)), congrArg CV.flt ((if_neg Bool.false_ne_true).trans (if_pos h))⟩
  | str h =>
    exact ⟨congrArg CV.str ((pickS_comm true _ _).trans ((if_pos rfl).trans (if_neg h))),
      congrArg CV.str ((if_neg Bool.false_ne_true).trans (if_neg h))⟩

theorem pickI_le (a b k : Int) : pickI true a k ≤ pickI false b k := by
  rw [pickI, pickI, if_pos rfl, if_neg Bool.false_ne_true]
  exact Int.le_trans (Int.min_le_right a k) (Int.le_max_right b k)

theorem pickQ_le (a b k : Rat) : pickQ true a k ≤ pickQ false b k := by
  rw [pickQ, pickQ, if_pos rfl, if_neg Bool.false_ne_true, Rat.max_def]
  by_cases h : b ≤ k
  · rw [if_pos h]; exact Std.min_le_right
  · rw [if_neg h]; exact Rat.le_trans Std.min_le_right (Rat.le_total.resolve_left h)

theorem pickS_le (a b k : Str) : pickS true a k ≤ pickS false b k := by
  rw [pickS, pickS, if_pos rfl, if_neg Bool.false_ne_true, strMin, strMax]
  by_cases h1 : a < k <;> by_cases h2 : k < b
  · rw [if_pos h1, if_pos h2]; exact List.lt_asymm (List.lt_trans h1 h2)
  · rw [if_pos h1, if_neg h2]; exact List.lt_asymm h1
  · rw [if_neg h1, if_pos h2]; exact List.lt_asymm h2
  · rw [if_neg h1, if_neg h2]; exact List.lt_irrefl k

theorem compat_step (mn mx c : CV) (h3 : c.notBackfill) (h : Compat mn mx) : Compat (cvMin mn c) (cvMax mx c) := by
  cases h <;> cases c <;> cases h3
  -- the pair was invalid / int / flt / str, and in each case `c` is invalid / int / flt / str: a number joining strings
  -- starts a new pair; text joining numbers and `invalid` change nothing
  · exact .invalid
  · exact .int (Int.le_refl _)
  · exact .flt Rat.le_refl
  · exact .str (List.le_refl _)
  · exact .int ‹_›
  · exact .int (pickI_le ..)
  · exact .flt (pickQ_le ..)
  · exact .int ‹_›
  · exact .flt ‹_›
  · exact .flt (pickQ_le ..)
  · exact .flt (pickQ_le ..)
  · exact .flt ‹_›
  · exact .str ‹_›
  · exact .int (Int.le_refl _)
  · exact .flt Rat.le_refl
  · exact .str (pickS_le _ _ _)

end SigModel.Stats
