/- The state multiplexer (Model/QMux.lean): what `handle` and `loopTail` do to the state and to the number of
`close`s, and the invariant of a run that follows from it.  At the end, the loop of the seeded bug C17-4, which
`Props.C17.Mux.no_close_on_timeout_variant_violates` evaluates. -/
import SigModel.Model.QMux

namespace SigModel.Lemmas.C17g
open SigModel.Model.QMux

def closes (o : List Out) : Nat := (o.filter Out.isClose).length

theorem closes_append (a b : List Out) : closes (a ++ b) = closes a + closes b := by
  unfold closes
  rw [List.filter_append, List.length_append]

/-- an over-approximation of the pairs `handle s e` reaches (`handle_spec`): all that the invariant needs -/
inductive Handled (s : St) : St × List Out → Prop
  | keep {md td : Bool} (o : List Out) (ho : closes o = 0) : Handled s ({ s with mainDone := md, tcDone := td }, o)
  | shut {md td : Bool} (o : List Out) (ho : closes o = 0) :
    Handled s ({ s with mainDone := md, tcDone := td, closedOutput := true }, o ++ [.close])

theorem Handled.tcPresent {s : St} {p : St × List Out} (h : Handled s p) : p.1.tcPresent = s.tcPresent := by
  cases h <;> rfl

theorem handled_merged (s : St) (tc : Bool) : Handled s (mergedIfAll (setDone s tc)) := by
  unfold mergedIfAll
  cases tc <;> exact iteInduction (fun _ => .keep _ rfl) fun _ => .keep _ rfl

theorem handle_spec (s : St) (e : Ev) : Handled s (handle s e) := by
  obtain ⟨tc, msg⟩ := e
  cases msg
  case waiting | ready | running | restart | update => exact .keep _ rfl
  case cancelled | timeout | error => exact .shut [_] rfl
  case closed => exact iteInduction (fun _ => .keep _ rfl) fun _ => .shut [_] rfl
  case completeWs => exact handled_merged s tc
  case completeNone =>
    cases tc
    · exact .shut [_] rfl
    · exact handled_merged s true
  case completeHttp =>
    cases tc
    · exact iteInduction (fun _ => .shut [_] rfl) fun _ => .keep _ rfl
    · exact handled_merged s true

theorem loopTail_tcPresent (p : St × List Out) : (loopTail p).1.tcPresent = p.1.tcPresent := by
  unfold loopTail
  cases p.1.closedOutput <;> cases allDone p.1 <;> rfl

theorem step_ended (s : St) (e : Ev) (he : s.ended = true) : step s e = (s, []) := by
  rw [step, if_pos he]

theorem step_cases (s : St) (e : Ev) : step s e = (s, []) ∨ (s.ended = false ∧ step s e = loopTail (handle s e)) := by
  unfold step
  cases s.ended
  · cases !deliverable s e
    · exact .inr ⟨rfl, rfl⟩
    · exact .inl rfl
  · exact .inl rfl

theorem step_ended_of_closed (s : St) (e : Ev) (hd : deliverable s e = true)
    (h : (handle s e).1.closedOutput = true) : (step s e).1.ended = true := by
  by_cases he : s.ended = true
  · rwa [step_ended s e he]
  rw [step, if_neg he, hd, Bool.not_true, if_neg Bool.false_ne_true, loopTail, h, Bool.or_true, if_pos rfl, if_pos rfl]

theorem step_tcPresent (s : St) (e : Ev) : (step s e).1.tcPresent = s.tcPresent := by
  rcases step_cases s e with h | ⟨_, h⟩
  · rw [h]
  · rw [h, loopTail_tcPresent, (handle_spec s e).tcPresent]

/-- the invariant of a run at the loop head -/
structure Good (s : St) (acc : List Out) : Prop where
  sync : s.ended = s.closedOutput
  count : closes acc = (if s.ended then 1 else 0)
  last : s.ended = true → acc.getLast? = some Out.close
  done : allDone s = true → s.ended = true

theorem good_init (tc : Bool) : Good (init tc) [] :=
  ⟨rfl, rfl, fun h => (nomatch h), fun h => (nomatch h)⟩

theorem good_stop {tp md td : Bool} {acc o : List Out} (ha : closes acc = 0) (ho : closes o = 0) :
    Good ⟨tp, md, td, true, true⟩ (acc ++ (o ++ [.close])) :=
  ⟨rfl, by rw [closes_append, closes_append, ha, ho]; rfl, fun _ => by rw [← List.append_assoc, List.getLast?_concat],
    fun _ => rfl⟩

theorem good_step (s : St) (acc : List Out) (e : Ev) (h : Good s acc) :
    Good (step s e).1 (acc ++ (step s e).2) := by
  rcases step_cases s e with hs | ⟨he, hs⟩
  · rwa [hs, List.append_nil]
  have hc : s.closedOutput = false := h.sync ▸ he
  have ha : closes acc = 0 := by rw [h.count, he]; rfl
  have hh := handle_spec s e
  rw [hs]
  generalize handle s e = p at hh ⊢
  cases hh with
  | shut o ho =>
    dsimp only [loopTail]
    rw [Bool.or_true, if_pos rfl, if_pos rfl]
    exact good_stop ha ho
  | keep o ho =>
    dsimp only [loopTail]
    rw [hc, Bool.or_false, if_neg Bool.false_ne_true]
    refine iteInduction (motive := fun p : St × List Out => Good p.1 (acc ++ p.2)) (fun _ => good_stop ha ho)
      fun hd => ⟨he, ?_, fun h' => absurd (he ▸ h') Bool.false_ne_true, fun h' => absurd h' hd⟩
    rw [closes_append, ha, ho, he]
    rfl

theorem good_runFrom (evs : List Ev) : ∀ (s : St) (acc : List Out), Good s acc →
    Good (runFrom s acc evs).1 (runFrom s acc evs).2 := by
  induction evs with
  | nil => exact fun _ _ h => h
  | cons e r ih => exact fun s acc h => ih _ _ (good_step s acc e h)

theorem good_run (tc : Bool) (evs : List Ev) : Good (run tc evs).1 (run tc evs).2 :=
  good_runFrom evs _ _ (good_init tc)

theorem runFrom_ended (evs : List Ev) : ∀ (s : St) (acc : List Out), s.ended = true →
    (runFrom s acc evs).1.ended = true := by
  induction evs with
  | nil => exact fun _ _ h => h
  | cons e r ih =>
    intro s acc h
    rw [runFrom, step_ended s e h]
    exact ih s _ h

theorem runFrom_tcPresent (evs : List Ev) : ∀ (s : St) (acc : List Out),
    (runFrom s acc evs).1.tcPresent = s.tcPresent := by
  induction evs with
  | nil => exact fun _ _ => rfl
  | cons e r ih => exact fun s acc => (ih _ _).trans (step_tcPresent s e)

/-- the hypothesis on `handle` holds of CANCELLED, TIMEOUT and ERROR -/
theorem runFrom_closing (evs : List Ev) : ∀ (s : St) (acc : List Out),
    (∃ e ∈ evs, deliverable s e = true ∧ ∀ s', (handle s' e).1.closedOutput = true) →
    (runFrom s acc evs).1.ended = true := by
  induction evs with
  | nil => exact fun _ _ h => h.elim fun _ h => nomatch h.1
  | cons e r ih =>
    intro s acc ⟨x, hx, hd, hc⟩
    rcases List.mem_cons.mp hx with rfl | hx
    · exact runFrom_ended r _ _ (step_ended_of_closed s x hd (hc s))
    · refine ih _ _ ⟨x, hx, ?_, hc⟩
      rw [← hd, deliverable, deliverable, step_tcPresent]

/-! the variant the seeded bug C17-4 produces: `case query.TIMEOUT:` forwards the envelope but does not close -/

def handleNoCloseOnTimeout (s : St) (e : Ev) : St × List Out :=
  match e.msg with
  | .timeout => forward s "TIMEOUT" e.tc
  | _ => handle s e

def stepNoCloseOnTimeout (s : St) (e : Ev) : St × List Out :=
  if s.ended then (s, [])
  else if !deliverable s e then (s, [])
  else loopTail (handleNoCloseOnTimeout s e)

def runFromNoCloseOnTimeout (s : St) (acc : List Out) : List Ev → St × List Out
  | [] => (s, acc)
  | e :: r => runFromNoCloseOnTimeout (stepNoCloseOnTimeout s e).1 (acc ++ (stepNoCloseOnTimeout s e).2) r

end SigModel.Lemmas.C17g
