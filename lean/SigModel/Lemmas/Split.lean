/-
`strings.Split` on a one-element separator is written out again in several models (`Path.splitSlash`, `Promql.splitOn`,
`OtsdbQuery.splitOn`, `WalRecover.splitU`, `Bloom.splitSpace`; `Tenant.splitOn` too, which no proof opens), in two
shapes.  Each is core's `List.splitOn` (`eq_splitOn`: three equations, which hold of both shapes), so that core's
`List.splitOn_*` lemmas speak of the models; `strings.Join` likewise is `List.intercalate`.  Two facts that core does
not have follow.  Core Lean only.
-/
namespace SigModel.Lemmas.Split
open List

variable {α : Type} [BEq α] [LawfulBEq α]

/-- `f` splits at `sep`: it agrees with `List.splitOn` on `[]`, a separator opens a new piece, any other element joins
the first piece (stated on a result `s :: ss` of the tail, so that a dead `[]` branch of `f` does not matter) -/
theorem eq_splitOn {sep : α} {f : List α → List (List α)} (nil : f [] = [[]])
    (atSep : ∀ r s ss, f r = s :: ss → f (sep :: r) = [] :: s :: ss)
    (other : ∀ c r s ss, c ≠ sep → f r = s :: ss → f (c :: r) = (c :: s) :: ss) : ∀ l, f l = l.splitOn sep
  | [] => nil
  | c :: r => by
    obtain ⟨s, ss, e⟩ := exists_cons_of_ne_nil (splitOn_ne_nil sep r)
    have ih := (eq_splitOn nil atSep other r).trans e
    rw [splitOn_cons_eq_if_modifyHead, e]
    by_cases h : c = sep
    · rw [h, atSep r s ss ih, if_pos (beq_self_eq_true sep)]
    · rw [other c r s ss h ih, if_neg (by simpa using h)]; rfl

omit [BEq α] [LawfulBEq α] in
theorem eq_intercalate {sep : α} {g : List (List α) → List α} (nil : g [] = []) (one : ∀ x, g [x] = x)
    (more : ∀ x y r, g (x :: y :: r) = x ++ sep :: g (y :: r)) : ∀ l, g l = [sep].intercalate l
  | [] => nil
  | [x] => (one x).trans intercalate_singleton.symm
  | x :: y :: r => by
    rw [more, eq_intercalate nil one more (y :: r), intercalate_cons_cons, append_assoc, singleton_append]

/-- no piece contains the separator -/
theorem not_mem_of_mem_splitOn {sep : α} : ∀ {l : List α} {p : List α}, p ∈ l.splitOn sep → sep ∉ p
  | [], p, h => by rw [splitOn_nil, mem_singleton] at h; exact h ▸ not_mem_nil
  | c :: r, p, h => by
    obtain ⟨s, ss, e⟩ := exists_cons_of_ne_nil (splitOn_ne_nil sep r)
    have ih : ∀ q ∈ s :: ss, sep ∉ q := fun q hq => not_mem_of_mem_splitOn (e ▸ hq)
    rw [splitOn_cons_eq_if_modifyHead, e] at h
    split at h
    · exact (mem_cons.mp h).elim (· ▸ not_mem_nil) (ih p)
    · next hc =>
      -- the pieces are `(c :: s) :: ss`
      rcases mem_cons.mp h with rfl | h
      · exact fun hm => (mem_cons.mp hm).elim (fun e' => hc (beq_iff_eq.mpr e'.symm)) (ih s mem_cons_self)
      · exact ih p (mem_cons_of_mem _ h)

omit [LawfulBEq α] in
theorem length_splitOn {sep : α} : ∀ l : List α, (l.splitOn sep).length = l.count sep + 1
  | [] => rfl
  | c :: r => by
    rw [splitOn_cons_eq_if_modifyHead, count_cons]
    split <;> simp [length_splitOn r, *]

end SigModel.Lemmas.Split
