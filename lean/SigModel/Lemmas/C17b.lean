import SigModel.Lemmas.C17
/-!
Invariants of the query tables (C17), each checked on the elementary moves (`Moves`, Lemmas/C17.lean): the queue
bound, the running table is a map, `MAX_RUNNING_QUERIES` is constant, the lifecycle invariant `Inv` (who is armed,
which objects are where), the stability of a terminal state `TermAt` and the admission bound; then, for the
operations that admit only fresh objects, the absence of blocked sends.
-/
namespace SigModel.Lemmas.C17
open SigModel.QTable

theorem Moves.waiting_bounded {k : Nat} {s s' : St} (h : Moves k s s') :
    s.waiting.length ≤ maxWaiting → s'.waiting.length ≤ maxWaiting := by
  induction h with
  | trans _ _ ih1 ih2 => exact fun h => ih2 (ih1 h)
  | shrink s s' _ _ _ hw => exact Nat.le_trans hw.length_le
  | erase | update | admitNew => exact id
  | runHead s r rs b hw _ =>
    rw [hw]
    exact Nat.le_trans (Nat.le_succ _)
  | enqueue s r _ _ _ _ hl => exact fun _ => Nat.le_trans (Nat.le_of_eq (List.length_append ..)) hl

theorem Moves.nodup {k : Nat} {s s' : St} (h : Moves k s s') :
    (s.running.map Prod.fst).Nodup → (s'.running.map Prod.fst).Nodup := by
  induction h with
  | trans _ _ ih1 ih2 => exact fun h => ih2 (ih1 h)
  | shrink s s' _ _ hr _ => exact fun h => hr ▸ h
  | erase s q => exact nodup_keys_erase q
  | update s q r r' => exact nodup_keys_put q r'
  | admitNew s q r => exact fun h => nodup_keys_put _ _ (nodup_keys_erase q h)
  | runHead s r => exact nodup_keys_put _ _
  | enqueue => exact id

theorem Moves.maxRunning {k : Nat} {s s' : St} (h : Moves k s s') : s'.maxRunning = s.maxRunning := by
  induction h with
  | trans _ _ ih1 ih2 => exact ih2.trans ih1
  | shrink _ _ hm => exact hm
  | erase | update | admitNew | runHead | enqueue => rfl

theorem run_maxRunning : ∀ (ops : List Op) (s : St), (run s ops).maxRunning = s.maxRunning :=
  fun ops s => (run_moves ops s).maxRunning

def ROK (next : Nat) (W : List RQ) (x : Nat × RQ) : Prop :=
  x.2.qid = x.1 ∧ x.2.timeoutArmed = true ∧ (x.2.timerLive = true ∨ x.2.cancelled = true) ∧
  x.2.obj < next ∧ ∀ w ∈ W, x.2.obj ≠ w.obj

def WOK (next : Nat) (w : RQ) : Prop :=
  w.timeoutArmed = false ∧ w.timerLive = false ∧ w.cancelled = false ∧ w.obj < next

def Inv (s : St) : Prop :=
  (∀ x ∈ s.running, ROK s.next s.waiting x) ∧ (∀ w ∈ s.waiting, WOK s.next w) ∧
  (s.waiting.map (·.obj)).Nodup

theorem ROK.mono {next next' : Nat} {W W' : List RQ} {x : Nat × RQ} (h : ROK next W x)
    (hn : next ≤ next') (hW : ∀ w ∈ W', w ∈ W ∨ next ≤ w.obj) : ROK next' W' x :=
  ⟨h.1, h.2.1, h.2.2.1, Nat.lt_of_lt_of_le h.2.2.2.1 hn, fun w hw =>
    (hW w hw).elim (h.2.2.2.2 w) fun hle => Nat.ne_of_lt (Nat.lt_of_lt_of_le h.2.2.2.1 hle)⟩

theorem WOK.mono {next next' : Nat} {w : RQ} (h : WOK next w) (hn : next ≤ next') : WOK next' w :=
  ⟨h.1, h.2.1, h.2.2.1, Nat.lt_of_lt_of_le h.2.2.2 hn⟩

theorem Inv.shrink {s s' : St} (h : Inv s) (hn : s.next ≤ s'.next) (hr : ∀ x ∈ s'.running, x ∈ s.running)
    (hw : s'.waiting.Sublist s.waiting) : Inv s' :=
  ⟨fun x hx => (h.1 x (hr x hx)).mono hn fun _ hw' => .inl (hw.subset hw'),
    fun w hw' => (h.2.1 w (hw.subset hw')).mono hn, h.2.2.sublist (hw.map _)⟩

theorem Inv.admitted {s : St} {r : RQ} {b : Bool} (h : Inv s) (ho : r.obj < s.next)
    (hne : ∀ w ∈ s.waiting, r.obj ≠ w.obj) :
    Inv { s with running := put r.qid (admitted r) s.running, blocked := b } := by
  obtain ⟨a1, a2, a3, a4, _⟩ := admitted_fields r
  exact ⟨forall_put ⟨a1, a3, .inl a4, Nat.lt_of_le_of_lt (Nat.le_of_eq a2) ho,
    fun w hw e => hne w hw (a2.symm.trans e)⟩ h.1, h.2⟩

theorem Moves.inv {k : Nat} {s s' : St} (h : Moves k s s') : Inv s → Inv s' := by
  induction h with
  | trans _ _ ih1 ih2 => exact fun hi => ih2 (ih1 hi)
  | shrink s s' _ hn hr hw => exact fun hi => hi.shrink hn (fun x hx => hr ▸ hx) hw
  | erase s q => exact fun hi => hi.shrink (Nat.le_refl _) (fun x hx => (mem_erase hx).2) (List.Sublist.refl _)
  | update s q r r' b hl hlat =>
    intro hi
    obtain ⟨h1, h2, h3, h4, h5⟩ := hi.1 _ (lookup_mem hl)
    exact ⟨forall_put ⟨hlat.qid.trans h1, hlat.armed.trans h2, hlat.live h3, hlat.obj ▸ h4, hlat.obj ▸ h5⟩ hi.1,
      hi.2⟩
  | admitNew s q r d b ho _ =>
    intro hi
    exact (hi.shrink (s' := { s with next := s.next + 1, running := QTable.erase q s.running }) (Nat.le_succ _)
      (fun x hx => (mem_erase hx).2) (List.Sublist.refl _)).admitted (ho ▸ Nat.lt_succ_self _)
      fun w hw => ho ▸ Nat.ne_of_gt (hi.2.1 w hw).2.2.2
  | runHead s r rs b e _ =>
    intro hi
    have hnd := hi.2.2
    rw [e, List.map_cons, List.nodup_cons] at hnd
    exact (hi.shrink (s' := { s with waiting := rs }) (Nat.le_refl _) (fun _ => id)
      (e ▸ List.sublist_cons_self r rs)).admitted (hi.2.1 r (e ▸ List.mem_cons_self ..)).2.2.2
      fun w hw he => hnd.1 (he ▸ List.mem_map_of_mem hw)
  | enqueue s r ho h1 h2 h3 _ =>
    -- the new object carries the counter value `s.next`, which every older object is below
    intro ⟨hr, hw, hnd⟩
    refine ⟨fun x hx => (hr x hx).mono (Nat.le_succ _) (List.forall_mem_append.mpr
        ⟨fun _ => .inl, List.forall_mem_singleton.mpr (.inr (Nat.le_of_eq ho.symm))⟩),
      List.forall_mem_append.mpr ⟨fun w hw' => (hw w hw').mono (Nat.le_succ _),
        List.forall_mem_singleton.mpr ⟨h1, h2, h3, ho ▸ Nat.lt_succ_self _⟩⟩, ?_⟩
    show ((s.waiting ++ [r]).map (·.obj)).Nodup
    rw [List.map_append, List.nodup_append]
    refine ⟨hnd, List.pairwise_singleton _ _, List.forall_mem_map.mpr fun w hw' b hb => ?_⟩
    rw [List.mem_singleton.mp hb]
    exact Nat.ne_of_lt (Nat.lt_of_lt_of_eq (hw w hw').2.2.2 ho.symm)

theorem inv_reachable (m : Nat) (ops : List Op) : Inv (run { maxRunning := m } ops) :=
  (run_moves ops _).inv ⟨List.forall_mem_nil _, List.forall_mem_nil _, List.nodup_nil⟩

theorem terminalOf_prefix {r r' : RQ} {t : Nat} (hp : r.sent <+: r'.sent) (h : terminalOf r = some t) :
    terminalOf r' = some t := by
  obtain ⟨e, he⟩ := hp
  unfold terminalOf at h ⊢
  rw [← he, List.find?_append, h]
  rfl

/-- object `o` has terminal state `t` for as long as it is stored under `q`; being created and not queued, it is never
admitted again -/
def TermAt (o q t : Nat) (s : St) : Prop :=
  o < s.next ∧ (∀ w ∈ s.waiting, w.obj ≠ o) ∧
  (∀ r, lookup q s.running = some r → r.obj = o → terminalOf r = some t)

theorem TermAt.shrink {o q t : Nat} {s s' : St} (h : TermAt o q t s) (hn : s.next ≤ s'.next)
    (hr : ∀ r, lookup q s'.running = some r → lookup q s.running = some r)
    (hw : s'.waiting.Sublist s.waiting) : TermAt o q t s' :=
  ⟨Nat.lt_of_lt_of_le h.1 hn, fun w hw' => h.2.1 w (hw.subset hw'), fun r hl => h.2.2 r (hr r hl)⟩

theorem TermAt.admitted {o q t : Nat} {s : St} {r : RQ} {b : Bool} (h : TermAt o q t s) (hne : r.obj ≠ o) :
    TermAt o q t { s with running := put r.qid (admitted r) s.running, blocked := b } := by
  refine ⟨h.1, h.2.1, fun x hl ho => ?_⟩
  by_cases hq : q = r.qid
  · rw [hq, lookup_put_self] at hl
    cases hl
    exact absurd ((admitted_fields r).2.1.symm.trans ho) hne
  · exact h.2.2 x ((lookup_put_ne hq).symm.trans hl) ho

theorem Moves.termAt {k o q t : Nat} {s s' : St} (h : Moves k s s') : TermAt o q t s → TermAt o q t s' := by
  induction h with
  | trans _ _ ih1 ih2 => exact fun ht => ih2 (ih1 ht)
  | shrink s s' _ hn hr hw => exact fun ht => ht.shrink hn (fun r hl => hr ▸ hl) hw
  | erase s q0 => exact fun ht => ht.shrink (Nat.le_refl _) (fun _ => lookup_of_lookup_erase) (List.Sublist.refl _)
  | update s q0 r r' b hl hlat =>
    refine fun ht => ⟨ht.1, ht.2.1, fun x hx ho => ?_⟩
    by_cases hq : q = q0
    · rw [hq, lookup_put_self] at hx
      cases hx
      exact terminalOf_prefix hlat.sent (ht.2.2 r (hq ▸ hl) (hlat.obj.symm.trans ho))
    · exact ht.2.2 x ((lookup_put_ne hq).symm.trans hx) ho
  | admitNew s q0 r d b ho _ =>
    exact fun ht => (ht.shrink (s' := { s with next := s.next + 1, running := QTable.erase q0 s.running }) (Nat.le_succ _)
      (fun _ => lookup_of_lookup_erase) (List.Sublist.refl _)).admitted (ho ▸ Nat.ne_of_gt ht.1)
  | runHead s r rs b e _ =>
    exact fun ht => (ht.shrink (s' := { s with waiting := rs }) (Nat.le_refl _) (fun _ => id)
      (e ▸ List.sublist_cons_self r rs)).admitted (ht.2.1 r (e ▸ List.mem_cons_self ..))
  | enqueue s r ho =>
    exact fun ht => ⟨Nat.lt_succ_of_lt ht.1, List.forall_mem_append.mpr
      ⟨ht.2.1, List.forall_mem_singleton.mpr (ho ▸ Nat.ne_of_gt ht.1)⟩, ht.2.2⟩

theorem termAt_of_inv {s : St} {q t : Nat} {r : RQ} (hinv : Inv s) (hl : lookup q s.running = some r)
    (ht : terminalOf r = some t) : TermAt r.obj q t s := by
  have hrk := hinv.1 _ (lookup_mem hl)
  refine ⟨hrk.2.2.2.1, fun w hw e => hrk.2.2.2.2 w hw e.symm, fun r2 hl2 _ => ?_⟩
  rw [hl] at hl2
  cases hl2
  exact ht

theorem le_bound {n' n : Nat} (M k d : Nat) (h : n' ≤ n + d) : n' ≤ max n M + (k + d) :=
  Nat.le_trans h (Nat.add_assoc .. ▸
    Nat.add_le_add_right (Nat.le_trans (Nat.le_max_left n M) (Nat.le_add_right _ k)) d)

theorem Moves.running_length {k : Nat} {s s' : St} (h : Moves k s s') :
    s'.running.length ≤ max s.running.length s.maxRunning + k := by
  induction h with
  | trans h1 _ ih1 ih2 =>
    -- the first bound is the length the second run starts from
    rw [h1.maxRunning] at ih2
    have hb := Nat.max_le.mpr ⟨ih1, Nat.le_trans (Nat.le_max_right ..) (Nat.le_add_right ..)⟩
    exact Nat.le_trans ih2 (Nat.add_assoc .. ▸ Nat.add_le_add_right hb _)
  | shrink s s' _ _ hr _ => exact le_bound _ _ 0 (Nat.le_of_eq (congrArg List.length hr))
  | erase s q => exact le_bound _ _ 0 (erase_sublist q _).length_le
  | update s q r r' b hl _ => exact le_bound _ _ 0 (length_erase_lt hl)
  | admitNew s q r d b _ hd => exact le_bound _ _ d (Nat.le_trans (Nat.succ_le_succ (erase_sublist ..).length_le) hd)
  | runHead s r rs b _ hlt =>
    exact Nat.le_trans (Nat.le_trans (Nat.succ_le_succ (erase_sublist ..).length_le) hlt)
      (Nat.le_trans (Nat.le_max_right ..) (Nat.le_add_right ..))
  | enqueue => exact le_bound _ _ 0 (Nat.le_refl _)

def NoBlock (s : St) : Prop := s.blocked = false ∧ ∀ r ∈ s.waiting, r.chanLen = 0

/-- admission sends READY and RUNNING, hence the room for two messages -/
theorem runQuery_blocked (s : St) (r : RQ) (hb : s.blocked = false) (hr : r.chanLen + 2 ≤ chanCap) :
    (runQuery s r).blocked = false := by
  cases hc : r.cancelled with
  | true => exact (runQuery_cancelled s hc).symm ▸ hb
  | false =>
    rw [runQuery_admit s hc, send_of_room (r := arm r) 1 (Nat.lt_of_succ_lt hr), send_of_room 2, hb]
    · rfl
    · exact hr

theorem NoBlock.runQuery {s : St} {r : RQ} (h : NoBlock s) (h0 : r.chanLen = 0) : NoBlock (runQuery s r) := by
  refine ⟨runQuery_blocked s r h.1 (h0 ▸ by decide), ?_⟩
  cases hc : r.cancelled with
  | true => exact (runQuery_cancelled s hc).symm ▸ h.2
  | false => exact (runQuery_admit s hc).symm ▸ h.2

theorem enter_blocked (s : St) (r : RQ) (force : Bool) (hb : s.blocked = false) (hr : r.chanLen + 2 ≤ chanCap) :
    (enter s r force).1.blocked = false := by
  rcases enter_cases s r force with e | ⟨_, e⟩ | e | ⟨_, e⟩ <;> rw [e]
  · exact hb
  · exact runQuery_blocked _ r hb hr
  · exact hb
  · exact hb

theorem enter_noBlock {s : St} (h : NoBlock s) (r : RQ) (force : Bool) (h0 : r.chanLen = 0) :
    NoBlock (enter s r force).1 := by
  rcases enter_cases s r force with e | ⟨_, e⟩ | e | ⟨_, e⟩ <;> rw [e]
  · exact h
  · exact NoBlock.runQuery (s := { s with next := s.next + 1 }) h h0
  · exact h
  · exact ⟨h.1, List.forall_mem_append.mpr ⟨h.2, List.forall_mem_singleton.mpr h0⟩⟩

theorem step_noBlock (s : St) (op : Op) (hop : op.admissionOnly = true) (h : NoBlock s) :
    NoBlock (step s op).1 := by
  cases op with
  | start q force => exact enter_noBlock h { obj := s.next, qid := q } force rfl
  | startc q force => exact enter_noBlock h { obj := s.next, qid := q, coord := true } force rfl
  | pull =>
    rcases pull_cases s with e | ⟨r, rs, hw, _, e⟩ <;> rw [e]
    · exact h
    · exact NoBlock.runQuery (s := { s with waiting := rs })
        ⟨h.1, fun x hx => h.2 x (hw ▸ List.mem_cons_of_mem _ hx)⟩ (h.2 r (hw ▸ List.mem_cons_self ..))
  | delete q | drain q =>
    rw [step]
    cases lookup q s.running <;> exact h
  | cancel | timeout | restart | complete | error => cases hop

theorem run_noBlock (ops : List Op) (s : St) (hop : ∀ op ∈ ops, op.admissionOnly = true) (h : NoBlock s) :
    NoBlock (run s ops) := by
  induction ops generalizing s with
  | nil => exact h
  | cons op ops ih =>
    exact ih _ (fun o ho => hop o (List.mem_cons_of_mem _ ho)) (step_noBlock s op (hop op (List.mem_cons_self ..)) h)

end SigModel.Lemmas.C17
