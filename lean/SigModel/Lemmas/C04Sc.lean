/-
What the min / max cells of the closed form mean — the least / greatest numeric value, attained and bounding
(`mmCell_isExtr`, one proof for both) — and how statistics merge.  `StatsOf parse vs o`: `o` is A statistics of `vs`, the
closed form with some sum cell (`IsSum`) of the numeric values in its slot.  `build` is one, MergeSegStats of two is one of
the concatenation (`StatsOf.merge`, over the normal form: `mergeO_mkStats`), the order of the parts does not matter
(`StatsOf.comm`), two statistics of one list are equal read as numbers (`StatsOf.oview_eq`) and identical while the int64
part cannot wrap (`StatsOf.eq`): every merge law is these four put together.  Core Lean only.
-/
import SigModel.Lemmas.C04Ss

namespace SigModel.Stats
open SigModel.MachInt

def ratVals (ns : List Num) : List Rat := ns.map Num.toRat

def IsMinOf (c : CV) (xs : List Rat) : Prop :=
  (xs = [] ∧ c.isNumeric = false) ∨ (∃ m, c.rat? = some m ∧ m ∈ xs ∧ ∀ x ∈ xs, m ≤ x)

def IsMaxOf (c : CV) (xs : List Rat) : Prop :=
  (xs = [] ∧ c.isNumeric = false) ∨ (∃ m, c.rat? = some m ∧ m ∈ xs ∧ ∀ x ∈ xs, x ≤ m)

/-- `IsMinOf` is `IsExtr (· ≤ ·)`, `IsMaxOf` is `IsExtr (· ≥ ·)` -/
def IsExtr (le : Rat → Rat → Prop) (c : CV) (xs : List Rat) : Prop :=
  (xs = [] ∧ c.isNumeric = false) ∨ (∃ m, c.rat? = some m ∧ m ∈ xs ∧ ∀ x ∈ xs, le m x)

structure PickOrd (m : Bool) (le : Rat → Rat → Prop) : Prop where
  refl : ∀ a, le a a
  trans : ∀ {a b c}, le a b → le b c → le a c
  pick : ∀ a b, le (pickQ m a b) a ∧ le (pickQ m a b) b ∧ (pickQ m a b = a ∨ pickQ m a b = b)

theorem pickOrd_min : PickOrd true (· ≤ ·) where
  refl := fun _ => Rat.le_refl
  trans := Rat.le_trans
  pick := fun a b => by
    rw [pickQ, if_pos rfl, Rat.min_def]
    by_cases h : a ≤ b
    · rw [if_pos h]; exact ⟨Rat.le_refl, h, .inl rfl⟩
    · rw [if_neg h]; exact ⟨Rat.le_total.resolve_left h, Rat.le_refl, .inr rfl⟩

theorem pickOrd_max : PickOrd false (· ≥ ·) where
  refl := fun _ => Rat.le_refl
  trans := fun h1 h2 => Rat.le_trans h2 h1
  pick := fun a b => by
    rw [pickQ, if_neg Bool.false_ne_true, Rat.max_def]
    by_cases h : a ≤ b
    · rw [if_pos h]; exact ⟨h, Rat.le_refl, .inr rfl⟩
    · rw [if_neg h]; exact ⟨Rat.le_refl, Rat.le_total.resolve_left h, .inl rfl⟩

theorem reduce_rat_num (m : Bool) {c : CV} {e : Rat} (x : Num) (h : c.rat? = some e) :
    (reduceMinMax exact m c x.toCV).rat? = some (pickQ m e x.toRat) := by
  cases c <;> cases h <;> cases x
  · exact congrArg some (pickQ_cast m _ _)
  · rfl
  · rfl
  · rfl

theorem reduce_nonnum_num (m : Bool) {c : CV} (x : Num) (h : c.isNumeric = false) :
    (reduceMinMax exact m c x.toCV).rat? = some x.toRat := by
  cases c <;> cases h <;> cases x <;> rfl

theorem reduce_nonnum (m : Bool) {c d : CV} (hd : d = .invalid ∨ ∃ t, d = .str t) :
    (reduceMinMax exact m c d).rat? = c.rat? ∧ (reduceMinMax exact m c d).isNumeric = c.isNumeric := by
  rcases hd with rfl | ⟨t, rfl⟩ <;> cases c <;> exact ⟨rfl, rfl⟩

theorem IsExtr.step_num {m : Bool} {le : Rat → Rat → Prop} (o : PickOrd m le) {c : CV} {xs : List Rat} (x : Num)
    (h : IsExtr le c xs) : IsExtr le (reduceMinMax exact m c x.toCV) (xs ++ [x.toRat]) := by
  rcases h with ⟨rfl, hnn⟩ | ⟨e, he, hmem, hb⟩
  · exact .inr ⟨x.toRat, reduce_nonnum_num m x hnn, List.mem_singleton.mpr rfl, List.forall_mem_singleton.mpr (o.refl _)⟩
  · obtain ⟨hpe, hpx, hp⟩ := o.pick e x.toRat
    refine .inr ⟨pickQ m e x.toRat, reduce_rat_num m x he, ?_,
      List.forall_mem_append.mpr ⟨fun y hy => o.trans hpe (hb y hy), List.forall_mem_singleton.mpr hpx⟩⟩
    rcases hp with hp | hp
    · rw [hp]; exact List.mem_append_left _ hmem
    · rw [hp]; exact List.mem_append_right _ (List.mem_singleton.mpr rfl)

theorem IsExtr.step_nonnum {m : Bool} {le : Rat → Rat → Prop} {c d : CV} {xs : List Rat} (h : IsExtr le c xs)
    (hd : d = .invalid ∨ ∃ t, d = .str t) : IsExtr le (reduceMinMax exact m c d) xs := by
  obtain ⟨e1, e2⟩ := reduce_nonnum m hd
  unfold IsExtr; rw [e1, e2]; exact h

theorem mmCell_isExtr {m : Bool} {le : Rat → Rat → Prop} (o : PickOrd m le) (parse : Str → Option Rat) (vs : List Val) :
    IsExtr le (mmCell m parse vs) (ratVals (nums parse vs)) := by
  induction vs using snocInd with
  | nil => exact .inl ⟨rfl, rfl⟩
  | append_singleton vs v ih =>
    rw [mmCell_snoc, nums_append]
    rcases val_cases parse v with rfl | ⟨x, hn, hx, _⟩ | ⟨t, hn, ht, _⟩
    · rw [show nums parse [.absent] = [] from rfl, List.append_nil]
      exact ih.step_nonnum (.inl rfl)
    · rw [hn, hx, ratVals, List.map_append]
      exact ih.step_num o x
    · rw [hn, List.append_nil, ht]
      exact ih.step_nonnum (.inr ⟨t, rfl⟩)

theorem minCell_isMin (parse : Str → Option Rat) (vs : List Val) : IsMinOf (minCell parse vs) (ratVals (nums parse vs)) :=
  mmCell_isExtr pickOrd_min parse vs

theorem maxCell_isMax (parse : Str → Option Rat) (vs : List Val) : IsMaxOf (maxCell parse vs) (ratVals (nums parse vs)) :=
  mmCell_isExtr pickOrd_max parse vs

theorem compat_cells (parse : Str → Option Rat) (vs : List Val) : Compat (mmCell true parse vs) (mmCell false parse vs) := by
  induction vs using snocInd with
  | nil => exact .invalid
  | append_singleton vs v ih =>
    rw [mmCell_snoc, mmCell_snoc]
    exact compat_step _ _ _ (cellOf_notBackfill parse v) ih

theorem Compat.notBackfill {mn mx : CV} (h : Compat mn mx) : mn.notBackfill ∧ mx.notBackfill := by
  cases h <;> exact ⟨trivial, trivial⟩

theorem not_isEmpty_append {α : Type} (xs ys : List α) : (!(xs ++ ys).isEmpty) = (!xs.isEmpty || !ys.isEmpty) := by
  cases xs <;> cases ys <;> rfl

theorem segStats_eq {b b' : Bool} {c : Nat} {mn mn' mx mx' : CV} {p p' : Option NumStats} (hb : b = b') (h1 : mn = mn')
    (h2 : mx = mx') (hp : p = p') : some (SegStats.mk b c mn mx p) = some ⟨b', c, mn', mx', p'⟩ := by
  subst hb h1 h2 hp; rfl

theorem mergeO_mkStats {c c' : Nat} {mn mx mn' mx' : CV} {ns ns' : List Num} {s t : Num}
    (h0 : Fresh c mn mx ns) (hc : Compat mn mx) (h0' : Fresh c' mn' mx' ns') (hc' : Compat mn' mx') (hs : IsSum s ns)
    (ht : IsSum t ns') :
    ∃ u, IsSum u (ns ++ ns') ∧ mergeO exact (mkStats c mn mx ns s) (mkStats c' mn' mx' ns' t) =
      mkStats (c + c') (reduceMinMax exact true mn mn') (reduceMinMax exact false mx mx') (ns ++ ns') u := by
  cases c with
  | zero =>
    obtain ⟨rfl, rfl, rfl⟩ := h0 rfl
    exact ⟨t, ht, congrArg (mkStats · mn' mx' ns' t) (Nat.zero_add c').symm⟩
  | succ n =>
    cases c' with
    | zero =>
      obtain ⟨rfl, rfl, rfl⟩ := h0' rfl
      rw [List.append_nil, reduceMinMax_invalid_right true hc.notBackfill.1, reduceMinMax_invalid_right false hc.notBackfill.2]
      exact ⟨s, hs, rfl⟩
    | succ n' =>
      -- SegStats.Merge feeds the other side's Min and then its Max into both cells: on a compatible pair (`eqs`) that is
      -- the plain merge
      obtain ⟨u, hu, e⟩ := mergeNum_numStatsWith hs ht
      exact ⟨u, hu, segStats_eq (not_isEmpty_append ns ns').symm
        ((reduceMinMax_assoc true mn mn' mx').trans (congrArg (reduceMinMax exact true mn) hc'.eqs.1))
        ((reduceMinMax_assoc false mx mn' mx').trans (congrArg (reduceMinMax exact false mx) hc'.eqs.2)) e⟩

/-- SOME sum cell: its type depends on the way of folding and merging (patch c04-15: int64 4611686018427387904 on one way,
float64 4.611686018427388e18 on another) -/
def StatsOf (parse : Str → Option Rat) (vs : List Val) (o : Option SegStats) : Prop :=
  ∃ s, IsSum s (nums parse vs) ∧ o = statsWith parse vs s

theorem statsOf_build (parse : Str → Option Rat) (vs : List Val) : StatsOf parse vs (build parse vs) :=
  ⟨_, sumCell_isSum _, rfl⟩

theorem statsOf_foldQ (vs : List Val) : StatsOf (parseFast exact) vs (foldQ exact vs) :=
  foldQ_eq_build vs ▸ statsOf_build _ vs

theorem statsWith_append (parse : Str → Option Rat) (xs ys : List Val) (s : Num) :
    statsWith parse (xs ++ ys) s =
      mkStats (present xs + present ys) (reduceMinMax exact true (mmCell true parse xs) (mmCell true parse ys))
        (reduceMinMax exact false (mmCell false parse xs) (mmCell false parse ys)) (nums parse xs ++ nums parse ys) s := by
  rw [statsWith, present_append, mmCell_append, mmCell_append, nums_append]

theorem StatsOf.merge {parse : Str → Option Rat} {xs ys : List Val} {a b : Option SegStats}
    (ha : StatsOf parse xs a) (hb : StatsOf parse ys b) : StatsOf parse (xs ++ ys) (mergeO exact a b) := by
  obtain ⟨s, hs, rfl⟩ := ha
  obtain ⟨t, ht, rfl⟩ := hb
  obtain ⟨u, hu, e⟩ :=
    mergeO_mkStats (fresh_cells parse xs) (compat_cells parse xs) (fresh_cells parse ys) (compat_cells parse ys) hs ht
  exact ⟨u, nums_append parse xs ys ▸ hu, e.trans (statsWith_append parse xs ys u).symm⟩

theorem mkStats_comm {c c' : Nat} {mn mx mn' mx' : CV} (ns ns' : List Num) (s : Num) (h : Compat mn mx) (h' : Compat mn' mx') :
    mkStats (c + c') (reduceMinMax exact true mn mn') (reduceMinMax exact false mx mx') (ns ++ ns') s =
      mkStats (c' + c) (reduceMinMax exact true mn' mn) (reduceMinMax exact false mx' mx) (ns' ++ ns) s := by
  rw [Nat.add_comm, reduceMinMax_comm true h.notBackfill.1 h'.notBackfill.1,
    reduceMinMax_comm false h.notBackfill.2 h'.notBackfill.2, mkStats, mkStats, isEmpty_append_comm, numStatsWith_comm]

theorem StatsOf.comm {parse : Str → Option Rat} {xs ys : List Val} {a : Option SegStats}
    (h : StatsOf parse (xs ++ ys) a) : StatsOf parse (ys ++ xs) a := by
  obtain ⟨s, hs, rfl⟩ := h
  rw [nums_append] at hs
  exact ⟨s, nums_append parse ys xs ▸ hs.comm, (statsWith_append parse xs ys s).trans
    ((mkStats_comm _ _ s (compat_cells parse xs) (compat_cells parse ys)).trans (statsWith_append parse ys xs s).symm)⟩

theorem StatsOf.eq {parse : Str → Option Rat} {vs : List Val} {a b : Option SegStats}
    (ha : StatsOf parse vs a) (hb : StatsOf parse vs b) (h : absIntSum (nums parse vs) < 9223372036854775808) : a = b := by
  obtain ⟨s, hs, rfl⟩ := ha
  obtain ⟨t, ht, rfl⟩ := hb
  rw [hs.spec h, ht.spec h]

def NumStats.view (n : NumStats) : Nat × Rat := (n.ncount, n.sum.toRat)

def SegStats.view (s : SegStats) : Bool × Nat × CV × CV × Option (Nat × Rat) :=
  (s.isNumeric, s.count, s.min, s.max, s.num.map NumStats.view)

def oview (o : Option SegStats) : Option (Bool × Nat × CV × CV × Option (Nat × Rat)) := o.map SegStats.view

theorem oview_mkStats {c : Nat} {mn mx : CV} {ns : List Num} {s t : Num} (h : s.toRat = t.toRat) :
    oview (mkStats c mn mx ns s) = oview (mkStats c mn mx ns t) := by
  cases c with
  | zero => rfl
  | succ n =>
    cases ns with
    | nil => rfl
    | cons a r => exact congrArg (fun q => some (true, n + 1, mn, mx, some ((a :: r).length, q))) h

theorem StatsOf.oview_eq {parse : Str → Option Rat} {vs : List Val} {a b : Option SegStats}
    (ha : StatsOf parse vs a) (hb : StatsOf parse vs b) : oview a = oview b := by
  obtain ⟨s, hs, rfl⟩ := ha
  obtain ⟨t, ht, rfl⟩ := hb
  exact oview_mkStats (hs.toRat.trans ht.toRat.symm)

end SigModel.Stats
