/-
C02 kernel slice, the search clause (`implCmp`) against the comparison by value.  The literal side is the relation
`NumLit rnd q b` (`mkLit_numLit`), the record side what `getNumberRecDte` / `fopOnNumber` read the writer's records as
(`fopOnNumber_enc`); the comparison under the guard `cmpGuardQ` is `impl_eq_spec_q`.  String literals last.  Core Lean only.
-/
import SigModel.Model.Cmp
import SigModel.Lemmas.MachInt
import SigModel.Lemmas.C01

namespace SigModel.Lemmas.C02K
open SigModel.Tlv SigModel.Cmp SigModel.Lemmas.C01

/-- what the theorems assume about the float64 rounding `rnd` (see the model header) -/
structure RndOk (rnd : Rat → Rat) : Prop where
  zero : rnd 0 = 0
  idem : ∀ x, rnd (rnd x) = rnd x
  fix64 : ∀ b, finiteBits b = true → rnd (f64val b) = f64val b

theorem wf_int (t : NumText) (ht : t.wf) (i : Int) (hi : t.intOk = some i) :
    t.val = (i : Rat) ∧ -two63 ≤ i ∧ i < two63 := by
  simp only [NumText.wf, NumText.wfb, hi, Bool.and_eq_true, decide_eq_true_eq] at ht
  exact ⟨ht.1.2.1.1, ht.1.2.1.2, ht.1.2.2⟩

theorem wf_uint (t : NumText) (ht : t.wf) (u : Nat) (hu : t.uintOk = some u) :
    t.val = (u : Rat) ∧ (u : Int) < two64 ∧ t.neg = false := by
  simp only [NumText.wf, NumText.wfb, hu, Bool.and_eq_true, decide_eq_true_eq, Bool.not_eq_true'] at ht
  exact ⟨ht.1.1.1.1, ht.1.1.1.2, ht.1.1.2⟩

/-- the shapes `enclosureFromJsonNumber` fills for a number — an int64 (in the code a negative one, which nothing below
needs), a uint64, the SS_UINT8 zero, a float — each with the number `b` it denotes -/
inductive NumLit (rnd : Rat → Rat) : Lit → Rat → Prop
  | signed (i : Int) :
      NumLit rnd { dtype := .signed, signed := i, unsigned := wrapU64 i, flt := rnd (i : Rat) } i
  | unsigned (u : Nat) (hl : (u : Int) < two64) :
      NumLit rnd { dtype := .unsigned, unsigned := u, signed := wrapS64 (u : Int), flt := rnd (u : Rat) } u
  | zero : NumLit rnd { dtype := .unsigned, signed := 0, unsigned := 0, flt := 0 } 0
  | float (s : Int) (u : Nat) (f : Rat) : NumLit rnd { dtype := .float, signed := s, unsigned := u, flt := f } f

theorem NumLit.num_eq {rnd : Rat → Rat} {q : Lit} {b : Rat} (h : NumLit rnd q b) : q.num? = some b := by
  cases h <;> rfl

theorem mkLit_numLit (rnd : Rat → Rat) (t : NumText) (ht : t.wf) : NumLit rnd (mkLit rnd t) (litVal rnd t) := by
  have hfl : NumLit rnd (floatLit rnd t) (rnd t.val) := by
    unfold floatLit
    by_cases h : rnd t.val = 0
    · rw [if_pos h, h]
      exact .zero
    · rw [if_neg h]
      exact .float _ _ _
  unfold mkLit litVal
  cases hn : t.neg with
  | false =>
    cases hu : t.uintOk with
    | none => exact hfl
    | some u =>
      show NumLit rnd _ t.val
      rw [(wf_uint t ht u hu).1]
      exact .unsigned u (wf_uint t ht u hu).2.1
  | true =>
    cases hi : t.intOk with
    | none => exact hfl
    | some i =>
      show NumLit rnd (if i = 0 then _ else _) t.val
      rw [(wf_int t ht i hi).1]
      by_cases h0 : i = 0
      · rw [if_pos h0, h0, Rat.intCast_zero]
        exact .zero
      · rw [if_neg h0]
        exact .signed i

theorem wrapU64_lt (i : Int) : wrapU64 i < 256 ^ 8 :=
  MachInt.wrapU64_toNat_lt i

theorem sext_wrapU64 (i : Int) (h1 : -two63 ≤ i) (h2 : i < two63) : sext 8 (wrapU64 i) = i := by
  unfold sext wrapU64
  -- the residue is `i` itself, below 2^63, or `i + 2^64`, at least 2^63
  by_cases h0 : 0 ≤ i
  · rw [Int.emod_eq_of_lt h0 (Int.lt_trans h2 (by decide)), if_pos ((Int.toNat_lt h0).2 h2)]
    exact Int.toNat_of_nonneg h0
  · have hge : two63 ≤ i + two64 := Int.add_le_add_right h1 two64
    have hp : 0 ≤ i + two64 := Int.le_trans (by decide) hge
    have hlt : i + two64 < two64 := Int.add_lt_add_right (Int.not_le.mp h0) two64
    rw [← Int.add_emod_right, Int.emod_eq_of_lt hp hlt, if_neg fun h => Int.not_lt.mpr hge ((Int.toNat_lt hp).1 h),
      Int.toNat_of_nonneg hp]
    exact Int.add_sub_cancel i two64

/-- the eight-byte read inside `getNumberRecDte`, on what the writer stored -/
theorem rd_leN8 (n : Nat) (h : n < 256 ^ 8) (k : Nat → RecNum) :
    (match rdN 8 (leN 8 n) with
      | some (v, _) => Res.ok (some (k v))
      | none => .panic) = .ok (some (k n)) := by
  rw [← List.append_nil (leN 8 n), rdN_leN 8 n [] h]

theorem int_wf_iff (i : Int) : (SVal.int i).wf ↔ -two63 ≤ i ∧ i < two63 :=
  Bool.and_eq_true_iff.trans (and_congr decide_eq_true_iff decide_eq_true_iff)

theorem getNum_int (i : Int) (h1 : -two63 ≤ i) (h2 : i < two63) :
    getNumberRecDte (SVal.int i).enc = .ok (some (.signed i)) :=
  (rd_leN8 _ (wrapU64_lt i) fun b => .signed (sext 8 b)).trans (by rw [sext_wrapU64 i h1 h2])

theorem getNum_uint (n : Nat) (h : (n : Int) < two64) :
    getNumberRecDte (SVal.uint n).enc = .ok (some (.unsigned n)) :=
  rd_leN8 n (Int.ofNat_lt.mp h) .unsigned

theorem getNum_float (b : Nat) (h : finiteBits b = true) :
    getNumberRecDte (SVal.float b).enc = .ok (some (.float (f64val b))) :=
  rd_leN8 b (of_decide_eq_true (Bool.and_eq_true_iff.mp h).1) fun b => .float (f64val b)

theorem getNum_str (s : Bytes) : getNumberRecDte (SVal.str s).enc = .ok none := rfl
theorem getNum_bool (b : Bool) : getNumberRecDte (SVal.bool b).enc = .ok none := rfl
theorem getNum_backfill : getNumberRecDte SVal.backfill.enc = .ok none := rfl

theorem strRecNum_str (rnd : Rat → Rat) (s : Bytes) (hs : s.length < 65536) :
    strRecNum? rnd (SVal.str s).enc = (numOfStr? s).map (fun a => RecNum.float (rnd a)) := by
  unfold SVal.enc SVal.toTlv
  rw [encTLV_str_wf s hs]
  cases s with
  | nil => rfl
  | cons c rest => rfl

theorem strRecNum_bool (rnd : Rat → Rat) (b : Bool) : strRecNum? rnd (SVal.bool b).enc = none := rfl
theorem strRecNum_backfill (rnd : Rat → Rat) : strRecNum? rnd SVal.backfill.enc = none := rfl

theorem promote_float (rnd : Rat → Rat) (q : Lit) (a : Rat) : promote rnd q (.float a) = .float a :=
  ite_self _

/-- what `fopOnNumber` reads a record of the writer's as -/
def recNum? (rnd : Rat → Rat) : SVal → Option RecNum
  | .int i => some (.signed i)
  | .uint n => some (.unsigned n)
  | .float b => some (.float (f64val b))
  | .str s => (numOfStr? s).map fun a => .float (rnd a)
  | _ => none

theorem fopOnNumber_enc (rnd : Rat → Rat) (v : SVal) (hv : v.wf) (q : Lit) (op : Op) :
    fopOnNumber rnd v.enc q op = .ok (match recNum? rnd v with
      | some r => compareNumberDte (promote rnd q r) q op
      | none => op == .ne) := by
  unfold fopOnNumber
  cases v with
  | int i =>
    rw [getNum_int i ((int_wf_iff i).mp hv).1 ((int_wf_iff i).mp hv).2]
    rfl
  | uint n =>
    rw [getNum_uint n (of_decide_eq_true (p := (n : Int) < two64) hv)]
    rfl
  | float b =>
    rw [getNum_float b hv]
    rfl
  | str s =>
    simp only [getNum_str, strRecNum_str rnd s (of_decide_eq_true (p := s.length < 65536) hv), recNum?]
    cases numOfStr? s <;> simp only [Option.map, promote_float]
  | bool b => rfl
  | backfill => rfl

/-- The guard of `implCmp_eq_spec_partial` (Props/C02).  It excludes exactly the classes refuted by the counterexample
theorems there:
  D  an unsigned record against a signed (negative) integer literal (compared with `uint64(negative)`);
  B  an integer record that `float64(·)` does not represent exactly, against a float-typed literal;
  C  a float record — or a string that reads as a number — against an integer literal that `float64(·)` does not
     represent exactly.
(No integer within ±2^53 is in B or C.) -/
def cmpGuardQ (rnd : Rat → Rat) (v : SVal) (_op : Op) (q : Lit) : Bool :=
  match v with
  | .str s =>
    match numOfStr? s with
    | none => true
    | some _ =>
      match q.dtype with
      | .signed => decide (rnd (q.signed : Rat) = (q.signed : Rat))
      | .unsigned => decide (rnd (q.unsigned : Rat) = (q.unsigned : Rat))
      | _ => true
  | .bool _ => true
  | .backfill => true
  | .int i =>
    match q.dtype with
    | .float => decide (rnd (i : Rat) = (i : Rat))
    | _ => true
  | .uint n =>
    match q.dtype with
    | .float => decide (rnd (n : Rat) = (n : Rat))
    | .signed => false
    | _ => true
  | .float _ =>
    match q.dtype with
    | .signed => decide (rnd (q.signed : Rat) = (q.signed : Rat))
    | .unsigned => decide (rnd (q.unsigned : Rat) = (q.unsigned : Rat))
    | _ => true

theorem specCmp_nonnum (rnd : Rat → Rat) (v : SVal) (op : Op) (q : Lit) (h : v.num? rnd = none) :
    specCmp rnd v op q = (op == .ne) := by
  unfold specCmp
  rw [h]

theorem cmpQ_int (op : Op) (a b : Int) : cmpQ op (a : Rat) (b : Rat) = cmpZ op a b := by
  cases op with
  | eq => exact decide_eq_decide.2 Rat.intCast_inj
  | ne => exact congrArg not (decide_eq_decide.2 Rat.intCast_inj)
  | lt | gt => exact decide_eq_decide.2 Rat.intCast_lt_intCast
  | le | ge => exact decide_eq_decide.2 Rat.intCast_le_intCast

theorem wrapS64_big (u : Nat) (h1 : two63 ≤ (u : Int)) (h2 : (u : Int) < two64) : wrapS64 (u : Int) < 0 := by
  unfold wrapS64
  -- `u + 2^63` is in [2^64, 2^64 + 2^63): its residue is `u + 2^63 - 2^64`, below 2^63
  have h3 : two64 ≤ (u : Int) + two63 := Int.add_le_add_right h1 two63
  have h4 : (u : Int) + two63 - two64 < two63 := Int.sub_left_lt_of_lt_add (Int.add_lt_add_right h2 two63)
  rw [← Int.sub_emod_right, Int.emod_eq_of_lt (Int.sub_nonneg_of_le h3) (Int.lt_trans h4 (by decide))]
  exact Int.sub_neg_of_lt h4

/-- `s` is a variable: with `wrapS64 ↑u` written in the enclosure the `show` below has the unifier evaluate it, and it runs
out of recursion depth -/
theorem compare_signed_unsigned (op : Op) (i : Int) (hi : i < two63) (s : Int) (u : Nat) (f : Rat)
    (hs : s = wrapS64 (u : Int)) (hu : (u : Int) < two64) :
    compareNumberDte (.signed i) { dtype := .unsigned, signed := s, unsigned := u, flt := f } op = cmpZ op i (u : Int) := by
  show (if LDt.unsigned = LDt.unsigned ∧ s < 0 then _ else cmpZ op i s) = _
  -- below 2^63 the SignedVal `s` is the literal's value; from 2^63 on it has wrapped below 0, and every int64 record is smaller
  by_cases h : (u : Int) < two63
  · -- `Cmp.wrapS64` is `MachInt.wrapS64` with its constants named (`two63`, `two64`): the two unfold to the same term
    have hw : s = (u : Int) := hs.trans (MachInt.wrapS64_id u (Int.le_trans (by decide) (Int.natCast_nonneg u)) h)
    rw [if_neg fun h' => Int.not_lt.mpr (Int.natCast_nonneg u) (hw ▸ h'.2), hw]
  · have hlt : i < (u : Int) := Int.lt_of_lt_of_le hi (Int.not_lt.mp h)
    rw [if_pos ⟨rfl, hs ▸ wrapS64_big u (Int.not_lt.mp h) hu⟩]
    cases op with
    | eq => exact (decide_eq_false (Int.ne_of_lt hlt)).symm
    | ne => exact (congrArg not (decide_eq_false (Int.ne_of_lt hlt))).symm
    | lt => exact (decide_eq_true hlt).symm
    | le => exact (decide_eq_true (Int.le_of_lt hlt)).symm
    | gt => exact (decide_eq_false (Int.lt_asymm hlt)).symm
    | ge => exact (decide_eq_false (Int.not_le.mpr hlt)).symm

theorem implCmp_num (rnd : Rat → Rat) (ci : Bool) (rec : Bytes) (op : Op) (q : Lit) (b : Rat) (hq : NumLit rnd q b) :
    implCmp rnd ci rec op q = fopOnNumber rnd rec q op := by
  cases hq <;> rfl

theorem flt_eq_of_guard (rnd : Rat → Rat) (q : Lit) (b : Rat) (hq : NumLit rnd q b) (x : Nat) (op : Op)
    (hg : cmpGuardQ rnd (.float x) op q = true) : q.flt = b := by
  cases hq with
  | float | zero => rfl
  | _ => exact of_decide_eq_true hg

theorem guard_float_of_exact (rnd : Rat → Rat) (q : Lit) (b : Rat) (hq : NumLit rnd q b) (h : rnd b = b) (x : Nat)
    (op : Op) : cmpGuardQ rnd (.float x) op q = true := by
  cases hq with
  | float => rfl
  | _ => exact decide_eq_true h

theorem impl_eq_spec_q (rnd : Rat → Rat) (ci : Bool) (v : SVal) (hv : v.wf) (op : Op) (q : Lit) (b : Rat)
    (hq : NumLit rnd q b) (hg : cmpGuardQ rnd v op q = true) :
    implCmp rnd ci v.enc op q = .ok (specCmp rnd v op q) := by
  rw [implCmp_num rnd ci _ op q b hq, fopOnNumber_enc rnd v hv]
  refine congrArg Res.ok ?_
  unfold specCmp
  rw [hq.num_eq]
  -- two integers are compared in `Int` on either side (`cmpQ_int`); where a float is involved the guard makes the
  -- `float64(·)` that the code applies to the integer exact, so the code too compares the two values
  cases v with
  | bool _ => rfl
  | backfill => rfl
  | float x =>
    show compareNumberDte (promote rnd q (.float _)) q op = cmpQ op _ b
    rw [promote_float, ← flt_eq_of_guard rnd q b hq x op hg]
    rfl
  | str s =>
    -- the guard of a string that reads as a number is that of a float64 record
    revert hg
    dsimp only [recNum?, SVal.num?, cmpGuardQ]
    cases numOfStr? s with
    | none => exact fun _ => rfl
    | some a =>
      intro hg
      show compareNumberDte (promote rnd q (.float _)) q op = cmpQ op _ b
      rw [promote_float, ← flt_eq_of_guard rnd q b hq 0 op hg]
      rfl
  | int i =>
    cases hq with
    | signed j => exact (cmpQ_int op i j).symm
    | unsigned u hl =>
      exact (compare_signed_unsigned op i ((int_wf_iff i).mp hv).2 _ u _ rfl hl).trans (cmpQ_int op i u).symm
    | zero => exact (cmpQ_int op i 0).symm
    | float _ _ => exact congrArg (cmpQ op · b) (of_decide_eq_true hg)
  | uint n =>
    cases hq with
    | signed _ => cases hg
    | unsigned u _ => exact (cmpQ_int op n u).symm
    | zero => exact (cmpQ_int op n 0).symm
    | float _ _ => exact congrArg (cmpQ op · b) (of_decide_eq_true hg)

theorem ciEqual_length_ne (a b : Bytes) (h : a.length ≠ b.length) : ciEqual a b = false := by
  induction a generalizing b with
  | nil => cases b with
    | nil => exact absurd rfl h
    | cons _ _ => rfl
  | cons x xs ih =>
    cases b with
    | nil => rfl
    | cons y ys =>
      show (_ && ciEqual xs ys) = false
      rw [ih ys fun e => h (congrArg (· + 1) e), Bool.and_false]

theorem bytesEq_length_ne (ci : Bool) (a b : Bytes) (h : a.length ≠ b.length) : bytesEq ci a b = false := by
  cases ci
  · exact decide_eq_false fun e => h (congrArg List.length e)
  · exact ciEqual_length_ne a b h

theorem implCmp_str_strLit (rnd : Rat → Rat) (ci : Bool) (s p : Bytes) (hs : s.length < 65536) (op : Op) :
    implCmp rnd ci (SVal.str s).enc op (strLit p) = match op with
      | .eq => .ok (bytesEq ci s p)
      | .ne => .ok (!bytesEq ci s p)
      | _ => .err "invalid-operator" := by
  rw [show (SVal.str s).enc = tStr :: (s.length % 256) :: (s.length / 256 % 256) :: s from encTLV_str_wf s hs]
  cases op with
  | eq =>
    show (if s.length ≠ p.length then Res.ok false else .ok (bytesEq ci s p)) = _
    by_cases h : s.length = p.length
    · exact if_neg (not_not_intro h)
    · rw [if_pos h, bytesEq_length_ne ci s p h]
  | _ => rfl

end SigModel.Lemmas.C02K
