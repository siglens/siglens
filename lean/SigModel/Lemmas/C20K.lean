/-
What the keyed stores share — association lists, functional update, the abstract store, case analysis on a step,
invariants along a run — and the saved-query store (Usq).
-/
import SigModel.Model.KV
import SigModel.Lemmas.Assoc

namespace SigModel.Lemmas.C20K
open SigModel.KV SigModel.Assoc

section AL
variable {K V : Type} [DecidableEq K]

theorem isGet_get : IsGet (fun k (l : AL K V) => l.get k) some none :=
  ⟨fun _ => rfl, fun _ _ _ => if_pos rfl, fun _ _ _ _ h => if_neg h⟩

theorem isPut_put : IsPut (fun k v (l : AL K V) => l.put k v) :=
  ⟨fun _ _ => rfl, fun _ _ _ _ => if_pos rfl, fun _ _ _ _ _ h => if_neg h⟩

theorem isErase_del : IsErase (fun k (l : AL K V) => l.del k) :=
  ⟨fun _ => rfl, fun _ _ _ => List.filter_cons_of_neg (by simp),
    fun _ _ _ _ h => List.filter_cons_of_pos (by simpa using h)⟩

theorem get_put (l : AL K V) (k : K) (v : V) (k' : K) :
    (l.put k v).get k' = if k' = k then some v else l.get k' :=
  isGet_get.get_put isPut_put k v l k'

theorem get_del (l : AL K V) (k k' : K) :
    (l.del k).get k' = if k' = k then none else l.get k' :=
  isGet_get.get_erase isErase_del k l k'

theorem mem_of_get {l : AL K V} {k : K} {v : V} (h : l.get k = some v) : (k, v) ∈ l :=
  isGet_get.mem_of_get h

theorem mem_keys_iff_get (l : AL K V) (k : K) : k ∈ l.keys ↔ l.get k ≠ none :=
  isGet_get.mem_keys_iff l k

theorem mem_iff_get (l : AL K V) (h : l.keys.Nodup) (k : K) (v : V) : (k, v) ∈ l ↔ l.get k = some v :=
  ⟨isGet_get.get_of_mem h, mem_of_get⟩

theorem keys_put_nodup (l : AL K V) (k : K) (v : V) (h : l.keys.Nodup) : (l.put k v).keys.Nodup :=
  isPut_put.nodup_keys k v h

omit [DecidableEq K] in
theorem keys_filter_nodup (l : AL K V) (p : K × V → Bool) (h : l.keys.Nodup) : (AL.keys (l.filter p)).Nodup :=
  List.Nodup.sublist ((List.filter_sublist).map _) h

theorem keys_del_nodup (l : AL K V) (k : K) (h : l.keys.Nodup) : (l.del k).keys.Nodup :=
  keys_filter_nodup l _ h

theorem get_put_ne (l : AL K V) {k k' : K} (v : V) (h : k' ≠ k) : (l.put k v).get k' = l.get k' :=
  isGet_get.put_ne isPut_put h v l

theorem get_del_ne (l : AL K V) {k k' : K} (h : k' ≠ k) : (l.del k).get k' = l.get k' :=
  (get_del l k k').trans (if_neg h)

theorem get_put_sub {l l' : AL K V} {k y : K} {v : V} (hk : l'.get k ≠ none) (hsub : l.get y ≠ none → l'.get y ≠ none)
    (h : (l.put k v).get y ≠ none) : l'.get y ≠ none := by
  by_cases e : y = k
  · exact e ▸ hk
  · exact hsub (get_put_ne l v e ▸ h)

theorem get_del_some {l : AL K V} {k y : K} {v : V} (h : (l.del k).get y = some v) : l.get y = some v :=
  (Option.ite_none_left_eq_some.1 ((get_del l k y).symm.trans h)).2

theorem get_del_sub {l : AL K V} {k y : K} (h : (l.del k).get y ≠ none) : l.get y ≠ none :=
  fun e => h ((get_del l k y).trans ((congrArg (ite (y = k) none) e).trans (ite_self none)))

theorem get_off {d d' : AL K V} {P : K → Prop} {k : K} (hk : P k) (hd : ∀ y, y ≠ k → d'.get y = d.get y) (y : K) :
    d'.get y = d.get y ∨ P y := by
  by_cases e : y = k
  · exact Or.inr (e ▸ hk)
  · exact Or.inl (hd y e)
end AL

section upd
variable {A B C : Type} [DecidableEq A]

theorem upd_same (f : A → B) (a : A) (b : B) : upd f a b a = b := if_pos rfl

theorem upd_other (f : A → B) {a x : A} (h : x ≠ a) (b : B) : upd f a b x = f x := if_neg h

theorem upd_all {P : B → Prop} {f : A → B} (h : ∀ x, P (f x)) (a : A) {b : B} (hb : P b) (x : A) : P (upd f a b x) :=
  iteInduction (motive := P) (fun _ => hb) fun _ => h x

theorem upd_all₂ {P : A → B → C → Prop} {f : A → B} {g : A → C} (h : ∀ x, P x (f x) (g x)) (a : A) {b : B} {c : C}
    (hb : P a b c) (x : A) : P x (upd f a b x) (upd g a c x) := by
  unfold upd
  by_cases e : x = a
  · subst e
    rewrite [if_pos rfl, if_pos rfl]
    exact hb
  · rewrite [if_neg e, if_neg e]
    exact h x
end upd

section sets
variable {A : Type} [DecidableEq A]

theorem mem_insSet (l : List A) (x y : A) : y ∈ insSet l x ↔ y ∈ l ∨ y = x := by
  unfold insSet; split
  · exact ⟨Or.inl, fun h => h.elim id fun e => e ▸ ‹x ∈ l›⟩
  · simp

theorem insSet_ne_nil (l : List A) (x : A) : insSet l x ≠ [] :=
  List.ne_nil_of_mem ((mem_insSet l x x).2 (Or.inr rfl))

theorem mem_delSet (l : List A) (x y : A) : y ∈ delSet l x ↔ y ∈ l ∧ y ≠ x := by
  unfold delSet; simp

end sets

section Spec
variable {T K V : Type} [DecidableEq T] [DecidableEq K]

theorem delete_none {s : Spec T K V} {t : T} {k : K} (h : s t k = none) : s.delete t k = (s, .notFound) := by
  unfold Spec.delete; rw [h]

theorem delete_some {s : Spec T K V} {t : T} {k : K} {v : V} (h : s t k = some v) :
    s.delete t k = (s.set t k none, .ok) := by
  unfold Spec.delete; rw [h]

theorem set_other (s : Spec T K V) {t t' : T} (h : t' ≠ t) (k : K) (v : Option V) (k' : K) : s.set t k v t' k' = s t' k' :=
  if_neg fun e => h e.1

theorem delete_other (s : Spec T K V) {t t' : T} (h : t' ≠ t) (k k' : K) : (s.delete t k).1 t' k' = s t' k' := by
  unfold Spec.delete
  cases s t k with
  | none => rfl
  | some _ => exact set_other s h k none k'

theorem set_eq {s g : Spec T K V} {t : T} {k : K} {o : Option V} (hoff : ∀ t', t' ≠ t → ∀ k', g t' k' = s t' k')
    (hon : ∀ k', g t k' = if k' = k then o else s t k') : g = s.set t k o := by
  funext t' k'
  unfold Spec.set
  by_cases e : t' = t
  · rewrite [e, hon]
    by_cases ek : k' = k
    · rw [if_pos ek, if_pos ⟨rfl, ek⟩]
    · rw [if_neg ek, if_neg fun c => ek c.2]
  · rw [if_neg fun c => e c.1, hoff t' e]

theorem create_none {s : Spec T K V} {t : T} {k : K} (h : s t k = none) (v : V) :
    s.create t k v = (s.set t k (some v), .ok) := by
  unfold Spec.create
  rw [h]

theorem create_some {s : Spec T K V} {t : T} {k : K} {w : V} (h : s t k = some w) (v : V) :
    s.create t k v = (s, .exists_) := by
  unfold Spec.create
  rw [h]

omit [DecidableEq T] [DecidableEq K] in
theorem filterOk_of_listOk {s : Spec T K V} {t : T} {l : List (K × V)} (h : s.ListOk t l) (p : K → Bool) :
    s.FilterOk t p (l.filter fun e => p e.1) :=
  ⟨keys_filter_nodup l _ h.1, fun k v =>
    List.mem_filter.trans (and_congr_left fun _ => h.2 k v)⟩
end Spec

theorem ite_fst {S O : Type} {P : S → Prop} {c : Prop} [Decidable c] {a b : S × O} (ha : c → P a.1) (hb : ¬c → P b.1) :
    P (if c then a else b).1 :=
  iteInduction (motive := fun x : S × O => P x.1) ha hb

theorem foldl_fix {A B : Type} (g : A → B → A) (a : A) (l : List B) (h : ∀ b ∈ l, g a b = a) : l.foldl g a = a :=
  List.foldlRecOn l g (motive := (· = a)) rfl fun _ e b hb => e ▸ h b hb

/-- each store defines its own `run`, of which `hnil` and `hcons` hold by `rfl` -/
theorem run_keeps {S O R : Type} {step : S → O → S × R} {run : S → List O → S × List R} {P : S → Prop}
    (hnil : ∀ st, (run st []).1 = st) (hcons : ∀ st op r, (run st (op :: r)).1 = (run (step st op).1 r).1)
    (hstep : ∀ st op, P st → P (step st op).1) (ops : List O) : ∀ st, P st → P (run st ops).1 := by
  induction ops with
  | nil => intro st h; rewrite [hnil]; exact h
  | cons op r ih => intro st h; rewrite [hcons]; exact ih _ (hstep st op h)

/-- each store defines its own `Refines`, of which `hcons` is the defining equation; `ok`: the answer is the
documented one -/
theorem refines_of_step {S O A : Type} {Ref : A → S → List O → Prop} {step : S → O → S} {abs : S → A}
    {next : A → S → O → A} {ok : A → S → O → Prop} {P : S → Prop} (hnil : ∀ s st, Ref s st [])
    (hcons : ∀ s st op r, ok s st op → abs (step st op) = next s st op → Ref (next s st op) (step st op) r →
      Ref s st (op :: r))
    (hstep : ∀ st op, P st → P (step st op) ∧ abs (step st op) = next (abs st) st op ∧ ok (abs st) st op)
    (ops : List O) : ∀ st, P st → Ref (abs st) st ops := by
  induction ops with
  | nil => exact fun st _ => hnil _ st
  | cons op r ih =>
    intro st h
    obtain ⟨h1, h2, h3⟩ := hstep st op h
    exact hcons _ st op r h3 h2 (h2 ▸ ih _ h1)

namespace Usq
open SigModel.KV.Usq
variable {V : Type}

structure Inv (st : St V) : Prop where
  sync : ∀ t, st.mem t = st.file t ∨ (st.mem t = none ∧ st.read t = false)
  nodup : ∀ t, ((st.file t).getD []).keys.Nodup

theorem inv_init : Inv (init : St V) := ⟨fun _ => Or.inl rfl, fun _ => List.nodup_nil⟩

theorem view_eq_file {st : St V} (h : Inv st) (t : Nat) : view st t = st.file t := by
  unfold view
  rcases h.sync t with e | ⟨em, er⟩
  · rewrite [e]
    cases st.file t <;> exact ite_self _
  · rewrite [er, em, if_neg Bool.false_ne_true]
    cases st.file t <;> rfl

theorem abs_eq_file {st : St V} (h : Inv st) (t : Nat) (k : Key) : abs st t k = ((st.file t).getD []).get k := by
  unfold abs
  rewrite [view_eq_file h]
  cases st.file t <;> rfl

/-- for `readSavedQueries` and a restart, which touch memory only -/
theorem abs_congr {st st' : St V} (h : Inv st) (h' : Inv st') (hf : st'.file = st.file) : abs st' = abs st := by
  funext t k
  rw [abs_eq_file h', abs_eq_file h, hf]

theorem readSaved_ok {st : St V} (h : Inv st) (t : Nat) (b : Bool) :
    Inv (readSaved st t b) ∧ abs (readSaved st t b) = abs st ∧ (readSaved st t b).mem t = (readSaved st t b).file t := by
  unfold readSaved
  cases hf : st.file t with
  | none => exact ⟨h, rfl, (h.sync t).elim id fun e => e.1.trans hf.symm⟩
  | some f =>
    dsimp only
    by_cases c : st.read t = false ∨ b = true
    · rewrite [if_pos c]
      have hi : Inv { st with mem := upd st.mem t (some f), read := upd st.read t true } :=
        ⟨upd_all₂ (P := fun x m r => m = st.file x ∨ (m = none ∧ r = false)) h.sync t (Or.inl hf.symm), h.nodup⟩
      exact ⟨hi, abs_congr h hi rfl, (upd_same _ t _).trans hf.symm⟩
    · rewrite [if_neg c]
      exact ⟨h, rfl, (h.sync t).resolve_right fun e => c (Or.inl e.2)⟩

theorem write_ok {st : St V} (h : Inv st) (t : Nat) {k : Key} {o : Option V} {m : AL Key V}
    (hn : m.keys.Nodup) (hm : ∀ k', m.get k' = if k' = k then o else ((st.file t).getD []).get k') :
    Inv { st with mem := upd st.mem t (some m), file := upd st.file t (some m) } ∧
      abs { st with mem := upd st.mem t (some m), file := upd st.file t (some m) } = (abs st).set t k o := by
  have hi : Inv { st with mem := upd st.mem t (some m), file := upd st.file t (some m) } :=
    ⟨upd_all₂ (P := fun x (m f : Option (AL Key V)) => m = f ∨ (m = none ∧ st.read x = false)) h.sync t (Or.inl rfl),
      upd_all (P := fun o : Option (AL Key V) => (o.getD []).keys.Nodup) h.nodup t hn⟩
  refine ⟨hi, set_eq (fun t' e k' => ?_) fun k' => ?_⟩
  · rewrite [abs_eq_file hi, abs_eq_file h]
    exact congrArg (fun o => (o.getD []).get k') (upd_other st.file e _)
  · rewrite [abs_eq_file hi, abs_eq_file h]
    exact (congrArg (fun o => (o.getD []).get k') (upd_same st.file t (some m))).trans (hm k')

theorem listOk {st : St V} (h : Inv st) (t : Nat) : (abs st).ListOk t ((st.file t).getD []) :=
  ⟨h.nodup t, fun k v => (abs_eq_file h t k).symm ▸ mem_iff_get _ (h.nodup t) k v⟩

theorem step_ok {st : St V} (h : Inv st) (op : Op V) (b : Bool) :
    Inv (step st op b).1 ∧ abs (step st op b).1 = specStep (abs st) op ∧ OutOk (abs st) op (step st op b).2 := by
  -- every request starts with `readSavedQueries` (`readSaved_ok`): the step then computes on the file, and a write
  -- is `write_ok`
  cases op with
  | put t k v =>
    dsimp only [step, specStep, OutOk]
    by_cases hk : k = []
    · rewrite [if_pos hk, if_pos hk, if_pos hk]
      exact ⟨h, rfl, rfl⟩
    · rewrite [if_neg hk, if_neg hk, if_neg hk]
      obtain ⟨h1, ha, hl⟩ := readSaved_ok h t b
      rewrite [← ha, hl]
      generalize readSaved st t b = st1 at h1 ⊢
      exact (write_ok h1 t (keys_put_nodup _ k v (h1.nodup t)) (get_put _ k v)).imp_right (⟨·, rfl⟩)
  | del t k =>
    dsimp only [step, specStep, OutOk]
    obtain ⟨h1, ha, hl⟩ := readSaved_ok h t b
    rewrite [← ha, hl]
    generalize readSaved st t b = st1 at h1 ⊢
    have hk := abs_eq_file h1 t k
    have hn := h1.nodup t
    cases hf : st1.file t with
    | none =>
      rewrite [hf] at hk
      rewrite [delete_none hk]
      exact ⟨h1, rfl, rfl⟩
    | some m0 =>
      rewrite [hf] at hk hn
      dsimp only
      cases hg : m0.get k with
      | none =>
        rewrite [delete_none (hk.trans hg)]
        exact ⟨h1, rfl, rfl⟩
      | some v0 =>
        rewrite [delete_some (hk.trans hg)]
        exact (write_ok h1 t (keys_del_nodup m0 k hn) (hf ▸ get_del m0 k)).imp_right (⟨·, rfl⟩)
  | search t q =>
    dsimp only [step, specStep, OutOk]
    obtain ⟨h1, ha, hl⟩ := readSaved_ok h t b
    exact ⟨h1, ha, ha ▸ hl ▸ filterOk_of_listOk (listOk h1 t) (isInfix q)⟩
  | list t =>
    dsimp only [step, specStep, OutOk]
    obtain ⟨h1, ha, hl⟩ := readSaved_ok h t b
    exact ⟨h1, ha, ha ▸ hl ▸ listOk h1 t⟩
  | restart =>
    have h0 : Inv { mem := fun _ => none, file := st.file, read := fun _ => false } :=
      ⟨fun _ => Or.inr ⟨rfl, rfl⟩, h.nodup⟩
    exact ⟨(readSaved_ok h0 0 b).1, (readSaved_ok h0 0 b).2.1.trans (abs_congr h h0 rfl), rfl⟩

theorem refines_of_inv (ops : List (Op V × Bool)) : ∀ (st : St V), Inv st → Refines (abs st) st ops :=
  refines_of_step (step := fun st x => (step st x.1 x.2).1) (next := fun s _ x => specStep s x.1)
    (ok := fun s st x => OutOk s x.1 (step st x.1 x.2).2) (fun _ _ => trivial)
    (fun _ _ _ _ h1 h2 h3 => ⟨h1, h2, h3⟩) (fun _ x h => step_ok h x.1 x.2) ops

theorem inv_run (ops : List (Op V × Bool)) : Inv (run (init : St V) ops).1 :=
  run_keeps (step := fun st x => step st x.1 x.2) (P := Inv) (fun _ => rfl) (fun _ _ _ => rfl)
    (fun _ x h => (step_ok h x.1 x.2).1) ops init inv_init

theorem abs_init : abs (init : St V) = Spec.empty := rfl

theorem specStep_other (s : Spec Nat Key V) (op : Op V) (t : Nat) (ht : op.tenant = some t) (t' : Nat) (hne : t' ≠ t)
    (k : Key) : specStep s op t' k = s t' k := by
  cases op with
  | put t0 k0 v =>
    cases ht
    exact iteInduction (motive := fun x : Spec Nat Key V => x t' k = s t' k) (fun _ => rfl) fun _ => set_other s hne k0 _ k
  | del t0 k0 =>
    cases ht
    exact delete_other s hne k0 k
  | search t0 q => rfl
  | list t0 => rfl
  | restart => rfl

end Usq

end SigModel.Lemmas.C20K
