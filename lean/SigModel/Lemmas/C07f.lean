/-
C07, segment numbers: the suffix allocation protocol at system-call level (Model/CrashSuffix.lean) and its tie
to the step model (Model/Crash.lean).
-/
import SigModel.Model.Crash
import SigModel.Model.CrashSuffix

namespace SigModel.Lemmas.C07f
open SigModel.CrashSuffix

theorem run_append (d : Disk) (a b : List Sys) : run d (a ++ b) = run (run d a) b :=
  List.foldl_append

theorem crashAfter_zero (proto : Nat → List Sys) (d : Disk) (k : Nat) : crashAfter proto 0 d k = d :=
  congrArg (run d) List.take_nil

theorem crashAfter_succ (proto : Nat → List Sys) (j : Nat) (d : Disk) (k : Nat) :
    crashAfter proto (j + 1) d k =
      run (run d ((proto (getSuffix d)).take k))
        ((allocs proto j (run d (proto (getSuffix d)))).take (k - (proto (getSuffix d)).length)) :=
  (congrArg (run d) List.take_append).trans (run_append d _ _)

theorem getSuffix_allocTmpRename (d : Disk) (r : Nat) : getSuffix (run d (allocTmpRename r)) = r + 1 := rfl

/-- `k < 3`: the rename is the third call; before it nothing a restart reads has changed, wherever the temp-file write
is cut (also between its open(O_TRUNC) and its write) -/
theorem getSuffix_allocTmpRename_prefix (d : Disk) (r k : Nat) (hk : k < 3) :
    getSuffix (run d ((allocTmpRename r).take k)) = getSuffix d := by
  rcases k with _ | _ | _ | k
  · rfl
  · rfl
  · rfl
  · exact absurd hk (Nat.not_lt.2 (Nat.le_add_left 3 k))

/-- `l`: the numbers handed out while the number on disk goes from `a` to `b` -/
def Incr (a b : Nat) (l : List Nat) : Prop := a ≤ b ∧ (∀ r ∈ l, a ≤ r ∧ r < b) ∧ l.Pairwise (· < ·)

namespace Incr

theorem nil {a b : Nat} (h : b = a) : Incr a b [] :=
  ⟨Nat.le_of_eq h.symm, List.forall_mem_nil _, List.Pairwise.nil⟩

theorem append {a b c : Nat} {l₁ l₂ : List Nat} (h₁ : Incr a b l₁) (h₂ : Incr b c l₂) : Incr a c (l₁ ++ l₂) :=
  ⟨Nat.le_trans h₁.1 h₂.1,
   fun r hr => (List.mem_append.1 hr).elim
     (fun h => ⟨(h₁.2.1 r h).1, Nat.lt_of_lt_of_le (h₁.2.1 r h).2 h₂.1⟩)
     (fun h => ⟨Nat.le_trans h₁.1 (h₂.2.1 r h).1, (h₂.2.1 r h).2⟩),
   List.pairwise_append.2 ⟨h₁.2.2, h₂.2.2, fun x hx y hy => Nat.lt_of_lt_of_le (h₁.2.1 x hx).2 (h₂.2.1 y hy).1⟩⟩

theorem single (a : Nat) : Incr a (a + 1) [a] :=
  ⟨Nat.le_succ a, List.forall_mem_singleton.2 ⟨Nat.le_refl a, Nat.lt_succ_self a⟩, List.pairwise_singleton _ a⟩

end Incr

/-- what `crashAfter_fresh` needs of a protocol.  The in-place variant `allocInPlace` breaks `before` (disk
`⟨.num 1, .missing⟩`, one call). -/
structure Atomic (proto : Nat → List Sys) : Prop where
  before : ∀ (d : Disk) (r k : Nat), k < (proto r).length → getSuffix (run d ((proto r).take k)) = getSuffix d
  after : ∀ (d : Disk), getSuffix (run d (proto (getSuffix d))) = getSuffix d + 1

theorem atomic_allocTmpRename : Atomic allocTmpRename :=
  ⟨getSuffix_allocTmpRename_prefix, fun d => getSuffix_allocTmpRename d _⟩

theorem Atomic.crashAfter_fresh {proto : Nat → List Sys} (A : Atomic proto) (j : Nat) (d : Disk) (k : Nat) :
    Incr (getSuffix d) (getSuffix (crashAfter proto j d k)) (handed proto j d k) := by
  fun_induction handed proto j d k with
  | case1 d k => exact Incr.nil (congrArg getSuffix (crashAfter_zero _ d k))
  | case2 j d k h ih =>
    -- the first allocation completed
    rw [crashAfter_succ, List.take_of_length_le h]
    exact (Incr.single _).append (A.after d ▸ ih)
  | case3 j d k h =>
    -- the first allocation was cut
    refine Incr.nil ?_
    rw [crashAfter_succ, Nat.sub_eq_zero_of_le (Nat.le_of_not_le h)]
    exact A.before d _ k (Nat.lt_of_not_le h)

theorem Atomic.life_fresh {proto : Nat → List Sys} (A : Atomic proto) (runs : List (Nat × Nat)) : ∀ (d : Disk),
    Incr (getSuffix d) (getSuffix (life proto d runs)) (lifeHanded proto d runs) := by
  induction runs with
  | nil => exact fun _ => Incr.nil rfl
  | cons r rest ih => exact fun d => (A.crashAfter_fresh r.1 d r.2).append (ih _)

theorem life_fresh (runs : List (Nat × Nat)) : ∀ (d : Disk),
    Incr (getSuffix d) (getSuffix (life allocTmpRename d runs)) (lifeHanded allocTmpRename d runs) :=
  atomic_allocTmpRename.life_fresh runs

def optFile : Option Nat → File
  | none => .missing
  | some n => .num n

def project (fs : SigModel.Crash.FS) : Disk := { file := optFile fs.suffix, tmp := optFile fs.suffixTmp }

theorem project_nextSuffix (fs : SigModel.Crash.FS) : SigModel.Crash.nextSuffix fs = getSuffix (project fs) := by
  cases fs with
  | mk _ suffix _ _ _ => cases suffix <;> rfl

theorem project_suffixTmp (fs : SigModel.Crash.FS) (n : Nat) :
    project (SigModel.Crash.apply fs (.suffixTmp n)) = run (project fs) [.tmpOpen, .tmpWrite n] := by
  cases fs
  rfl

theorem project_suffixRename (fs : SigModel.Crash.FS) :
    project (SigModel.Crash.apply fs .suffixRename) = run (project fs) [.rename] := by
  cases fs with
  | mk tmp _ _ _ _ => cases tmp <;> rfl

theorem project_mkdir (fs : SigModel.Crash.FS) (n : Nat) : project (SigModel.Crash.apply fs (.mkdir n)) = project fs :=
  iteInduction (motive := fun x => project x = project fs) (fun _ => rfl) (fun _ => rfl)

theorem project_openSteps (fs : SigModel.Crash.FS) (n : Nat) :
    project (SigModel.Crash.run fs (SigModel.Crash.openSteps n)) = run (project fs) (allocTmpRename n) := by
  dsimp only [SigModel.Crash.run, SigModel.Crash.openSteps, List.foldl]
  rw [project_mkdir, project_suffixRename, project_suffixTmp]
  rfl

end SigModel.Lemmas.C07f
