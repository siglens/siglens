/-
C19 — User-supplied names cannot reach files outside the data directory.

Model: SigModel/Model/Path.lean (lexical filepath.Clean / Join exactly as Go on Unix, and one function per path
builder of /repo = validation AS CODED, concatenation AS CODED, Clean).  `dataDir d` is the configured data
directory (absolute, cleaned, segments `d`), `H` the host id (one plain segment).

Part 1: `clean` for EVERY string: idempotent; its result has no ".", no empty segment, and ".." only as a leading block
        of a relative path.
Part 2: Join against an absolute cleaned base, for EVERY name: the result is inside the base if the name's segment
        walk never climbs above its start (`depthOK`), and only then when the base is not the root and no segment of
        the name is one of its directory names.
Part 3: per builder, for EVERY client value that passes the builder's validation as coded: the built path is inside the
        data dir — `confined_<builder>`, at full strength, for all twelve builders and for the READER of the tags tree
        (`confined_tagsTreeRead`: tag key of a tag filter of a metrics query; unchecked before repair c19-2:
        `tagsTreeReadOld_counterexample`).
        Seven of them (lookupUpload, inputlookup, aliasFile, baseSegDir, baseVTableDir, suffixFile, tagsTreeFile) checked
        at most non-emptiness or the extension of a value taken from a request body / form / query text before the
        `fix:` commits listed in known_findings.txt; their former definitions are kept as `…Old`, each with the theorem `…Old_counterexample`
        (the full statement was FALSE, minimal witness) and `…Old_partial` (true for values without a path separator),
        which is what the new theorems rest on: the validator now coded (`simpleName`) implies that guard
        (`confined_of_partial`, for any builder that checks `simpleName` and then builds as before).

Part 4: the COMPOSITION (Model/PathFlow.lean): a handler is a pipeline "pre-process, validate, post-process, join".  For
        EVERY pipeline: if the join is confined for every validated value after the post-processing, the pipeline is
        confined — whatever happens BEFORE validation; in particular when nothing happens between validation and use
        (`pipe_confined_id`).  The handlers of /repo are such pipelines (`…_is_pipe`, tied to the source by the call-order
        facts `C19.<function>.flow`).  Percent-decoding put between check and use breaks it (`decode_after_validate_counterexample`),
        the same decoding before the check does not (`decode_before_validate_confined`).
Part 5: metrics tag keys: the check is stateless, so EVERY datapoint of EVERY series (any number of samples sent with one
        TagsHolder) is either rejected or names only files inside the data dir (`confined_series`); the memoised check
        with the flag set before the walk is refuted (`memo_series_counterexample`).
Part 6: delete-index: for EVERY history of create / delete requests (any strings, any expansion of the request value into
        candidate names) every directory removed is inside the data dir (`confined_index_history`); without the
        membership test it is not (`deleteIndexNoGate_counterexample`).

Part 7: COLUMN names (JSON keys of events, sort-columns requests, sort columns of queries): the sort index file of EVERY
        column name is inside the data dir (`confined_sortindex`; before the repair it was not: `sortIndexFileOld_counterexample`);
        every other per-column file carries a hash of the name (`confined_hashedColumnFile`, for every hash function).

NOT proved: that this list of builders is complete (a listing aid, not a theorem; narrowed by the end-to-end suite `confine`,
which drives every name-carrying route of a real server inside a sandbox); symlinks (the model is lexical).
-/
import SigModel.Model.Path
import SigModel.Model.PathFlow
import SigModel.Lemmas.C19
import SigModel.Lemmas.C19b

namespace SigModel.Props.C19
open SigModel.Path
open SigModel.Lemmas.C19 (AbsBase)

/-! ## Part 1 — Clean -/

/-- C19.1d  The printed form is a faithful representation: parsing `clean s` gives the normal form back. -/
theorem clean_roundtrip (s : Str) : cleanN (clean s) = cleanN s :=
  Lemmas.C19.cleanN_render (Lemmas.C19.cleanN_normal s)

/-- C19.1a  Clean(Clean(s)) = Clean(s) for every byte string. -/
theorem clean_idempotent (s : Str) : clean (clean s) = clean s :=
  congrArg render (clean_roundtrip s)

/-- C19.1b  Shape of every cleaned path: `k` times ".." followed only by plain segments (non-empty, not ".", not "..",
    no '/'); `k = 0` when the path is rooted.  So ".." never occurs after a real segment, and never in an absolute path. -/
theorem clean_no_dotdot_after_prefix (s : Str) :
    ∃ rest k, (cleanN s).segs = List.replicate k dd ++ rest ∧ ((cleanN s).rooted = true → k = 0) ∧ ∀ x ∈ rest, Plain x :=
  Lemmas.C19.cleanN_normal s

/-- C19.1c  A cleaned ABSOLUTE path contains no ".." segment at all. -/
theorem clean_abs_no_dotdot (s : Str) (h : (cleanN s).rooted = true) : dd ∉ (cleanN s).segs := by
  obtain ⟨rest, k, hs, hk, hp⟩ := Lemmas.C19.cleanN_normal s
  rw [hs, hk h]
  exact fun hm => (hp dd hm).2.2.1 rfl

example : clean "a/../../b/./c//".toList = "../b/c".toList := by decide_chars
example : clean "/../a/b/../..".toList = "/".toList := by decide_chars
example : clean [] = ".".toList := by decide_chars

/-! ## Part 2 — Join -/

/-- C19.2a  For every absolute cleaned base and EVERY name (relative, absolute, empty, with any metacharacters):
    if the name's segment walk never climbs above its start, filepath.Join(base, name) is inside base. -/
theorem join_within_of_depthOK (b : NPath) (hb : AbsBase b) (name : Str) (h : depthOK name) :
    within b (cleanN (join (render b) name)) := by
  rw [Lemmas.C19.within_absBase hb, Lemmas.C19.cleanN_join_base hb]
  exact Lemmas.C19.within_dataPath hb.2 name h

/-- C19.2b  The characterisation.  `hfresh` (no segment of the name equals a segment of the base) excludes names that leave
    the base and re-enter it by spelling out its own directory names ("../lookups/x" joined to "/d/lookups" IS inside);
    `hne` excludes the root, which nothing can leave. -/
theorem join_within_iff (b : NPath) (hb : AbsBase b) (hne : b.segs ≠ []) (name : Str)
    (hfresh : ∀ s ∈ splitSlash name, s ∉ b.segs) :
    within b (cleanN (join (render b) name)) ↔ depthOK name := by
  rw [Lemmas.C19.within_absBase hb, Lemmas.C19.cleanN_join_base hb]
  exact Lemmas.C19.within_dataPath_iff hb.2 hne name hfresh

/-- C19.2c  For absolute cleaned paths `within` is the usual string test (what the Go harness checks with filepath.Rel):
    the printed path equals the printed base, or starts with base ++ "/" (`hne`: the root prints as "/", and nothing
    cleaned starts with "//"). -/
theorem within_string_form (b p : NPath) (hb : AbsBase b) (hne : b.segs ≠ []) (hp : AbsBase p) :
    within b p ↔ (render p = render b ∨ (render b ++ ['/']) <+: render p) := by
  obtain ⟨_, bs⟩ := b
  obtain ⟨_, ps⟩ := p
  cases hb.1
  cases hp.1
  obtain ⟨y, bs', rfl⟩ := List.exists_cons_of_ne_nil hne
  constructor
  · rintro ⟨_, r, hr⟩
    have hr : y :: bs' ++ r = ps := hr
    subst hr
    cases r with
    | nil => exact .inl (by rw [List.append_nil])
    | cons x r' =>
      exact .inr ⟨joinSegs (x :: r'), congrArg ('/' :: ·)
        ((List.append_assoc _ ['/'] _).trans (Lemmas.C19.joinSegs_append y bs' x r').symm)⟩
  · rintro (h | ⟨t, ht⟩)
    · have he := congrArg cleanN h
      rw [Lemmas.C19.cleanN_render (Lemmas.C19.absBase_normal hp),
        Lemmas.C19.cleanN_render (Lemmas.C19.absBase_normal hb)] at he
      exact he ▸ ⟨rfl, List.prefix_refl _⟩
    · cases ps with
      | nil =>
        -- the printed root "/" has nothing after its first character, `base ++ "/"` has
        exact absurd (List.append_eq_nil_iff.mp (List.append_eq_nil_iff.mp (List.cons.inj ht).2).1).2 (List.cons_ne_nil _ _)
      | cons z ps' =>
        -- parse both printed paths back into their segments
        have hs := congrArg splitSlash ht
        rw [List.append_assoc, List.singleton_append, Lemmas.C19.splitSlash_append_slash,
          Lemmas.C19.splitSlash_render_abs hne hb.2, Lemmas.C19.splitSlash_render_abs (List.cons_ne_nil z ps') hp.2] at hs
        exact ⟨rfl, splitSlash t, (List.cons.inj hs).2⟩

/-- C19.2d  The lookup builders' `lookupJoin` IS filepath.Join(config.GetLookupPath(), name) for a non-empty name. -/
theorem lookupJoin_is_filepath_join (d : List Seg) (name : Str) (hn : name ≠ []) :
    lookupJoin d name = cleanN (join (dataPath d ++ "lookups/".toList) name) := by
  have ha : dataPath d ++ "lookups/".toList ≠ [] := List.append_ne_nil_of_left_ne_nil (List.cons_ne_nil _ _) _
  rw [join, if_neg ha, if_neg hn, clean, Lemmas.C19.cleanN_render (Lemmas.C19.cleanN_normal _), lookupJoin]
  -- the same characters on both sides, bracketed differently
  repeat rw [String.toList_ofList]
  rw [List.append_assoc]
  rfl

/-- why `hfresh` is needed: this name climbs above its start and comes back -/
example : within ⟨true, [['d'], ['l']]⟩ (cleanN (join "/d/l".toList "../l/x".toList)) ∧ ¬ depthOK "../l/x".toList := by decide_chars

/-- an absolute name does NOT replace the base in filepath.Join -/
example : clean (join "/d/l".toList "/etc/passwd".toList) = "/d/l/etc/passwd".toList := by decide_chars

/-! ## Part 3 — the builders -/

/-- the configured data directory and host id are ordinary names -/
def Setup (d : List Seg) (H : Seg) : Prop := (∀ s ∈ d, Plain s) ∧ Plain H

/-- the guard of the `_partial` theorems: the client value contains no path separator -/
abbrev Guard (v : Str) : Prop := noSlash v

example : ∃ v : Str, v ≠ [] ∧ Guard v := ⟨['a'], by decide +kernel⟩

/-- the hypotheses on the configuration are satisfiable -/
theorem setup_example : Setup [['d']] ['H'] := by
  unfold Setup
  decide +kernel

/-! ### builders whose validation (as coded) suffices -/

/-- C19.3 lookupGet: GET /api/lookup-files/{lookupFilename} — every value the router hands to the handler stays inside the data dir. -/
theorem confined_lookupGet (d : List Seg) (H : Seg) (hs : Setup d H) (v : Str) (p : NPath)
    (h : lookupGet d v = some p) : within (dataDir d) p :=
  Lemmas.C19.of_guarded (fun hr => Lemmas.C19.within_lookupJoin hs.1 (Lemmas.C19.routeParamOK_noSlash hr))
    (Option.ite_none_right_eq_some.mp h).2

/-- C19.3 lookupDelete: DELETE /api/lookup-files/{lookupFilename}. -/
theorem confined_lookupDelete (d : List Seg) (H : Seg) (hs : Setup d H) (v : Str) (p : NPath)
    (h : lookupDelete d v = some p) : within (dataDir d) p :=
  confined_lookupGet d H hs v p h

/-- C19.3 mappingFile: PUT /elastic/{indexName} → mappings/<index>.json. -/
theorem confined_mappingFile (d : List Seg) (H : Seg) (hs : Setup d H) (v : Str) (p : NPath)
    (h : mappingFile d H v = some p) : within (dataDir d) p :=
  Lemmas.C19.of_guarded (fun hr => Lemmas.C19.within_of_safe hs.1 (.dir Lemmas.C19.plain_ingestnodes <| .dir hs.2 <|
    .dir Lemmas.C19.plain_vtabledata <| .dir (by decide_chars) <|
    .name (List.not_mem_append (Lemmas.C19.routeParamOK_noSlash hr.1) Lemmas.C19.noSlash_json) .nil)) h

/-- C19.3 dashboardDetails: /api/dashboards/{dashboard-id} (get, favorite, delete) → details/<id>.json. -/
theorem confined_dashboardDetails (d : List Seg) (H : Seg) (hs : Setup d H) (v : Str) (p : NPath)
    (h : dashboardDetails d H v = some p) : within (dataDir d) p :=
  Lemmas.C19.of_guarded (fun hr => Lemmas.C19.within_of_safe hs.1 (.dir (by decide_chars) <| .dir hs.2 <|
    .dir (by decide_chars) <| .dir (by decide_chars) <|
    .name (List.not_mem_append (Lemmas.C19.routeParamOK_noSlash hr) Lemmas.C19.noSlash_json) .nil)) h

/-- C19.3 scrollResults: whatever scroll_id the client sends, the file name is built from an id of the server-side table or a
    fresh UUID; as long as those contain no '/', the path is inside the data dir. -/
theorem confined_scrollResults (d : List Seg) (H : Seg) (hs : Setup d H) (known : List Str) (fresh : Str)
    (hknown : ∀ k ∈ known, noSlash k) (hfresh : noSlash fresh) (v : Str) (p : NPath)
    (h : scrollResults d H known fresh v = some p) : within (dataDir d) p := by
  cases h
  have hid : '/' ∉ scrollId known fresh v :=
    iteInduction (motive := ('/' ∉ ·)) (hknown v) fun _ => hfresh
  exact Lemmas.C19.within_of_safe hs.1 (.dir hs.2 <| .dir (by decide_chars) <|
    .name (List.not_mem_append hid Lemmas.C19.noSlash_csv) .nil)

example : lookupGet [['d']] "a.csv".toList = some ⟨true, [['d'], "lookups".toList, "a.csv".toList]⟩ := by
  -- here and below: `delta` brings the string literals in the bodies of the builders within reach of the rewrite of
  -- `decide_chars` (see there); a definition whose literal the evaluation never reaches stays folded
  delta lookupGet lookupGetOld lookupJoin hasLookupExt csvExt
  decide_chars
example : lookupGet [['d']] "../a.csv".toList = none := by
  delta lookupGet hasLookupExt csvExt
  decide_chars
example : lookupGet [['d']] "..".toList = none ∧ lookupGetOld [['d']] "..".toList = some ⟨true, [['d']]⟩ := by
  delta lookupGet lookupGetOld lookupJoin hasLookupExt csvExt csvGzExt
  decide_chars
example : lookupGet [['d']] "7".toList = none ∧ lookupGet [['d']] "A.CSV.gz".toList = some ⟨true, [['d'], "lookups".toList, "A.CSV.gz".toList]⟩ := by
  delta lookupGet lookupGetOld lookupJoin hasLookupExt csvExt csvGzExt
  decide_chars

/-! ### builders repaired by the fix: commits — the old definitions -/

/-- the full statement for a builder that takes only the data dir -/
def ConfinedD (build : List Seg → Str → Option NPath) : Prop :=
  ∀ (d : List Seg) (H : Seg) (v : Str) (p : NPath), Setup d H → build d v = some p → within (dataDir d) p

/-- the full statement for a builder that also takes the host id -/
def ConfinedDH (build : List Seg → Seg → Str → Option NPath) : Prop :=
  ∀ (d : List Seg) (H : Seg) (v : Str) (p : NPath), Setup d H → build d H v = some p → within (dataDir d) p

/-- one value that the builder sends outside the data dir "/d" refutes the full statement (a `ConfinedD` statement is
    the `ConfinedDH` statement of the builder that ignores `H`) -/
theorem not_confined {build : List Seg → Seg → Str → Option NPath} (v : Str) (p : NPath)
    (hb : build [['d']] ['H'] v = some p) (hp : ¬ within (dataDir [['d']]) p) : ¬ ConfinedDH build :=
  fun h => hp (h _ _ v p setup_example hb)

/-- what the validator now coded (utils.IsSimpleFileName) gives -/
theorem simpleName_guard {v : Str} (h : simpleName v = true) : Guard v :=
  (of_decide_eq_true h).2.2.2.1

/-- A builder that first checks `simpleName` and then builds as before the fix inherits what holds of the old builder
    under the guard. -/
theorem confined_of_partial {old : List Seg → Seg → Str → Option NPath}
    (hp : ∀ d H, Setup d H → ∀ v, Guard v → ∀ p, old d H v = some p → within (dataDir d) p) :
    ConfinedDH (fun d H v => if simpleName v then old d H v else none) := by
  intro d H v p hs h
  rw [Option.ite_none_right_eq_some] at h
  exact hp d H hs v (simpleName_guard h.1) p h.2

/-- lookupUpload BEFORE the fix (form value `name` joined unchecked): the full statement was FALSE; `../../x.csv` landed beside the data dir. -/
theorem lookupUploadOld_counterexample : ¬ ConfinedD lookupUploadOld :=
  not_confined "../../x.csv".toList ⟨true, ["x.csv".toList]⟩
    (by delta lookupUploadOld uploadName lookupJoin csvExt; decide_chars) (by decide_chars)

theorem lookupUploadOld_partial (d : List Seg) (H : Seg) (hs : Setup d H) (v : Str) (hg : Guard v) (p : NPath)
    (h : lookupUploadOld d v = some p) : within (dataDir d) p :=
  Option.some.inj (Option.ite_none_left_eq_some.mp h).2 ▸
    Lemmas.C19.within_lookupJoin hs.1 (Lemmas.C19.uploadName_noSlash hg)

/-- inputlookup BEFORE the fix (extension check only): the full statement was FALSE. -/
theorem inputlookupOld_counterexample : ¬ ConfinedD inputlookupOld :=
  not_confined "../../x.csv".toList ⟨true, ["x.csv".toList]⟩
    (by delta inputlookupOld lookupJoin csvExt; decide_chars) (by decide_chars)

theorem inputlookupOld_partial (d : List Seg) (H : Seg) (hs : Setup d H) (v : Str) (hg : Guard v) (p : NPath)
    (h : inputlookupOld d v = some p) : within (dataDir d) p :=
  Lemmas.C19.of_guarded (fun _ => Lemmas.C19.within_lookupJoin hs.1 hg) h

/-- aliasFile BEFORE the fix (POST /_aliases `index`, only checked for non-emptiness): the full statement was FALSE. -/
theorem aliasFileOld_counterexample : ¬ ConfinedDH aliasFileOld :=
  not_confined "../../../../../x".toList ⟨true, ["x.json".toList]⟩ (by delta aliasFileOld; decide_chars) (by decide_chars)

theorem aliasFileOld_partial (d : List Seg) (H : Seg) (hs : Setup d H) (v : Str) (hg : Guard v) (p : NPath)
    (h : aliasFileOld d H v = some p) : within (dataDir d) p :=
  Option.some.inj (Option.ite_none_left_eq_some.mp h).2 ▸
    Lemmas.C19.within_of_safe hs.1 (.dir Lemmas.C19.plain_ingestnodes <| .dir hs.2 <| .dir Lemmas.C19.plain_vtabledata <|
      .dir (by decide_chars) <| .name (List.not_mem_append hg Lemmas.C19.noSlash_json) .nil)

/-- baseSegDir BEFORE the fix (index name = `_index` of a bulk action, unchecked): the full statement was FALSE. -/
theorem baseSegDirOld_counterexample : ¬ ConfinedDH baseSegDirOld :=
  not_confined "../../../x".toList ⟨true, [['x'], SID, ['0']]⟩ (by delta baseSegDirOld SID; decide_chars) (by decide_chars)

theorem baseSegDirOld_partial (d : List Seg) (H : Seg) (hs : Setup d H) (v : Str) (hg : Guard v) (p : NPath)
    (h : baseSegDirOld d H v = some p) : within (dataDir d) p :=
  Option.some.inj h ▸ Lemmas.C19.within_of_safe hs.1 (.dir hs.2 <| .dir Lemmas.C19.plain_final <| .name hg <|
    .dir Lemmas.C19.plain_SID <| .dir Lemmas.C19.plain_zero <| .skip .nil)

/-- baseVTableDir BEFORE the fix: the full statement was FALSE. -/
theorem baseVTableDirOld_counterexample : ¬ ConfinedDH baseVTableDirOld :=
  not_confined "../../../x".toList ⟨true, [['x'], SID]⟩ (by delta baseVTableDirOld SID; decide_chars) (by decide_chars)

theorem baseVTableDirOld_partial (d : List Seg) (H : Seg) (hs : Setup d H) (v : Str) (hg : Guard v) (p : NPath)
    (h : baseVTableDirOld d H v = some p) : within (dataDir d) p :=
  Option.some.inj h ▸ Lemmas.C19.within_of_safe hs.1 (.skip <| .dir hs.2 <| .dir Lemmas.C19.plain_final <| .name hg <|
    .dir Lemmas.C19.plain_SID .nil)

/-- suffixFile BEFORE the fix: the full statement was FALSE. -/
theorem suffixFileOld_counterexample : ¬ ConfinedDH suffixFileOld :=
  not_confined "../../../x".toList ⟨true, [['x'], "0-0-7.suffix".toList]⟩ (by delta suffixFileOld SID; decide_chars)
    -- the comparison with the data dir stops at the first segment: the literal is never read
    (by decide +kernel)

theorem suffixFileOld_partial (d : List Seg) (H : Seg) (hs : Setup d H) (v : Str) (hg : Guard v) (p : NPath)
    (h : suffixFileOld d H v = some p) : within (dataDir d) p :=
  Option.some.inj h ▸ Lemmas.C19.within_of_safe hs.1 (.dir hs.2 <| .dir (by decide_chars) <| .name hg <|
    .dir (by unfold SID; decide_chars) .nil)

/-- tagsTreeFile BEFORE the fix (tag key of an ingested datapoint, unchecked): the full statement was FALSE. -/
theorem tagsTreeFileOld_counterexample : ¬ ConfinedDH tagsTreeFileOld :=
  not_confined "../../../../../../x".toList ⟨true, [['x']]⟩ (by delta tagsTreeFileOld; decide_chars) (by decide_chars)

theorem tagsTreeFileOld_partial (d : List Seg) (H : Seg) (hs : Setup d H) (v : Str) (hg : Guard v) (p : NPath)
    (h : tagsTreeFileOld d H v = some p) : within (dataDir d) p :=
  Option.some.inj h ▸ Lemmas.C19.within_of_safe hs.1 (.dir hs.2 <| .dir Lemmas.C19.plain_final <| .dir (by decide_chars) <|
    .dir (by unfold MID; decide_chars) <| .dir Lemmas.C19.plain_zero <| .name hg .nil)

/-! ### the repaired builders, full strength -/

/-- C19.3 lookupUpload (POST /api/lookup-upload, form value `name`): every name the handler accepts is stored inside the data dir. -/
theorem confined_lookupUpload : ConfinedD lookupUpload :=
  confined_of_partial (old := fun d _ => lookupUploadOld d) lookupUploadOld_partial

/-- C19.3 inputlookup (`| inputlookup "<file>"`): every file name the command accepts is read from inside the data dir. -/
theorem confined_inputlookup : ConfinedD inputlookup :=
  confined_of_partial (old := fun d _ => inputlookupOld d) inputlookupOld_partial

/-- C19.3 aliasFile (POST /_aliases and the alias routes): every index name accepted reads/writes/deletes inside the data dir. -/
theorem confined_aliasFile : ConfinedDH aliasFile := confined_of_partial aliasFileOld_partial

/-- C19.3 baseSegDir: every index name accepted at ingest gets its segment directories inside the data dir. -/
theorem confined_baseSegDir : ConfinedDH baseSegDir := confined_of_partial baseSegDirOld_partial

/-- C19.3 baseVTableDir. -/
theorem confined_baseVTableDir : ConfinedDH baseVTableDir := confined_of_partial baseVTableDirOld_partial

/-- C19.3 suffixFile. -/
theorem confined_suffixFile : ConfinedDH suffixFile := confined_of_partial suffixFileOld_partial

/-- C19.3 tagsTreeFile: every tag key of an accepted datapoint names a file inside the data dir. -/
theorem confined_tagsTreeFile : ConfinedDH tagsTreeFile := confined_of_partial tagsTreeFileOld_partial

/-- tagsTreeRead BEFORE the repair (tag key of a tag filter of a metrics QUERY, appended to the tags tree directory of a
    rotated segment unchecked and stat'ed / opened / read): the full statement was FALSE — `GET /otsdb/api/query?…&m=avg:m{../../../../../../x=v}`
    made the server open and read x beside the data dir (known_findings: confine/oqK/read-outside). -/
theorem tagsTreeReadOld_counterexample : ¬ ConfinedDH tagsTreeReadOld := tagsTreeFileOld_counterexample

/-- …and the empty key named the tags tree DIRECTORY itself (stat succeeds, the open directory is never closed) -/
example : tagsTreeReadOld [['d']] ['H'] [] = some ⟨true, [['d'], ['H'], "final".toList, "tth".toList, MID, ['0']]⟩ := by
  delta tagsTreeReadOld tagsTreeFileOld
  decide_chars

theorem tagsTreeReadOld_partial (d : List Seg) (H : Seg) (hs : Setup d H) (v : Str) (hg : Guard v) (p : NPath)
    (h : tagsTreeReadOld d H v = some p) : within (dataDir d) p :=
  tagsTreeFileOld_partial d H hs v hg p h

/-- C19.3 confined_tagsTreeRead: for EVERY tag key of EVERY tag filter of a metrics query (any protocol: the reader is the
    only place where the key becomes a file name) the file the reader stats, opens and reads is inside the data dir — or the
    key is answered like a key no series has. -/
theorem confined_tagsTreeRead : ConfinedDH tagsTreeRead := confined_of_partial tagsTreeReadOld_partial

/-- reader and writer agree on every key: a key the writer can have stored is a key the reader opens, under the same name -/
theorem tagsTreeRead_eq_write (d : List Seg) (H : Seg) (v : Str) : tagsTreeRead d H v = tagsTreeFile d H v := rfl

theorem tagsTreeRead_is_pipe (d : List Seg) (H : Seg) (v : Str) : tagsTreeRead d H v = (tagKeyPipe d H).run v := by
  rfl

example : tagsTreeRead [['d']] ['H'] "host.name".toList = some ⟨true, [['d'], ['H'], "final".toList, "tth".toList, MID, ['0'], "host.name".toList]⟩ ∧
    tagsTreeRead [['d']] ['H'] "../../../../../../x".toList = none ∧ tagsTreeRead [['d']] ['H'] [] = none ∧ tagsTreeRead [['d']] ['H'] "..".toList = none :=
  ⟨by delta tagsTreeRead tagsTreeReadOld tagsTreeFileOld; decide_chars, by decide_chars⟩

/-- names that are valid today keep working: letters, digits, '-', '_', inner dots, unicode -/
example : (lookupUpload [['d']] "my-lookup_v1.2.csv".toList).isSome ∧ (baseSegDir [['d']] ['H'] "logs.2024-06".toList).isSome ∧
    (tagsTreeFile [['d']] ['H'] "host.name".toList).isSome ∧ (aliasFile [['d']] ['H'] "évts".toList).isSome := by decide_chars

/-- and these are refused -/
example : lookupUpload [['d']] "../../x.csv".toList = none ∧ inputlookup [['d']] "a\\..\\x.csv".toList = none ∧
    aliasFile [['d']] ['H'] "..".toList = none ∧ baseSegDir [['d']] ['H'] "a/b".toList = none ∧ tagsTreeFile [['d']] ['H'] [] = none := by decide_chars

/-! ## Part 4 — validate-then-use pipelines -/

/-- the full statement for a pipeline: whatever value arrives, the path it is turned into is inside `base` -/
def ConfinedPipe (base : NPath) (p : Pipe) : Prop := ∀ v q, p.run v = some q → within base q

/-- C19.4a  For EVERY pipeline: if the join of the post-processed value is confined for every value the validator accepts,
    the pipeline is confined — no matter what is done to the value BEFORE it is validated. -/
theorem pipe_confined (base : NPath) (p : Pipe)
    (hb : ∀ w, p.validate w = true → within base (p.build (p.post w))) : ConfinedPipe base p :=
  fun v _ h => Lemmas.C19.of_guarded (hb (p.pre v)) h

/-- C19.4b  …in particular when the transformation between validation and use is the identity: the validator's guarantee
    about the string it saw IS the guarantee about the string that is joined. -/
theorem pipe_confined_id (base : NPath) (p : Pipe) (hid : p.post = id)
    (hb : ∀ w, p.validate w = true → within base (p.build w)) : ConfinedPipe base p :=
  pipe_confined base p (by rw [hid]; exact hb)

/-- `simpleName` refuses the empty name, which is all that the non-emptiness test of an old builder asked for -/
theorem ite_simpleName_ne_nil {α : Type} (v : Str) (x : Option α) :
    (if simpleName v then (if v = [] then none else x) else none) = if simpleName v then x else none :=
  ite_congr rfl (fun h => if_neg (of_decide_eq_true h).1) (fun _ => rfl)

/-- the handlers ARE these pipelines (same function, for every value) -/
theorem lookupUpload_is_pipe (d : List Seg) (v : Str) : lookupUpload d v = (uploadPipe d).run v := by
  dsimp only [uploadPipe, Pipe.run, id]
  exact ite_simpleName_ne_nil v _

theorem inputlookup_is_pipe (d : List Seg) (v : Str) : inputlookup d v = (inputlookupPipe d).run v := by
  -- the builder nests the two tests, the pipeline validates their conjunction
  unfold inputlookup inputlookupOld Pipe.run inputlookupPipe isCsvName
  by_cases hv : simpleName v = true
  · simp [hv]
  · simp [hv]

theorem aliasFile_is_pipe (d : List Seg) (H : Seg) (v : Str) : aliasFile d H v = (aliasPipe d H).run v := by
  dsimp only [aliasPipe, Pipe.run, id]
  exact ite_simpleName_ne_nil v _

theorem baseSegDir_is_pipe (d : List Seg) (H : Seg) (v : Str) : baseSegDir d H v = (segDirPipe d H).run v := by
  rfl

theorem tagsTreeFile_is_pipe (d : List Seg) (H : Seg) (v : Str) : tagsTreeFile d H v = (tagKeyPipe d H).run v := by
  rfl

/-- C19.4c  the lookup upload as coded (check, then only the extension append, then join) is confined -/
theorem confined_uploadPipe (d : List Seg) (H : Seg) (hs : Setup d H) : ConfinedPipe (dataDir d) (uploadPipe d) :=
  pipe_confined _ _ fun w hw => by
    -- without this step the unifier unfolds `lookupJoin`, which is slow to check
    dsimp only [uploadPipe] at hw ⊢
    exact Lemmas.C19.within_lookupJoin hs.1 (Lemmas.C19.uploadName_noSlash (simpleName_guard hw))

/-- what url.PathUnescape makes of a name the validator accepts -/
example : simpleName "..%2F..%2Fx.csv".toList = true ∧ pctDecode "..%2F..%2Fx.csv".toList = some "../../x.csv".toList := by decide_chars
example : pctDecode "%zz".toList = none ∧ pctDecode "a%2".toList = none ∧ pctDecode "a+b%41".toList = some "a+bA".toList := by decide_chars

/-- C19.4d  percent-decoding BETWEEN the check and the join (seeded change C19-1): the full statement is FALSE — the name
    `..%2F..%2Fx.csv` passes the check and lands beside the data dir. -/
theorem decode_after_validate_counterexample : ¬ ConfinedPipe (dataDir [['d']]) (uploadPipeDecodeAfter [['d']]) := fun h =>
  absurd (h "..%2F..%2Fx.csv".toList ⟨true, ["x.csv".toList]⟩
    (by delta uploadPipeDecodeAfter uploadName lookupJoin csvExt; decide_chars)) (by decide_chars)

/-- C19.4e  the same decoding done BEFORE the check is harmless: the validator then sees the string that is joined. -/
theorem decode_before_validate_confined (d : List Seg) (H : Seg) (hs : Setup d H) :
    ConfinedPipe (dataDir d) (uploadPipeDecodeBefore d) :=
  fun v => confined_uploadPipe d H hs (decodeOrKeep v)

example : (uploadPipeDecodeBefore [['d']]).run "..%2F..%2Fx.csv".toList = none ∧
    (uploadPipeDecodeBefore [['d']]).run "my%20hosts.csv".toList = some ⟨true, [['d'], "lookups".toList, "my hosts.csv".toList]⟩ := by
  delta uploadPipeDecodeBefore uploadName lookupJoin csvExt
  decide_chars

/-! ## Part 5 — metrics: every datapoint of every series -/

/-- C19.5a  EVERY datapoint of EVERY series: with any tag keys and any number `n` of samples sent with one TagsHolder, each
    sample is either rejected or every tags-tree file it names is inside the data dir. -/
theorem confined_series (d : List Seg) (H : Seg) (hs : Setup d H) (keys : List Str) (n : Nat) :
    ∀ r ∈ encodeSeries d H keys n, ∀ ps, r = some ps → ∀ p ∈ ps, within (dataDir d) p := by
  intro r hr ps hps p hp
  rw [(List.mem_replicate.mp hr).2, encodeDatapoint, Option.ite_none_right_eq_some, Option.some.injEq] at hps
  obtain ⟨hk, rfl⟩ := hps
  obtain ⟨k, hkm, hkp⟩ := List.mem_filterMap.mp hp
  exact tagsTreeFileOld_partial d H hs k (simpleName_guard (List.all_eq_true.mp hk k hkm)) p hkp

/-- C19.5b  the verdict does not depend on the position of the sample in the series (the check keeps no state). -/
theorem series_uniform (d : List Seg) (H : Seg) (keys : List Str) (n : Nat) :
    ∀ r ∈ encodeSeries d H keys n, r = encodeDatapoint d H keys :=
  fun _ hr => (List.mem_replicate.mp hr).2

/-- the statement of C19.5a for the memoised check -/
def ConfinedMemo : Prop := ∀ (d : List Seg) (H : Seg) (keys : List Str) (n : Nat), Setup d H →
    ∀ r ∈ encodeSeriesMemo d H keys n false, ∀ ps, r = some ps → ∀ p ∈ ps, within (dataDir d) p

/-- C19.5c  remembering "keys already checked" in the holder, with the flag set before the walk (seeded change C19-3): FALSE —
    the second sample of a series with the key `../../../../../../x` is accepted and names a file beside the data dir. -/
theorem memo_series_counterexample : ¬ ConfinedMemo := fun h =>
  -- the second sample is `some` of the files of all keys; only the file the key names is left to evaluation
  absurd (h [['d']] ['H'] ["../../../../../../x".toList] 2 setup_example
    _ (.tail _ (.head _)) _ rfl ⟨true, [['x']]⟩ (by delta tagsTreeFileOld; decide_chars)) (by decide +kernel)

example : encodeSeries [['d']] ['H'] ["host".toList, "../x".toList] 3 = [none, none, none] := by decide_chars
example : (encodeSeries [['d']] ['H'] ["host".toList] 2).all Option.isSome = true := by decide_chars

/-! ## Part 6 — delete-index -/

/-- the table invariant: every stored index name passed the validator -/
def TableOK (table : List Str) : Prop := ∀ t ∈ table, simpleName t = true

theorem addIndex_ok (table : List Str) (v : Str) (h : TableOK table) : TableOK (addIndex table v) :=
  iteInduction (motive := TableOK) (fun hv t ht => (List.mem_cons.mp ht).elim (· ▸ hv) (h t)) fun _ => h

theorem deleteIndex_ok (d : List Seg) (H : Seg) (table cands : List Str) (h : TableOK table) :
    TableOK (deleteIndex d H table cands).2 :=
  fun t ht => h t (List.mem_filter.mp ht).1

/-- C19.6a  one delete request: for EVERY list of candidate names the request value is expanded to, every directory removed is
    inside the data dir, provided the table holds validated names only. -/
theorem confined_deleteIndex (d : List Seg) (H : Seg) (hs : Setup d H) (table cands : List Str) (h : TableOK table) :
    ∀ p ∈ (deleteIndex d H table cands).1, within (dataDir d) p := by
  intro p hp
  obtain ⟨c, hc, rfl⟩ := List.mem_map.mp hp
  have hct : c ∈ table := of_decide_eq_true (List.mem_filter.mp hc).2
  exact Lemmas.C19.within_of_safe hs.1 (.dir hs.2 <| .dir Lemmas.C19.plain_final <|
    .name (simpleName_guard (h c hct)) <| .skip .nil)

/-- C19.6b  EVERY history of create and delete requests, starting from any table of validated names: every directory removed
    on the way is inside the data dir, and the table still holds validated names only. -/
theorem confined_index_history (d : List Seg) (H : Seg) (hs : Setup d H) :
    ∀ (ops : List IndexOp) (table : List Str), TableOK table →
      (∀ p ∈ (runIndexOps d H table ops).1, within (dataDir d) p) ∧ TableOK (runIndexOps d H table ops).2 := by
  intro ops
  induction ops with
  | nil => exact fun table h => ⟨List.forall_mem_nil _, h⟩
  | cons op r ih =>
    intro table h
    cases op with
    | create v => exact ih _ (addIndex_ok table v h)
    | delete c =>
      have h2 := ih _ (deleteIndex_ok d H table c h)
      refine ⟨fun p hp => ?_, h2.2⟩
      exact (List.mem_append.mp hp).elim (confined_deleteIndex d H hs table c h p) (h2.1 p)

/-- the statement of C19.6a for delete-index without the membership test -/
def ConfinedNoGate : Prop := ∀ (d : List Seg) (H : Seg) (table cands : List Str), Setup d H → TableOK table →
    ∀ p ∈ (deleteIndexNoGate d H table cands).1, within (dataDir d) p

/-- C19.6c  removing the directories of names that are NOT in the table (seeded change C19-2): FALSE — the request value
    `../../../victim` names a directory beside the data dir. -/
theorem deleteIndexNoGate_counterexample : ¬ ConfinedNoGate := fun h =>
  absurd (h [['d']] ['H'] [] ["../../../victim".toList] setup_example (List.forall_mem_nil _)
    ⟨true, ["victim".toList]⟩ (by delta deleteIndexNoGate indexDir; decide_chars)) (by decide_chars)

example : (runIndexOps [['d']] ['H'] [] [.create "logs".toList, .create "../x".toList, .delete ["logs".toList, "../../../victim".toList]]) =
    ([⟨true, [['d'], ['H'], "final".toList, "logs".toList]⟩], []) := by decide_chars

/-! ## Part 7 — column names -/

def autoSrt : Str := "_auto.srt".toList

/-- C19.7a  the sort index file BEFORE the repair (column name joined to the segment directory unchecked): the full statement
    was FALSE — the column `../../../../../../../x` put x_auto.srt beside the data dir. -/
theorem sortIndexFileOld_counterexample : ¬ ConfinedDH (fun d H v => sortIndexFileOld d H autoSrt v) :=
  not_confined "../../../../../../../x".toList ⟨true, ["x_auto.srt".toList]⟩
    (by delta sortIndexFileOld autoSrt IDX SID; decide_chars) (by decide_chars)

theorem sortIndexFileOld_partial (d : List Seg) (H : Seg) (hs : Setup d H) (suf : Str) (hsuf : noSlash suf) (v : Str) (hg : Guard v)
    (p : NPath) (h : sortIndexFileOld d H suf v = some p) : within (dataDir d) p :=
  Option.some.inj h ▸ Lemmas.C19.within_of_safe hs.1 (.dir hs.2 <| .dir Lemmas.C19.plain_final <| .dir Lemmas.C19.plain_IDX <|
    .dir Lemmas.C19.plain_SID <| .dir Lemmas.C19.plain_zero <| .dir Lemmas.C19.plain_zero <|
    .name (List.not_mem_append hg hsuf) .nil)

/-- C19.7b  confined_sortindex: for EVERY column name (event key, sort-columns request, sort column of a query) and every
    suffix without a separator, the sort index file that is written, stat'ed or opened is inside the data dir. -/
theorem confined_sortindex (suf : Str) (hsuf : noSlash suf) : ConfinedDH (fun d H v => sortIndexFile d H suf v) :=
  confined_of_partial fun d H hs => sortIndexFileOld_partial d H hs suf hsuf

theorem sortIndexFile_is_pipe (d : List Seg) (H : Seg) (suf v : Str) : sortIndexFile d H suf v = (sortIndexPipe d H suf).run v := by
  rfl

/-- C19.7c  every other per-column file is named by the decimal print of a hash of the column name: whatever the column is
    called and whatever the hash function, the file is inside the data dir. -/
theorem confined_hashedColumnFile (d : List Seg) (H : Seg) (hs : Setup d H) (hash : Str → Nat) (ext : Str) (hext : noSlash ext)
    (v : Str) : within (dataDir d) (hashedColumnFile d H hash ext v) := by
  have hdig : '/' ∉ Nat.toDigits 10 (hash v) := fun hm =>
    absurd (Nat.isDigit_of_mem_toDigits (b := 10) (by decide) (by decide) hm) (by decide)
  exact Lemmas.C19.within_of_safe hs.1 (.dir hs.2 <| .dir Lemmas.C19.plain_final <| .dir Lemmas.C19.plain_IDX <|
    .dir Lemmas.C19.plain_SID <| .dir Lemmas.C19.plain_zero <|
    .name (List.not_mem_append (List.not_mem_append (by decide) hdig) hext) .nil)

example : sortIndexFile [['d']] ['H'] autoSrt "latency".toList =
    some ⟨true, [['d'], ['H'], "final".toList, IDX, SID, ['0'], ['0'], "latency_auto.srt".toList]⟩ := by
  delta sortIndexFile sortIndexFileOld autoSrt IDX SID
  decide_chars
example : sortIndexFile [['d']] ['H'] autoSrt "../x".toList = none ∧ sortIndexFile [['d']] ['H'] autoSrt "a/b".toList = none := by decide_chars

end SigModel.Props.C19
