/-
C18 — Damaged segment files are detected, never served as data.  Property theorems, and the general `readChunkAt_detects`
and `readChunkAt_cut`, of which the corruption and the truncation theorem are instances.

Part proved here: the checksummed chunk reader (pkg/utils/checksumfile.go) for EVERY chunk list,
EVERY range of whole chunks, EVERY single-byte change and EVERY truncation, for ANY checksum function.
The statement "an altered byte is detected or the original data is returned" is FALSE as it stands
for the 4 magic bytes of the chunk at file offset 0 (legacy fallback) — see `legacy_fallback_counterexample`
and known_findings.txt; the partial theorem excludes exactly that class.
Second part: the reader state above the chunk reader (Model/SegReader.lean) never serves a block other than the one
asked for, nor records that did not come out of a chunk read without error.
-/
import SigModel.Model.Checksum
import SigModel.Lemmas.C18
import SigModel.Model.SegReader
import SigModel.Lemmas.C18E

namespace SigModel.Props.C18
open SigModel.Wal (Bytes le32 rd32 crc32)
open SigModel.Checksum

/-- chunks as the writer produces them -/
def wfChunks (crc : Bytes → Nat) (chunks : List Bytes) : Prop :=
  ∀ c ∈ chunks, c ≠ [] ∧ c.length < 4294967296 ∧ crc c < 4294967296 ∧ (∀ b ∈ c, b < 256)

/-- C18.1 intact file: one ReadAt over chunks [a, a+n) (n ≥ 1) returns exactly their bytes, no error -/
theorem readAt_intact (crc : Bytes → Nat) (chunks : List Bytes) (a n : Nat)
    (hwf : wfChunks crc chunks) (hn : 1 ≤ n) (ha : a + n ≤ chunks.length) :
    readAt crc (fileOf crc chunks) (((chunks.drop a).take n).flatten.length) (chunkStart chunks a)
      = (((chunks.drop a).take n).flatten, false) := by
  have hL : (chunks.drop a).take n ≠ [] := by
    refine List.ne_nil_of_length_pos ?_
    rw [List.length_take, List.length_drop]
    exact Nat.lt_min.mpr ⟨hn, Nat.sub_pos_of_lt (Nat.lt_of_lt_of_le (Nat.lt_add_of_pos_right hn) ha)⟩
  refine Lemmas.C18.readAt_chunks crc (Y := fileOf crc ((chunks.drop a).drop n)) _ ?_
    (fun c hc => have h := hwf c (List.mem_of_mem_drop (List.mem_of_mem_take hc)); ⟨h.1, h.2.1, h.2.2.1⟩) hL
  rw [Lemmas.C18.fileOf_drop, ← Lemmas.C18.fileOf_append, List.take_append_drop]

/-- a checksum accident at `off`: the stored checksum matches the bytes that the stored length makes the reader take,
and these are not `orig` -/
def crcAccident (crc : Bytes → Nat) (f : Bytes) (off : Nat) (orig : Bytes) : Prop :=
  ∃ sum len, readU32At f (off + 4) = some sum ∧ readU32At f (off + 8) = some len ∧
    crc ((f.drop (off + dataOffset)).take len) = sum ∧ (f.drop (off + dataOffset)).take len ≠ orig

/-- In a file that begins with the magic (so that the legacy fallback is off), a read of `orig.length` bytes at
any offset fails, returns `orig`, or is a checksum accident.  Neither the place of a damage nor what the rest of
the file holds enters. -/
theorem readChunkAt_detects (crc : Bytes → Nat) (f orig : Bytes) (off : Nat)
    (h0 : readU32At f 0 = some magic) :
    readChunkAt crc f orig.length off = Rd.fail ∨ readChunkAt crc f orig.length off = Rd.ok orig ∨
      crcAccident crc f off orig := by
  rcases Lemmas.C18.readChunkAt_cases crc f orig.length off with
    hfail | ⟨m, m0, _, _, hm0, hne⟩ | ⟨sum, len, h4, h8, hle, hcrc, hr⟩
  · exact Or.inl hfail
  · rw [h0] at hm0
    cases hm0
    exact absurd rfl hne
  · by_cases hd : (f.drop (off + dataOffset)).take len = orig
    · rw [hd, if_neg (Nat.not_lt.mpr hle)] at hr
      exact Or.inr (Or.inl hr)
    · exact Or.inr (Or.inr ⟨sum, len, h4, h8, hcrc, hd⟩)

/-- C18.2 (partial, guard = not the offset-0 magic): change ANY byte `i ≥ 4` inside chunk `k`
(header or data).  Reading chunk `k` then fails, or returns the original bytes (as when the new byte equals
the old one), or there is a checksum accident. Never silently altered data. -/
theorem readChunk_corrupt_partial (crc : Bytes → Nat) (chunks : List Bytes) (k i b : Nat)
    (hwf : wfChunks crc chunks) (hk : k < chunks.length) (hb : b < 256)
    (hi : chunkStart chunks k ≤ i) (hi2 : i < chunkStart chunks (k + 1))
    (hguard : 4 ≤ i) :
    let f' := (fileOf crc chunks).set i b
    let r := readChunkAt crc f' (chunks[k]!).length (chunkStart chunks k)
    r = Rd.fail ∨ r = Rd.ok (chunks[k]!) ∨ crcAccident crc f' (chunkStart chunks k) (chunks[k]!) := by
  intro f' r
  refine readChunkAt_detects crc f' _ _ ?_
  -- the first four bytes of the file are the magic of chunk 0 (`chunkStart chunks 0` computes to `0`), and the change
  -- leaves them alone
  obtain ⟨hmem, hf, -⟩ := Lemmas.C18.fileOf_at crc chunks 0 (Nat.zero_lt_of_lt hk)
  rw [Lemmas.C18.chunkBytes_of_ne crc (hwf _ hmem).1, List.append_assoc] at hf
  exact Lemmas.C18.readU32At_le32 (Lemmas.C18.drop_set_behind b hf hguard) Lemmas.C18.magic_lt

/-- C18.2 full-strength statement (no guard) is false: damaging the magic of the chunk at offset 0
makes the reader serve the raw header bytes as data, without an error. -/
theorem legacy_fallback_counterexample :
    ¬ (∀ (chunks : List Bytes) (k i b : Nat), wfChunks crc32 chunks → k < chunks.length → b < 256 →
        chunkStart chunks k ≤ i → i < chunkStart chunks (k + 1) →
        let f' := (fileOf crc32 chunks).set i b
        let r := readChunkAt crc32 f' (chunks[k]!).length (chunkStart chunks k)
        r = Rd.fail ∨ r = Rd.ok (chunks[k]!) ∨ crcAccident crc32 f' (chunkStart chunks k) (chunks[k]!)) := by
  intro h
  let cs : List Bytes := [[1, 2, 3]]
  have hwf : wfChunks crc32 cs := by
    unfold wfChunks
    decide +kernel
  -- the reader returns `.ok` of the first three (damaged) header bytes
  have hread : readChunkAt crc32 ((fileOf crc32 cs).set 0 0) (cs[0]!).length (chunkStart cs 0) = Rd.ok [0, 0x43, 0x65] := by
    decide +kernel
  rcases h cs 0 0 0 hwf (by decide) (by decide) (by decide) (by decide) with h1 | h2 | ⟨sum, len, -, hl, -, hne⟩
  · exact Rd.noConfusion (hread.symm.trans h1)
  · exact absurd (hread.symm.trans h2) (by decide)
  · -- the length word is intact, and so are the three data bytes behind the header
    cases (by decide +kernel : _ = some 3).symm.trans hl
    exact hne (by decide +kernel)

/-- A file `F` that holds chunk `c` at `off`, cut anywhere before the end of that chunk: a read of the chunk, of
any requested length, fails or is a short read whose checksum matches by accident.  Whatever the rest of the file
holds, and also when the cut falls inside the header. -/
theorem readChunkAt_cut (crc : Bytes → Nat) (F post c : Bytes) (n N off : Nat)
    (hF : F.drop off = Lemmas.C18.chunkBytes crc c ++ post) (hc : c ≠ [])
    (hl : c.length < 4294967296) (hs : crc c < 4294967296) (hn : n < off + (Lemmas.C18.chunkBytes crc c).length) :
    let f' := F.take n
    let r := readChunkAt crc f' N off
    r = Rd.fail ∨ (∃ d, r = Rd.okEof d ∧ crcAccident crc f' off c) := by
  intro f' r
  -- fewer data bytes than `c` has are left after its header
  have hshort : ∀ len, ((f'.drop (off + dataOffset)).take len).length < c.length := by
    intro len
    rw [Lemmas.C18.chunkBytes_length_of_ne crc hc, ← Nat.add_assoc] at hn
    have h1 := List.length_take_le' len (f'.drop (off + dataOffset))
    rw [List.length_drop] at h1
    refine Nat.lt_of_le_of_lt (Nat.le_trans h1 (Nat.sub_le_sub_right (List.length_take_le n _) _)) ?_
    rcases Nat.lt_or_ge n (off + dataOffset) with h | h
    · rw [Nat.sub_eq_zero_of_le (Nat.le_of_lt h)]
      exact List.length_pos_iff.mpr hc
    · exact Nat.sub_lt_left_of_lt_add h hn
  -- what the header of `c` holds in the whole file; the cut file can only read the same words
  obtain ⟨h0, -, h8, -⟩ := Lemmas.C18.readU32At_hdr crc hF hc hl hs
  rcases Lemmas.C18.readChunkAt_cases crc f' N off with
    hfail | ⟨m, m0, hm, hmne, _, _⟩ | ⟨sum, len, h4, h8', hle, hcrc, hr⟩
  · exact Or.inl hfail
  · rw [Lemmas.C18.readU32At_take hm] at h0
    cases h0
    exact absurd rfl hmne
  · rw [Lemmas.C18.readU32At_take h8'] at h8
    cases h8
    rw [if_pos (hshort _)] at hr
    exact Or.inr ⟨_, hr, _, _, h4, h8', hcrc, fun he => Nat.lt_irrefl _ (he ▸ hshort _)⟩

/-- C18.3 truncation: cut the file anywhere before the end of chunk `k` (so that chunk `k` is incomplete):
reading chunk `k` fails or there is a checksum accident; cutting inside the first 4 bytes of the file
also fails (no fallback: the magic cannot be read). -/
theorem readChunk_truncated (crc : Bytes → Nat) (chunks : List Bytes) (k n : Nat)
    (hwf : wfChunks crc chunks) (hk : k < chunks.length)
    (hn : n < chunkStart chunks (k + 1)) :
    let f' := (fileOf crc chunks).take n
    let r := readChunkAt crc f' (chunks[k]!).length (chunkStart chunks k)
    r = Rd.fail ∨ (∃ d, r = Rd.okEof d ∧ crcAccident crc f' (chunkStart chunks k) (chunks[k]!)) := by
  obtain ⟨hmem, hf, hnext⟩ := Lemmas.C18.fileOf_at crc chunks k hk
  obtain ⟨hne, hlen, hsum, -⟩ := hwf _ hmem
  exact readChunkAt_cut crc _ _ _ n _ _ hf hne hlen hsum (hnext ▸ hn)

/-- C18.4 damage in one chunk does not affect reads of other chunks before it (same file) -/
theorem other_chunks_unaffected (crc : Bytes → Nat) (chunks : List Bytes) (k j i b : Nat)
    (hwf : wfChunks crc chunks) (hk : k < chunks.length) (hj : j < k)
    (hi : chunkStart chunks k ≤ i) (hi2 : i < chunkStart chunks (k + 1)) :
    readChunkAt crc ((fileOf crc chunks).set i b) (chunks[j]!).length (chunkStart chunks j) = Rd.ok (chunks[j]!) := by
  obtain ⟨hmem, hf, hnext⟩ := Lemmas.C18.fileOf_at crc chunks j (Nat.lt_trans hj hk)
  have hend : chunkStart chunks j + (Lemmas.C18.chunkBytes crc chunks[j]!).length ≤ i :=
    hnext ▸ Nat.le_trans (Lemmas.C18.chunkStart_mono chunks hj) hi
  obtain ⟨hne, hlen, hsum, -⟩ := hwf _ hmem
  exact Lemmas.C18.readChunkAt_chunk crc (Lemmas.C18.drop_set_behind b hf hend) hne hlen hsum (Nat.le_refl _)

/-- non-vacuity of the guard and hypotheses -/
example : wfChunks crc32 [[1, 2, 3], [9]] ∧ chunkStart [[1, 2, 3], [9]] 1 = 15 := by
  unfold wfChunks
  decide +kernel

/-! ## The reader state above the chunk reader (SigModel.SegReader)

`SegmentFileReader` re-uses its buffers and skips the load when its state says "block b is loaded".  The chunk
reader theorems above say that a damaged chunk is not RETURNED as data; the theorems below say when the reader
that sits on top of it cannot serve one block's records as another block's.  `load b` is any function telling what
a load attempt of block `b` does (`loadOf` builds it from `readAt`); the statements hold for every file, every
damage, every decoder. -/
section ReaderState
open SigModel.SegReader

/-- FULL statement: for every load behaviour (every file, every damage) and every sequence of
`ValidateAndReadBlock b` / `IsBlkDictEncoded b` / `ValidateAndReadBlock b; ReadRecord i` calls on a fresh reader (`Op`:
a `ReadRecord` comes directly after the validation of its block), a record read for block `b` that returns bytes
returns record `i` of the verified contents of block `b`. -/
def ReaderNeverServesOtherBlock (rb : (Nat → Load) → St → Nat → St × RB) : Prop :=
  ∀ (load : Nat → Load) (ops : List Op), ServesOnlyRequestedBlock (rb load) load St.init ops

/-- C18.5 the FULL statement holds for the code as it is: `readBlock` clears `isBlockLoaded` when the load fails
(repair c18-1), so whatever a failed attempt leaves in the re-used buffers is never served — the next request for
any block reads it again.  For every load behaviour (every file, damage, decoder, buffers clobbered by failed
attempts included) and EVERY call sequence.  The statement order of `readBlock` is tied to the source by the
fact `readBlock.order`. -/
theorem reader_never_serves_other_block : ReaderNeverServesOtherBlock readBlock := by
  intro load ops
  exact Lemmas.C18E.run_spec (Lemmas.C18E.readBlock_good load) ops St.init (Lemmas.C18E.inv_init load false)

/-- C18.5 (Old) the full statement was FALSE before the repair: `loadBlockUsingBuffer` reads the chunk into the
re-used file buffer before the checksum is compared, dictionary words are slices of that buffer, and a failed
attempt left `isBlockLoaded`/`currBlockNum` pointing at the block loaded before.  Load block 0, fail on block 1,
ask for block 0 again: the load was skipped and the clobbered buffer served.  (Replayed on the real reader before
the repair: kernel suite `segreader`, class `segreader/stale-buffer-served-after-failed-load/dict`.) -/
theorem reader_never_serves_other_block_old_counterexample : ¬ ReaderNeverServesOtherBlock readBlockOld := by
  intro h
  let load : Nat → Load := fun b => if b = 1 then .fail (fun _ => [[9]]) else .ok [[1]]
  obtain ⟨c, hc, hi⟩ := h load [.ld 0, .ld 1, .rd 0 0] 2 0 0 [9] rfl (by decide +kernel)
  cases hc
  cases hi

/-- C18.5 (Old, partial) what did hold before the repair: under the guard `noStaleReturn` (the sequence never asks
for the block recorded as loaded after a failed attempt on another block — what the search path does), for every
load behaviour. -/
theorem reader_never_serves_other_block_old_partial (load : Nat → Load) (ops : List Op)
    (hguard : noStaleReturn load St.init false ops = true) :
    ServesOnlyRequestedBlock (readBlockOld load) load St.init ops :=
  Lemmas.C18E.guarded_run load ops St.init false (Lemmas.C18E.inv_init load false) hguard

/-- C18.5 (Old) … and without a guard on the calls only when failed attempts left the served buffers alone. -/
theorem reader_never_serves_other_block_old_of_failKeeps (load : Nat → Load) (hkeep : FailKeeps load) (ops : List Op) :
    ServesOnlyRequestedBlock (readBlockOld load) load St.init ops :=
  Lemmas.C18E.run_spec (Lemmas.C18E.readBlockOld_good hkeep) ops St.init (Lemmas.C18E.inv_init load false)

/-- C18.6 why the ORDER inside `readBlock` mattered in the old code: with the block number recorded before the
error check and `isBlockLoaded` left alone (seeded change on the old code), even a reader whose failed attempts
leave the buffers alone, on a call sequence that satisfies the guard, serves block 0's record as a record of the
damaged block 1 (probe, then read — what the filter path does for every block). -/
theorem record_before_check_counterexample :
    ¬ (∀ (load : Nat → Load), FailKeeps load → ∀ ops : List Op, noStaleReturn load St.init false ops = true →
        ServesOnlyRequestedBlock (readBlockEarly load) load St.init ops) := by
  intro h
  let load : Nat → Load := fun b => if b = 1 then .fail id else .ok [[7]]
  have hk : FailKeeps load := by
    intro b cl hb c
    dsimp only [load] at hb
    by_cases h1 : b = 1
    · rw [if_pos h1] at hb
      cases hb
      rfl
    · rw [if_neg h1] at hb
      cases hb
  obtain ⟨c, hc, -⟩ := h load hk [.ld 0, .pr 1, .rd 1 0] (by decide +kernel) 2 1 0 [7] rfl (by decide +kernel)
  cases hc

/-- C18.7 a record that `loadOf` hands to the reader state comes out of `decode` applied to bytes that the chunk
reader returned WITHOUT an error for exactly that block's offset and length (so that C18.2/C18.3 apply to it). -/
theorem served_record_is_from_verified_chunk (crc : Bytes → Nat) (f : Bytes) (metas : List BlkMeta)
    (decode : Bytes → Option Contents) (clob : Nat → Contents → Contents) (b i : Nat) (r : Bytes)
    (h : Genuine (loadOf crc f metas decode clob) b i r) :
    ∃ m d c, metas[b]? = some m ∧ readAt crc f m.len m.off = (d, false) ∧ decode d = some c ∧ c[i]? = some r := by
  obtain ⟨c, hc, hi⟩ := h
  obtain ⟨m, d, hm, hr, hd⟩ := Lemmas.C18E.loadOf_ok hc
  exact ⟨m, d, c, hm, hr, hd, hi⟩

/-- C18.8 timestamp reader: as long as the chunk reader never passes an `io.EOF` through (`NoEof`: it does not for
a truncated chunk, C18.3, modulo a checksum accident), every timestamp served for block `b` is a timestamp of the
verified contents of block `b`, for every sequence of `GetTimeStampForRecord` calls. -/
theorem timereader_never_serves_other_block (load : Nat → TLoad) (hne : NoEof load) (ops : List (Nat × Nat)) :
    TsServesOnlyRequestedBlock load TSt.init ops :=
  Lemmas.C18E.ts_run load hne ops TSt.init (fun h => nomatch h)

/-- C18.8 the hypothesis is needed: `readAllTimestampsForBlock` treats `io.EOF` as success without decoding, so a
chunk reader that reports a cut-short chunk as `(n, io.EOF)` (seeded change) makes the reader serve the previously
loaded block's timestamps. -/
theorem timereader_eof_counterexample :
    ¬ (∀ (load : Nat → TLoad) (ops : List (Nat × Nat)), TsServesOnlyRequestedBlock load TSt.init ops) := by
  intro h
  let load : Nat → TLoad := fun b => if b = 1 then .eof else .ok [5]
  obtain ⟨c, hc, -⟩ := h load [(0, 0), (1, 0)] 1 1 0 5 rfl rfl
  cases hc

/-- non-vacuity of the guard of the Old theorem: a sequence over a file with a damaged block 1 that probes and reads the damaged
block and later comes back to block 0 after another successful load satisfies it -/
example : noStaleReturn (fun b => if b = 1 then Load.fail (fun _ => [[9]]) else Load.ok [[b]]) St.init false
    [.ld 0, .pr 1, .rd 1 0, .rd 2 0, .rd 0 0] = true := by decide +kernel

/-- … and the guard is not always true: coming straight back to block 0 violates it -/
example : noStaleReturn (fun b => if b = 1 then Load.fail (fun _ => [[9]]) else Load.ok [[b]]) St.init false
    [.ld 0, .pr 1, .rd 0 0] = false := by decide +kernel

end ReaderState

end SigModel.Props.C18
