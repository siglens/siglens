/-
C08 — Metric datapoints are stored and returned bit-exactly per series.
Property theorems, with the inductions over the guards defined here (`okPts`, `monotoneFrom`); the facts about
single fields, points and the stream live in SigModel/Lemmas/C08*.lean.

English statement (properties.jsonl): every accepted datapoint (metric, tags, second-resolution
timestamp, float value) is returned with the same timestamp and the bit-identical value …
The codec part: for EVERY header and EVERY series that meets the guard `okSeries`, decoding the bytes the encoder wrote
yields exactly the series, then a clean end-of-stream.  Series sent in time order, timestamps below 2^31, meet it
(`okSeries_of_monotone`); the ingest path checks neither order nor range of the timestamps
(`TimeSeries.AddSingleEntry`), and outside the guard points can be lost (`decode_encode_unguarded_counterexample`).
Then: the input of the TSID hash determines metric name and tags; the tags-tree blocks of a value with any number of
TSIDs are well framed and read back completely.
-/
import SigModel.Model.Gorilla
import SigModel.Lemmas.C08d
import SigModel.Lemmas.C08p
import SigModel.Spec.Metrics
import SigModel.Model.TagsTree
import SigModel.Lemmas.C08t

namespace SigModel.Props.C08
open SigModel SigModel.Gorilla
open SigModel.Lemmas.C08 (Inv encodeFrom encodeFrom_nil encodeFrom_cons encodeAll_eq length_le_encodeFrom writeBits_length
  decodeAll_header decodeLoop_succ_ok decodeLoop_succ_eof first_step next_step next_finish next_finish0)

/-- first point: header and t are uint32, t ≠ 0 (the codec uses t = 0 for "no point yet"),
`0 ≤ t - header < 2^14 - 1` (the writer always passes header = first timestamp, i.e. 0). -/
def okFirst (header t : Nat) : Prop :=
  header < P32 ∧ t < P32 ∧ t ≠ 0 ∧ header ≤ t ∧ t - header < 2 ^ 14 - 1

/-- later points, tracked along the encoder state: uint32 non-zero timestamps, uint64 value bit
patterns, and a delta-of-delta that lands in the 32-bit bucket is not ≡ 2^32-1 (the end marker). -/
def okPts (c : Enc) : List (Nat × Nat) → Prop
  | [] => True
  | (t, v) :: ps =>
    t < P32 ∧ t ≠ 0 ∧ v < P64 ∧
    ((-2047 ≤ dodOf c t ∧ dodOf c t ≤ 2048) ∨ dodOf c t % (P32 : Int) ≠ (P32 : Int) - 1) ∧
    okPts (compress c t v).1 ps

def okSeries (header : Nat) : List (Nat × Nat) → Prop
  | [] => header < P32
  | (t, v) :: ps => okFirst header t ∧ v < P64 ∧ okPts (compress (Enc.new header).1 t v).1 ps

/-- C08.1 bit IO: reading back `n` written bits gives the low `n` bits, for every continuation. -/
theorem readBits_writeBits (u n : Nat) (r : Bits) :
    readBits n (writeBits u n ++ r) = some (u % 2 ^ n, r) :=
  Lemmas.C08.readBits_writeBits u n r

/-- C08.2 byte packing: unpacking the flushed bytes gives the bits back plus < 8 zero padding bits. -/
theorem unpack_pack (bs : Bits) :
    ∃ k, k < 8 ∧ unpack (pack bs) = bs ++ List.replicate k false :=
  Lemmas.C08.unpack_pack bs

/-- the decoder's loop, from any state the invariant ties to the encoder's, returns the points still to come -/
theorem decodeLoop_encodeFrom : ∀ (pts : List (Nat × Nat)) (c : Enc) (d : Dec) (fuel : Nat) (pad : Bits),
    Inv c d → okPts c pts → pts.length < fuel → decodeLoop fuel d (encodeFrom c pts ++ pad) = (pts, .eof) := by
  intro pts c d fuel pad inv hok hf
  induction pts generalizing c d fuel with
  | nil =>
    cases fuel with
    | zero => exact absurd hf (Nat.not_lt_zero _)
    | succ f =>
      rw [encodeFrom_nil]
      exact decodeLoop_succ_eof f d _ (next_finish c d pad inv)
  | cons p ps ih =>
    cases fuel with
    | zero => exact absurd hf (Nat.not_lt_zero _)
    | succ f =>
      obtain ⟨ht, ht0, hv, hg, hrest⟩ := hok
      obtain ⟨d1, hnext, e1, e2, inv1⟩ :=
        next_step c d p.1 p.2 (encodeFrom (compress c p.1 p.2).1 ps ++ pad) inv ht ht0 hv hg
      rw [encodeFrom_cons, List.append_assoc, decodeLoop_succ_ok f d d1 _ _ hnext,
        ih _ d1 f inv1 hrest (Nat.lt_of_succ_lt_succ hf), e1, e2]

/-- C08.3 (main): decode ∘ encode = id, bit-identically, for every header and series satisfying the
guard, whatever follows the finish marker (padding). -/
theorem decode_encode (header : Nat) (pts : List (Nat × Nat)) (pad : Bits)
    (h : okSeries header pts) :
    decodeAll (encodeAll header pts ++ pad) = some (header, pts, Status.eof) := by
  rw [encodeAll_eq, List.append_assoc]
  cases pts with
  | nil =>
    refine decodeAll_header header _ [] .eof h ?_
    rw [encodeFrom_nil]
    exact decodeLoop_succ_eof _ _ _ (next_finish0 header pad)
  | cons p ps =>
    obtain ⟨t, v⟩ := p
    obtain ⟨hf, hv, hrest⟩ := h
    refine decodeAll_header header _ _ .eof hf.1 ?_
    obtain ⟨d1, hnext, e1, e2, inv1⟩ :=
      first_step header t v (encodeFrom (compress (Enc.new header).1 t v).1 ps ++ pad) hf hv
    have hlen := length_le_encodeFrom ps (compress (Enc.new header).1 t v).1
    rw [encodeFrom_cons, List.append_assoc, decodeLoop_succ_ok _ _ d1 _ _ hnext,
      decodeLoop_encodeFrom ps _ d1 _ pad inv1 hrest ?_, e1, e2]
    -- left: the fuel that remains, the length of the whole stream, exceeds `ps.length` (`hlen`: a point takes a bit)
    simp only [List.length_append, writeBits_length]
    exact Nat.lt_of_le_of_lt (Nat.le_trans hlen (Nat.le_trans (Nat.le_add_right _ _) (Nat.le_add_left _ _)))
      (Nat.lt_add_of_pos_left (by decide))

/-- C08.3 at the byte level (what is stored in the TSG file / returned for open blocks). -/
theorem decode_encode_bytes (header : Nat) (pts : List (Nat × Nat))
    (h : okSeries header pts) :
    decodeAll (unpack (pack (encodeAll header pts))) = some (header, pts, Status.eof) := by
  obtain ⟨k, _, hk⟩ := Lemmas.C08.unpack_pack (encodeAll header pts)
  rw [hk]
  exact decode_encode header pts _ h

theorem okPts_take : ∀ (ps : List (Nat × Nat)) (c : Enc) (k : Nat), okPts c ps → okPts c (ps.take k) := by
  intro ps c k h
  induction ps generalizing c k with
  | nil => rw [List.take_nil]; trivial
  | cons p ps ih =>
    cases k with
    | zero => trivial
    | succ k => exact ⟨h.1, h.2.1, h.2.2.1, h.2.2.2.1, ih _ k h.2.2.2.2⟩

/-- the guard is closed under prefixes: a clone taken after any `k` points (open-block reads,
`CloneCompressor`) decodes to exactly those `k` points. -/
theorem clone_prefix_decodes (header : Nat) (pts : List (Nat × Nat)) (k : Nat)
    (h : okSeries header pts) :
    decodeAll (unpack (pack (encodeAll header (pts.take k)))) = some (header, pts.take k, Status.eof) := by
  refine decode_encode_bytes header (pts.take k) ?_
  cases pts with
  | nil => rw [List.take_nil]; exact h
  | cons p ps =>
    obtain ⟨hf, hv, hrest⟩ := h
    cases k with
    | zero => exact hf.1
    | succ k => exact ⟨hf, hv, okPts_take ps _ k hrest⟩

/-- what the ingest path produces for a client that sends in time order: header = first timestamp, timestamps
non-decreasing, below 2^31, non-zero.  Such series always satisfy the guard (so the guard is not vacuous and the
residual end-marker collision needs timestamps that jump backwards by ~2^31 s). -/
def monotoneFrom (prev : Nat) : List (Nat × Nat) → Prop
  | [] => True
  | (t, v) :: ps => prev ≤ t ∧ t < 2 ^ 31 ∧ v < P64 ∧ monotoneFrom t ps

theorem okPts_of_monotone : ∀ (ps : List (Nat × Nat)) (c : Enc),
    c.t ≠ 0 → c.tDelta < 2 ^ 31 → monotoneFrom c.t ps → okPts c ps := by
  intro ps c h0 h2 hm
  induction ps generalizing c with
  | nil => trivial
  | cons p ps ih =>
    obtain ⟨m1, m2, m3, m4⟩ := hm
    obtain ⟨hg, et, ed⟩ := Lemmas.C08.monotone_step c p.1 p.2 h0 h2 m1 m2
    have ht0 : p.1 ≠ 0 := fun h => h0 (Nat.le_zero.mp (h ▸ m1))
    exact ⟨Nat.lt_trans m2 (by decide), ht0, m3, hg, ih _ (et.symm ▸ ht0) ed (et.symm ▸ m4)⟩

theorem okSeries_of_monotone (t0 v0 : Nat) (ps : List (Nat × Nat))
    (h0 : 0 < t0) (h1 : t0 < 2 ^ 31) (hv : v0 < P64) (hm : monotoneFrom t0 ps) :
    okSeries t0 ((t0, v0) :: ps) := by
  have hf : okFirst t0 t0 :=
    ⟨Nat.lt_trans h1 (by decide), Nat.lt_trans h1 (by decide), Nat.ne_of_gt h0, Nat.le_refl _, Nat.sub_self t0 ▸ by decide⟩
  have hd := Nat.lt_of_le_of_lt (Nat.sub_le t0 t0) h1
  refine ⟨hf, hv, ?_⟩
  rw [Lemmas.C08.compress_first t0 t0 v0 hf.1 hf.1 (Nat.le_refl _) hd]
  exact okPts_of_monotone ps _ (Nat.ne_of_gt h0) hd hm

/-- non-vacuity: a concrete series with low-mantissa-bit neighbours (1.0, nextafter 1.0) meets the guard. -/
example : okSeries 1700000000 [(1700000000, 0x3ff0000000000000), (1700000060, 0x3ff0000000000001)] := by
  refine okSeries_of_monotone _ _ _ (by decide) (by decide) (by decide) ?_
  exact ⟨by decide, by decide, by decide, trivial⟩

/-- full-strength statement WITHOUT the end-marker clause is false: delta-of-delta = 2^32-1 is
indistinguishable from the finish marker (timestamps 5, 5+2^31, 4). -/
theorem decode_encode_unguarded_counterexample :
    ¬ (∀ header pts, (∀ p ∈ pts, p.1 < P32 ∧ p.1 ≠ 0 ∧ p.2 < P64) → (∀ t v ps, pts = (t, v) :: ps → header = t) →
        decodeAll (encodeAll header pts) = some (header, pts, Status.eof)) := by
  intro h
  have hc := h 5 [(5, 0), (2147483653, 0), (4, 0)] (by decide)
    (by intro t v ps e; cases e; rfl)
  revert hc
  decide +kernel

/-! ### series identity: the input of the TSID hash (tagsholder.go GetTSID; xxhash itself is an arbitrary function)

Model: `Spec.Metrics.preimageB` (tie: suite `tsidpre`).  Distinct (metric name, tag list) pairs must hash distinct
bytes, or two series are stored as one (e2e class tsid-preimage-collision). -/

open SigModel.Spec.Metrics in
/-- every length the code writes as `uint32(len(x))` is the length -/
def fitsU32 (name : List Nat) (tags : List (List Nat × List Nat)) : Prop :=
  name.length < 2 ^ 32 ∧ ∀ kv ∈ tags, kv.1.length < 2 ^ 32 ∧ kv.2.length < 2 ^ 32

open SigModel.Spec.Metrics in
/-- C08.5: the bytes the repaired GetTSID hashes determine the metric name and the (sorted) tag list, whatever bytes
names, keys and values contain — for all names and tag lists below 4 GiB per field. -/
theorem tsid_preimage_injective (n1 n2 : List Nat) (t1 t2 : List (List Nat × List Nat))
    (h1 : fitsU32 n1 t1) (h2 : fitsU32 n2 t2) (h : preimageB n1 t1 = preimageB n2 t2) :
    n1 = n2 ∧ t1 = t2 :=
  Lemmas.C08p.preimageB_inj n1 n2 t1 t2 h1.1 h2.1 h1.2 h2.2 h

/-- non-vacuity: the guard holds for ordinary series, e.g. m{z="x",ab="1"} -/
example : fitsU32 [109] [([122], [120]), ([97, 98], [49])] := by
  unfold fitsU32
  decide

open SigModel.Spec.Metrics in
/-- the OLD input (name `__` key `__` value key `__` value …, nothing between a value and the next key) is NOT
injective: m{z="x",ab="1"} and m{z="xa",b="1"} are different series with one pre-image (known finding
tsid-preimage-collision, repaired). -/
theorem tsidPreimageOld_collision :
    ∃ a b : Series, sameSeries a b = false ∧ tsidPreimageOld a = tsidPreimageOld b := by
  refine ⟨{ name := "m", labels := [("z", "x"), ("ab", "1")], points := [] },
          { name := "m", labels := [("z", "xa"), ("b", "1")], points := [] }, ?_, ?_⟩ <;> decide +kernel

open SigModel.Spec.Metrics in
/-- … and the repaired input keeps exactly this pair apart. -/
example : tsidPreimage { name := "m", labels := [("z", "x"), ("ab", "1")], points := [] } ≠
          tsidPreimage { name := "m", labels := [("z", "xa"), ("b", "1")], points := [] } := by
  decide +kernel

/-! ## tags tree file, block level (Model/TagsTree.lean; code with the repair c09-10)

"series with different names or tag sets are never merged … before and after block and segment rotation": a series is
found through the TSID lists of its tag values in the tags tree file.  The file stores the number of TSIDs of a block in
16 bits; the repaired encoder writes a value with more than 65535 TSIDs as several consecutive blocks, and the readers
collect the blocks of a value.  The byte framing of a block is abstracted (`wellFramed` = the count fits its field); the
real encoder and readers are tied to this model by the correspondence suite `tagstree`. -/
open SigModel.TagsTree in
/-- C08.T1 every block the encoder writes — for ANY number of TSIDs per value — carries a count that fits the 16-bit
field (it is read back as written), and the blocks of an entry concatenate to the entry's TSIDs -/
theorem tagstree_blocks_well_framed (es : List Entry) :
    (∀ b ∈ encodeBlocks es, wellFramed b) ∧ ∀ e : Entry, (blocksOf e).flatMap (·.tsids) = e.tsids :=
  ⟨SigModel.Lemmas.C08t.encodeBlocks_wellFramed es, SigModel.Lemmas.C08t.blocksOf_tsids⟩

open SigModel.TagsTree in
/-- C08.T2 `tagstree_exact_complete`: the rotated exact-match reader (`k="v"`) returns, for every value of the metric,
exactly the TSIDs of that value, however many there are (distinct values have distinct hashes: xxhash is outside the
statement) -/
theorem tagstree_exact_complete (es : List Entry) (hnd : (es.map (·.hash)).Nodup) (e : Entry) (he : e ∈ es) :
    readEqual e.hash false (encodeBlocks es) = e.tsids := by
  open Lemmas.C08t in
  induction he with
  | head xs =>
    exact (readEqual_run _ _ _ _ (blocksOf_hash e) (encodeBlocks_hash_ne _ xs (List.nodup_cons.mp hnd).1)).trans
      (blocksOf_tsids e)
  | @tail x xs hexs ih =>
    obtain ⟨hx, hxs⟩ := List.nodup_cons.mp hnd
    exact (readEqual_skip _ _ _ fun b hb hbh =>
      hx (List.mem_map.mpr ⟨e, hexs, hbh.symm.trans (blocksOf_hash x b hb)⟩)).trans (ih hxs)

open SigModel.TagsTree in
/-- C08.T3 the `!=` reader and the value iterator (regex matchers, `k=*`) return the TSIDs of exactly the entries with
another / with that hash -/
theorem tagstree_scan_complete (h : Nat) (es : List Entry) :
    readNotEqual h (encodeBlocks es) = (es.filter (fun e => e.hash != h)).flatMap (·.tsids) ∧
    iterFor h (encodeBlocks es) = (es.filter (fun e => e.hash == h)).flatMap (·.tsids) :=
  ⟨SigModel.Lemmas.C08t.readNotEqual_complete h es, SigModel.Lemmas.C08t.iterFor_complete h es⟩

open SigModel.TagsTree in
/-- the statement T1 for the encoder BEFORE the repair c09-10 (one block per value) -/
def TagsTreeWellFramedOld : Prop := ∀ es : List Entry, ∀ b ∈ encodeBlocksOld es, wellFramed b

open SigModel.TagsTree in
/-- C08.T1-old FALSE before the repair: a value shared by 65536 series was written with the count 0 in front of its
65536 TSIDs — the rest of the metric's chunk was mis-framed after rotation (detectors: suite tagstree
sig=tagstree/rotated-differs/tsids-over-64k, e2e_metrics sig=e2em/in-class/tsids-per-value-over-64k) -/
theorem tagstree_well_framed_old_counterexample : ¬ TagsTreeWellFramedOld := by
  intro hall
  have h := (SigModel.Lemmas.C08t.wellFramed_iff _).1
    (hall [{ hash := 0, tsids := List.replicate 65536 0 }] _ (List.mem_singleton.mpr rfl))
  rw [List.length_replicate] at h
  exact absurd h (by decide)

open SigModel.TagsTree in
/-- non-vacuity: 65536 TSIDs of one value → two blocks (65535 + 1), found again by the exact reader behind another value -/
example : (encodeBlocks [⟨1, [7]⟩, ⟨2, List.range 65536⟩]).map (fun b => (b.hash, b.tsids.length)) = [(1, 1), (2, 65535), (2, 1)]
    ∧ (readEqual 2 false (encodeBlocks [⟨1, [7]⟩, ⟨2, List.range 65536⟩])).length = 65536 := by
  have hl : (List.range 65536).length = 65536 := List.length_range
  generalize List.range 65536 = l at hl ⊢
  have hc : chunks l = [l.take 65535, l.drop 65535] := by
    rw [chunks, hl, SigModel.Lemmas.C08t.chunksAux_of_gt _ _ (by rw [hl]; decide),
      SigModel.Lemmas.C08t.chunksAux_of_le _ _ (by rw [List.length_drop, hl]; decide)]
    rfl
  constructor
  · simp only [encodeBlocks, List.flatMap_cons, List.flatMap_nil, blocksOf, hc, show chunks [7] = [[7]] from rfl,
      List.map_cons, List.map_nil, List.cons_append, List.nil_append, List.length_take, List.length_drop, hl]
    rfl
  · rw [tagstree_exact_complete [⟨1, [7]⟩, ⟨2, l⟩] (show [1, 2].Nodup by decide) ⟨2, l⟩ (.tail _ (.head _)), hl]

end SigModel.Props.C08
