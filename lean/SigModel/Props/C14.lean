/-
C14 — Retention and deletion remove exactly what is expired.  Property theorems only.

Model: SigModel/Model/Retention.lean (pkg/retention/retention.go as it is).  For EVERY set of segment
metas, clock reading and retention:
  1. the time-based pass selects exactly the segments of its org whose newest event is not newer than
     now − retention (guard: sane retention, i.e. no int64/uint64 wrap; the wrap branch — horizon before
     the epoch — is characterised separately: it deletes everything);
  2. the delete protocol, cut after ANY number of micro-steps, touches nothing that belongs to a
     surviving segment, in any of the five stores;
  3. a pass interrupted after ANY prefix of its step list and then repeated ends in exactly the state of
     the uninterrupted pass in ALL five stores — because segmeta.json, from which the repeated pass
     re-reads its victims, is rewritten last, and (after the repair c14-6) the empty-PQ meta files are
     cleaned FIRST, while the victims' .sfm files — the only place their pqids are recorded — still
     exist: whenever a victim's files are gone, its empty-PQ entries are gone already.  With
     segmeta.json rewritten FIRST there is a crash point after which files are orphaned forever; with
     the empty-PQ phase behind the files phase (the order before the repair, `deleteOrderOld`) a crash
     between the two leaves the victim's entries for ever (counterexample theorem).  This is why the
     order is tied to the source by call-order facts;
  4. after a pass nothing of a victim is left in blob store, local files, in-memory metadata and
     segmeta.json, and (after the repair of DeleteSegmentData, which now reads the victims' pqids from
     their .sfm files) the empty-PQ meta files list only segments that are still in segmeta.json, for
     every store in which each empty-PQ entry is recorded in its segment's .sfm file (what the writer
     does at rotation).  The behaviour before the repair (`passOld`: step 4 was dead code) is kept with
     its counterexample theorem; an empty result recorded AFTER a pass (a rotation records one for every
     persistent query without a match) is listed, whatever the pass removed — the pqmeta files afterwards
     hold exactly the survivors' entries and the records made since (after the repair c14-5: the writer
     re-creates the pqmeta directory, which goes with its last file; before, every record after a pass that
     removed the last entry was dropped: `recordAllOld`, counterexample theorem);
  5. the volume pass deletes oldest-first and stops at the first segment that does not fit: the marked
     segments are a prefix of the age-sorted candidates, nothing strictly older than a deleted segment
     stays, and it never deletes as much as the excess — at full strength, for all inputs (only
     hypothesis: LatestEpochSec is a uint32).  This was false before two repairs in /repo (the `break`
     left only the `switch`; the metrics sort key was a wrapped uint32 product): the old behaviour is kept
     as `volPassOld` with its two counterexample theorems.
  6. the rewrite of segmeta.json itself (`removeSegmetas`, model `smRemove`), for a file of ANY number of
     lines: the entries listed afterwards are exactly the entries whose key was not to be removed — same
     order, each as often as before, contents untouched; two rewrites compose to the union; a repeated
     rewrite changes nothing; index deletion keeps exactly the other indexes' entries;
     `AddOrReplaceRotatedSegmeta` leaves exactly one entry of its key, the new one, last.  Guard: every
     line is shorter than the scanner's 1 MiB limit (a line holds two paths and an index name); without
     the guard the statement is false (counterexample; characterised: such a file is never rewritten).
     For EVERY file (no guard): the file afterwards is untouched or exactly its preserved entries, no
     survivor is ever dropped (segmeta_rewrite_all_or_nothing, _keeps_survivors).
     The line-level rewrite refines the `segmeta` step of the protocol in 2.–4.; written-then-scanned
     files deliver exactly the written lines (bufio.ScanLines mirrored).
  7. metricmeta.json (`ReadMetricsMeta`, `removeMetricsSegmentsByList`, the metrics half of every pass), after
     two repairs in /repo (both functions scanned with a DEFAULT bufio.Scanner, 64 KiB, although a
     MetricsMeta line carries the segment's whole tag-key set; and the rewrite only logged the scanner's
     error and rewrote the file from the part it had read): at full strength, for every file, NO survivor
     is ever dropped and the file afterwards is either untouched or exactly the surviving entries
     (metricsmeta_rewrite_keeps_survivors, _all_or_nothing, _unchanged_on_read_error); for lines shorter than
     the new 64 MiB limit the rewrite and the pass are exact (metricsmeta_rewrite_exact, metrics_pass_exact);
     what is left: a line of ≥ 64 MiB still blocks the passes (metrics_pass_blocked_by_long_line, counterexample).
     The behaviour before the repairs is kept as `mmReadOld` / `mmRemoveOld` / `mmPassOld` with its
     counterexample theorems (…_old_…).
  8. metricmeta.json: one retention pass against concurrent rotations and readers (Model/Retention.lean `MmConc`).
  9. the directory of a segment from its key (`segBaseDir_of_writer_layout`).
-/
import SigModel.Model.Retention
import SigModel.Lemmas.C14
import SigModel.Lemmas.C14Sm
import SigModel.Lemmas.C14Conc
import SigModel.Lemmas.C14Dir

namespace SigModel.Props.C14
open SigModel.Retention SigModel.Lemmas.C14

/-! ### 1. victim selection -/

/-- a sane configuration: retention between 0 and 2 562 046 hours (292 years: `time.Duration` does not
wrap), not reaching back before the epoch, clock before the year 2255 -/
def SaneRetention (nowMs : Nat) (hours : Int) : Prop :=
  0 ≤ hours ∧ hours < 2562047 ∧ hours * 3600000 ≤ (nowMs : Int) ∧ nowMs < 9000000000000

/-- field widths of the Go structs: `LatestEpochSec` is a uint32 -/
def WellTyped (metas : List Meta) : Prop := ∀ m ∈ metas, m.kind = .metrics → m.latest < two32

example : SaneRetention 1790000000000 360 := by unfold SaneRetention; decide +kernel
example : WellTyped [{ key := 1, latest := 1789000000, kind := .metrics }] :=
  List.forall_mem_singleton.mpr fun _ => by decide

/-- C14.1 — deleted ⇔ of the pass's org and newest event ≤ now − retention; in particular no segment
containing a newer event is selected and no expired one is left out. -/
theorem victims_exact (nowMs : Nat) (hours : Int) (org : Nat) (metas : List Meta)
    (hs : SaneRetention nowMs hours) (ht : WellTyped metas) (m : Meta) :
    m ∈ victims nowMs hours org metas ↔
      (m ∈ metas ∧ m.org = org ∧ (trueTimeMs m : Int) ≤ (nowMs : Int) - hours * 3600000) := by
  obtain ⟨h0, h1, h2, h3⟩ := hs
  rw [mem_victims]
  exact and_congr_right fun hm => and_congr_right fun _ => by
    rw [timeMs_eq_trueTime m (ht m hm), ← horizon_eq nowMs hours h0 h1 h2 h3, Int.ofNat_le]

/-- C14.1 (wrap branch) — a retention that reaches back before the epoch makes `uint64(UnixMilli())` wrap:
the pass then selects EVERY segment of its org, however new. -/
theorem victims_all_when_horizon_wraps (nowMs : Nat) (hours : Int) (org : Nat) (metas : List Meta)
    (h0 : 0 ≤ hours) (h1 : hours < 2562047) (h2 : (nowMs : Int) < hours * 3600000) (h3 : nowMs < 9000000000000)
    (ht : WellTyped metas) (hl : ∀ m ∈ metas, m.kind = .log → m.latest < two63) (m : Meta) :
    m ∈ victims nowMs hours org metas ↔ (m ∈ metas ∧ m.org = org) := by
  have hw := horizon_wrapped nowMs hours h0 h1 h2
  rw [mem_victims]
  refine and_congr_right fun hm => and_iff_left_of_imp fun _ => ?_
  -- every time a meta can hold is below 2^63
  rw [timeMs_eq_trueTime m (ht m hm)]
  refine Nat.le_trans (Nat.le_of_lt ?_) hw
  unfold trueTimeMs
  cases hk : m.kind with
  | log => exact hl m hm hk
  | metrics => exact Nat.lt_of_lt_of_le (Nat.mul_lt_mul_of_pos_right (ht m hm hk) (by decide)) (by decide)

/-- the wrap branch is reachable: 60 years of retention in 2026 -/
example : (1790000000000 : Int) < 525600 * 3600000 := by decide

/-! ### 2. survivors are not touched -/

/-- C14.2 — for every phase order, victim list and cut point, everything that belongs to a key outside the
victim list is exactly as before, in each of the five stores. -/
theorem survivors_intact (order : List Phase) (vs : List Meta) (s : Store) (cut : Nat) :
    SameOutside (vs.map (·.key)) s (deleteSegmentData order vs s cut) := by
  unfold deleteSegmentData
  split
  · exact sameOutside_run _ [] s nofun
  · exact sameOutside_run _ _ s fun x hx =>
      withSfmPqids_keys s vs ▸ key_of_hitBy_stepsFor (hitBy_of_sub (fun _ => List.mem_of_mem_take) hx)

/-- … in particular for the pass itself: a segment that is not selected keeps its blob objects, files,
in-memory entry, empty-PQ entries and segmeta.json line, wherever the pass is cut. -/
theorem survivors_intact_pass (nowMs : Nat) (hours : Int) (s : Store) (cut : Nat) :
    SameOutside ((victims nowMs hours 0 (readLocal s)).map (·.key)) s (passCut deleteOrder nowMs hours s cut) :=
  survivors_intact deleteOrder _ s cut

/-! ### 3. interrupted and repeated -/

/-- C14.3 — at full strength: for EVERY store, clock, retention and EVERY cut point of the step list, the
interrupted pass followed by a full pass ends in exactly the state of the uninterrupted pass — blob store,
local files, in-memory metadata, empty-PQ meta files and segmeta.json.  (After the repair c14-6; false for
the order before it: `interrupt_repeat_pq_old_counterexample`.) -/
theorem interrupt_repeat_converges (nowMs : Nat) (hours : Int) (s : Store) (cut : Nat) :
    pass deleteOrder nowMs hours (passCut deleteOrder nowMs hours s cut) = pass deleteOrder nowMs hours s :=
  interrupt_repeat_with withSfmPqids withSfmPqids_keys repeat_same_result nowMs hours s cut

/-- … so whatever a pass leaves behind when it is cut, the next pass removes: nothing of a victim survives
an interrupted and repeated pass, in any store the uninterrupted pass would have cleaned (corollary). -/
theorem interrupt_repeat_converges_without_pq (nowMs : Nat) (hours : Int) (s : Store) (cut : Nat) :
    withoutPq (pass deleteOrder nowMs hours (passCut deleteOrder nowMs hours s cut))
      = withoutPq (pass deleteOrder nowMs hours s) :=
  congrArg withoutPq (interrupt_repeat_converges nowMs hours s cut)

/-- C14.3 (record of the repaired defect) — with the phase order before the repair (empty-PQ meta files
AFTER the local files) the equality did not hold for every cut: one expired segment with an empty-PQ entry,
crash after its blob objects and local files are gone (cut 2): the repeated pass cannot read the .sfm file
any more and leaves the entry for ever, the uninterrupted pass removes it.  With the repaired order the same
store and every cut up to the end converge. -/
theorem interrupt_repeat_pq_old_counterexample :
    (¬ ∀ nowMs hours s cut, pass deleteOrderOld nowMs hours (passCut deleteOrderOld nowMs hours s cut)
        = pass deleteOrderOld nowMs hours s) ∧
    (∀ cut ∈ [0, 1, 2, 3, 4, 5, 6],
      (pass deleteOrder 1790000000000 24 (passCut deleteOrder 1790000000000 24
        { blob := [1], files := [1], memMeta := [1], segmetaJson := [{ key := 1, latest := 1000, kind := .log }],
          pqMeta := [(7, 1)], sfmPq := [(7, 1)] } cut)).pqMeta = []) := by
  -- one evaluation: the old order diverges at cut 2, the uninterrupted pass of the repaired order drops the entry
  suffices w : ¬ _ ∧ _ from ⟨fun h => w.1 (h 1790000000000 24
      { blob := [1], files := [1], memMeta := [1], segmetaJson := [{ key := 1, latest := 1000, kind := .log }],
        pqMeta := [(7, 1)], sfmPq := [(7, 1)] } 2),
    fun cut _ => (congrArg Store.pqMeta (interrupt_repeat_converges ..)).trans w.2⟩
  decide +kernel

/-- … and a completed pass is a fixed point: running it again changes nothing. -/
theorem pass_idempotent (nowMs : Nat) (hours : Int) (s : Store) :
    pass deleteOrder nowMs hours (pass deleteOrder nowMs hours s) = pass deleteOrder nowMs hours s :=
  interrupt_repeat_converges nowMs hours s _

/-- the store of the design counterexample: one expired segment, present everywhere -/
def orphanWitness : Store :=
  { blob := [1], files := [1], memMeta := [1], segmetaJson := [{ key := 1, latest := 1000, kind := .log }] }

/-- C14.3 (why the order matters) — with segmeta.json rewritten FIRST, a crash right after that step leaves
the segment's files behind, and the repeated pass — which finds its victims through segmeta.json — never
removes them.  With the order of the source the same crash point is harmless. -/
theorem segmeta_first_leaves_orphans :
    orphans orphanWitness = [] ∧
    orphans (pass segmetaFirstOrder 1790000000000 24 (passCut segmetaFirstOrder 1790000000000 24 orphanWitness 1)) = [1] ∧
    orphans (pass deleteOrder 1790000000000 24 (passCut deleteOrder 1790000000000 24 orphanWitness 1)) = [] := by
  decide +kernel

/-! ### 4. after the pass -/

/-- C14.4 — after an uninterrupted pass no victim is left in the blob store, on disk, in the in-memory
metadata or in segmeta.json (so segmeta.json lists exactly the survivors, by C14.2). -/
theorem pass_removes_victims (nowMs : Nat) (hours : Int) (s : Store) (v : Meta)
    (hv : v ∈ victims nowMs hours 0 (readLocal s)) :
    let s' := pass deleteOrder nowMs hours s
    v.key ∉ s'.blob ∧ v.key ∉ s'.files ∧ v.key ∉ s'.memMeta ∧ ∀ m ∈ s'.segmetaJson, m.key ≠ v.key := by
  intro s'
  rw [show s' = _ from pass_eq_keep nowMs hours s]
  -- outside the empty-PQ meta files every item of `v`'s key is owned by `v`
  have gone : ∀ x : Item, x.phase ≠ .pq → x.key = v.key →
      ¬ (!(withSfmPqids s (victims nowMs hours 0 (readLocal s))).any (owns · x)) = true := fun x hx hk h => by
    rw [(owned_iff_key hx).mpr (hk ▸ List.mem_map_of_mem hv)] at h
    cases h
  exact ⟨fun h => gone (.blob _) nofun rfl (List.mem_filter.mp h).2, fun h => gone (.files _) nofun rfl (List.mem_filter.mp h).2,
    fun h => gone (.mem _) nofun rfl (List.mem_filter.mp h).2, fun m hm hk => gone (.line m) nofun hk (List.mem_filter.mp hm).2⟩

/-- the full statement for the empty-PQ meta files: after a pass they only mention listed segments -/
def PqMetaClean (nowMs : Nat) (hours : Int) (s : Store) : Prop :=
  ∀ e ∈ (pass deleteOrder nowMs hours s).pqMeta, e.2 ∈ (pass deleteOrder nowMs hours s).segmetaJson.map (·.key)

/-- what the writer maintains (rotation writes the segment's pqids into its .sfm file and the empty ones
into the pqmeta files; pkg/segment/writer/segstore.go): every empty-PQ entry is recorded in the .sfm
file of its segment, and that file exists -/
def PqEntriesInSfm (s : Store) : Prop := ∀ e ∈ s.pqMeta, e ∈ s.sfmPq ∧ e.2 ∈ s.files

example : PqEntriesInSfm { orphanWitness with pqMeta := [(7, 1)], sfmPq := [(7, 1), (8, 1)] } :=
  List.forall_mem_singleton.mpr (by decide +kernel)

/-- C14.4 (empty-PQ meta files, after the repair) — for EVERY store the writer can have produced (and
whose empty-PQ files mentioned only listed segments before), clock and retention: after the pass the
empty-PQ meta files mention only segments that are still listed in segmeta.json — the entries of every
victim are gone. -/
theorem pqmeta_clean (nowMs : Nat) (hours : Int) (s : Store)
    (hsfm : PqEntriesInSfm s)
    (hpre : ∀ e ∈ s.pqMeta, e.2 ∈ s.segmetaJson.map (·.key)) :
    PqMetaClean nowMs hours s := by
  intro e he
  obtain ⟨he0, hk⟩ := (mem_pqMeta_pass nowMs hours s hsfm e.1 e.2).mp he
  -- the entry is a survivor's, and a survivor's line is not owned either
  obtain ⟨m, hm, hmk⟩ := List.mem_map.mp (hpre e he0)
  rw [pass_eq_keep]
  refine List.mem_map.mpr ⟨m, List.mem_filter.mpr ⟨hm, ?_⟩, hmk⟩
  rw [Bool.not_eq_true', ← Bool.not_eq_true, owned_iff_key (x := .line m) nofun, show (Item.line m).key = e.2 from hmk]
  exact hk

/-- the regression witness of the repaired defect: segment 1 expired, pqid 7 has an empty-results entry
for it; after the pass the entry is gone -/
example : (pass deleteOrder 1790000000000 24 { orphanWitness with pqMeta := [(7, 1)], sfmPq := [(7, 1)] }).pqMeta = [] := by
  decide +kernel

/-- the same statement for the pass BEFORE the repair … -/
def PqMetaCleanOld (nowMs : Nat) (hours : Int) (s : Store) : Prop :=
  ∀ e ∈ (passOld deleteOrderOld nowMs hours s).pqMeta, e.2 ∈ (passOld deleteOrderOld nowMs hours s).segmetaJson.map (·.key)

/-- … was false on stores the writer produces: `ReadLocalSegmeta(false)` yields metas without pqids, so
step 4 of the old `DeleteSegmentData` had nothing to iterate over and the entry of a deleted segment
stayed for ever. -/
theorem pqmeta_clean_old_counterexample :
    ¬ ∀ nowMs hours s, PqEntriesInSfm s → (∀ e ∈ s.pqMeta, e.2 ∈ s.segmetaJson.map (·.key)) → PqMetaCleanOld nowMs hours s := by
  -- one evaluation: the two hypotheses hold of the witness, the conclusion does not
  refine fun h => absurd (h 1790000000000 24 { orphanWitness with pqMeta := [(7, 1)], sfmPq := [(7, 1)] }) ?_
  unfold PqEntriesInSfm PqMetaCleanOld
  decide +kernel

/-- the hypothesis `PqEntriesInSfm` cannot be dropped: an empty-PQ entry that the segment's .sfm file does
not record (or whose .sfm file is gone, as after a crash in the files phase: C14.3) is not found -/
theorem pqmeta_clean_needs_sfm : ¬ ∀ nowMs hours s, PqMetaClean nowMs hours s := by
  intro h
  have := h 1790000000000 24 { orphanWitness with pqMeta := [(7, 1)] }
  revert this
  unfold PqMetaClean
  decide +kernel

/-! #### records after the pass -/

/-- C14.4 (records) — for EVERY store, clock, retention and list of records: an empty result recorded after
the pass is listed in the empty-PQ meta files, whatever the pass removed (also when it removed the last
entry, and with it the pqmeta directory). -/
theorem record_after_pass_listed (nowMs : Nat) (hours : Int) (s : Store) (es : List (Nat × Nat)) (e : Nat × Nat)
    (he : e ∈ es) : e ∈ (recordAll (pass deleteOrder nowMs hours s) es).pqMeta :=
  (mem_recordAll _ es e).mpr (Or.inr he)

/-- … recording touches nothing but the empty-PQ meta files, and there it only adds -/
theorem record_only_adds (s : Store) (es : List (Nat × Nat)) :
    withoutPq (recordAll s es) = withoutPq s ∧ ∀ x, x ∈ (recordAll s es).pqMeta ↔ x ∈ s.pqMeta ∨ x ∈ es :=
  ⟨withoutPq_recordAll s es, mem_recordAll s es⟩

/-- C14.4 (the empty-PQ meta files list exactly the survivors' entries and the records made since) — for every
store the writer can have produced: after a pass and any records, an entry is listed iff it was listed before
for a segment the pass did not select, or it was recorded after the pass. -/
theorem pqmeta_exact_after_pass_and_records (nowMs : Nat) (hours : Int) (s : Store) (es : List (Nat × Nat))
    (hsfm : PqEntriesInSfm s) (hpre : ∀ e ∈ s.pqMeta, e.2 ∈ s.segmetaJson.map (·.key)) (p k : Nat) :
    (p, k) ∈ (recordAll (pass deleteOrder nowMs hours s) es).pqMeta ↔
      ((p, k) ∈ s.pqMeta ∧ k ∉ (victims nowMs hours 0 (readLocal s)).map (·.key)) ∨ (p, k) ∈ es := by
  rw [mem_recordAll, mem_pqMeta_pass nowMs hours s hsfm]

/-- (record of the repaired defect) before the repair a record made after a pass that removed the LAST
empty-PQ entry was dropped — `removePqmrFilesAndDirectory` removes the pqmeta directory with its last file and
`writeEmptyPqsMapToFile` did not create it: segment 1 expired, pqid 7 lists it (the only entry); after the
pass an empty result of pqid 7 for segment 2 is recorded and not listed.  The repaired writer lists it. -/
theorem record_after_pass_old_counterexample :
    (¬ ∀ nowMs hours s es e, e ∈ es →
        e ∈ (recordAllOld (pqDirRemovedOld s (pass deleteOrder nowMs hours s)) (pass deleteOrder nowMs hours s) es).pqMeta) ∧
    (recordAll (pass deleteOrder 1790000000000 24 { orphanWitness with pqMeta := [(7, 1)], sfmPq := [(7, 1)] }) [(7, 2)]).pqMeta
      = [(7, 2)] := by
  -- one evaluation of the pass for both writers
  suffices w : ¬ _ ∧ _ from ⟨fun h => w.1 (h 1790000000000 24 { orphanWitness with pqMeta := [(7, 1)], sfmPq := [(7, 1)] }
    [(7, 2)] (7, 2) (List.mem_singleton.mpr rfl)), w.2⟩
  decide +kernel

/-! ### 5. the volume pass -/

/-- oldest first: the marked segments come in non-decreasing age order, and nothing strictly older than a
marked segment is left (so marking stops at the first segment that is not marked) -/
def OldestFirst (all deleted : List Meta) : Prop :=
  deleted.Pairwise (fun a b => trueTimeMs a ≤ trueTimeMs b) ∧
  ∀ a ∈ deleted, ∀ b ∈ all, trueTimeMs b < trueTimeMs a → b ∈ deleted

/-- C14.5 — the marked segments are exactly the first n of the age-sorted candidate list, for some n. -/
theorem vol_deletes_prefix (limitGB counter : Nat) (metrics logs : List Meta) :
    ∃ n, volPass limitGB counter metrics logs = (volSort (metrics ++ logs)).take n := by
  rw [volPass_eq_volLoop]
  exact volLoop_prefix _ _

/-- C14.5 — for EVERY limit, warning counter and set of segments (no guard beyond the uint32 width of
`LatestEpochSec`): the volume pass marks oldest-first and stops at the first segment it does not mark — no
segment is deleted while a strictly older one stays.  (False before the two fixes, see the `…_old_…`
theorems below.) -/
theorem vol_oldest_first (limitGB counter : Nat) (metrics logs : List Meta) (hw : WellTyped (metrics ++ logs)) :
    OldestFirst (metrics ++ logs) (volPass limitGB counter metrics logs) := by
  have hsorted := pairwise_volSort_trueTime (metrics ++ logs) hw
  obtain ⟨n, hn⟩ := vol_deletes_prefix limitGB counter metrics logs
  rw [hn]
  exact ⟨hsorted.sublist (List.take_sublist _ _),
    fun a ha b hb => take_closed trueTimeMs _ n hsorted a ha b ((mem_volSort b _).mpr hb)⟩

/-- C14.5 — the pass only marks existing segments and never marks as much as the excess: it cannot delete
more than asked for (and, the comparison being strict, never quite reaches the limit). -/
theorem vol_never_overdeletes (limitGB counter : Nat) (metrics logs : List Meta) :
    (∀ a ∈ volPass limitGB counter metrics logs, a ∈ metrics ++ logs) ∧
    (volPass limitGB counter metrics logs = [] ∨
      totalSize (volPass limitGB counter metrics logs) < volExcess limitGB counter (volSystem metrics logs)) := by
  refine ⟨fun a ha => ?_, ?_⟩
  · obtain ⟨n, hn⟩ := vol_deletes_prefix limitGB counter metrics logs
    exact (mem_volSort a _).mp (List.mem_of_mem_take (hn ▸ ha))
  · rw [volPass_eq_volLoop]
    exact (Nat.eq_zero_or_pos _).imp (fun h0 => by rw [h0, volLoop_zero]) (volLoop_total_lt _ _)

/-- (record of repaired defect 1) the pass as it was — `break` leaving only the `switch` — was not
oldest-first even for log segments alone: a 2 GB segment from 2023 does not fit into the 1 GB + 1 excess and
the 1-byte segment from 2026 was deleted instead.  The repaired pass deletes nothing on that input. -/
theorem vol_oldest_first_old_counterexample :
    (¬ ∀ limitGB counter metrics logs, OldestFirst (metrics ++ logs) (volPassOld limitGB counter metrics logs)) ∧
    volPass 1 5 [] [{ key := 1, latest := 1700000000000, kind := .log, size := 2000000000 },
                    { key := 2, latest := 1790000000000, kind := .log, size := 1 }] = [] := by
  suffices w : ¬ _ ∧ _ from
    ⟨fun h => w.1 (h 1 5 [] [{ key := 1, latest := 1700000000000, kind := .log, size := 2000000000 },
                            { key := 2, latest := 1790000000000, kind := .log, size := 1 }]).2, w.2⟩
  decide +kernel

/-- (record of repaired defect 2) the old sort key `uint64(LatestEpochSec * 1000)` was a wrapped uint32
product: today's metrics segment sorted before a log segment from 2023 and was deleted while the old log
segment stayed.  The repaired pass deletes the 2023 log segment on that input. -/
theorem vol_oldest_first_old_counterexample_overflow :
    (¬ ∀ limitGB counter metrics logs, OldestFirst (metrics ++ logs) (volPassOld limitGB counter metrics logs)) ∧
    (volPass 0 5 [{ key := 2, latest := 1789990000, kind := .metrics, size := 5 }]
                 [{ key := 1, latest := 1700000000000, kind := .log, size := 5 }]).map (·.key) = [1] := by
  suffices w : ¬ _ ∧ _ from
    ⟨fun h => w.1 (h 0 5 [{ key := 2, latest := 1789990000, kind := .metrics, size := 5 }]
                        [{ key := 1, latest := 1700000000000, kind := .log, size := 5 }]).2, w.2⟩
  decide +kernel

/-! ### 6. the rewrite of segmeta.json (`removeSegmetas`, `AddOrReplaceRotatedSegmeta`) -/

/-- the arguments the retention passes hand to `removeSegmetas` (through `RemoveSegMetas`): a non-nil map
with at least one well-formed segment key, no index name -/
def keyArgs (victim : Nat → Bool) : SmArgs := { victim := victim, anyValid := true }

/-- the arguments of an index deletion (`DeleteSegmentsForIndex`): nil map, index name -/
def indexArgs (i : Nat) : SmArgs := { nilMap := true, victim := fun _ => false, anyValid := false, index := some i }

/-- the entries a rewrite has to keep: the parsed lines whose key is not to be removed, in file order -/
def survivors (victim : Nat → Bool) (ls : List SmLine) : List SmLine :=
  (ls.filter (·.isEntry)).filter (fun l => !victim l.key)

theorem removes_keyArgs (victim : Nat → Bool) (l : SmLine) (h : l.isEntry = true) :
    (keyArgs victim).removes l = victim l.key := by
  cases l with
  | entry k i u n => rfl
  | junk u n => cases h

/-- **The metadata file lists exactly the survivors**, for a segmeta.json of ANY size (any number of lines;
each line shorter than the scanner's 1 MiB limit): after `removeSegmetas` the entries of the file are
exactly the entries whose key was not to be removed — as a list: same order, same multiplicity, same
contents (`uid`).  (When nothing survives the file is removed: no entries.) -/
theorem segmeta_rewrite_exact (victim : Nat → Bool) (ls : List SmLine) (h : AllShort ls) :
    smEntries (smRemove (keyArgs victim) (.lines ls)).1 = survivors victim ls :=
  smRemove_exact (keyArgs victim) ls h rfl nofun _ (removes_keyArgs victim)

/-- every surviving entry is listed exactly as often as before (once, for a file without duplicates), no
entry of a removed key is listed -/
theorem segmeta_rewrite_each_once (victim : Nat → Bool) (ls : List SmLine) (h : AllShort ls) (l : SmLine)
    (he : l.isEntry = true) :
    (smEntries (smRemove (keyArgs victim) (.lines ls)).1).count l = if victim l.key then 0 else ls.count l := by
  rw [segmeta_rewrite_exact victim ls h, survivors]
  by_cases hv : victim l.key = true
  · rw [if_pos hv]
    exact List.count_eq_zero_of_not_mem fun hm =>
      Bool.eq_false_iff.mp ((Bool.not_eq_true' _).mp (List.mem_filter.mp hm).2) hv
  · have hk : (!victim l.key) = true := (Bool.not_eq_true' _).mpr ((Bool.not_eq_true _).mp hv)
    rw [if_neg hv, List.count_filter (by exact hk), List.count_filter he]

/-- the order of the surviving lines is the order they had -/
theorem segmeta_rewrite_order (victim : Nat → Bool) (ls : List SmLine) (h : AllShort ls) :
    (smEntries (smRemove (keyArgs victim) (.lines ls)).1).Sublist ls := by
  rw [segmeta_rewrite_exact victim ls h]
  exact List.Sublist.trans List.filter_sublist List.filter_sublist

/-- rewriting twice with the same key set is the same as rewriting once; two rewrites in a row remove the
union of the two key sets -/
theorem segmeta_rewrite_compose (v1 v2 : Nat → Bool) (ls : List SmLine) (h : AllShort ls) :
    smEntries (smRemove (keyArgs v2) (smRemove (keyArgs v1) (.lines ls)).1).1
      = survivors (fun k => v1 k || v2 k) ls := by
  -- the first rewrite may have removed the file: a rewrite of any file of short lines, absent or not, filters its entries
  have anyFile : ∀ f, FileShort f →
      smEntries (smRemove (keyArgs v2) f).1 = (smEntries f).filter (fun l => !v2 l.key) := by
    intro f hf
    cases f with
    | missing => rfl
    | lines ms => exact (segmeta_rewrite_exact v2 ms hf).trans (congrArg (List.filter _) (smEntries_short ms hf).symm)
  rw [anyFile _ (smRemove_fileShort (keyArgs v1) ls h), segmeta_rewrite_exact v1 ls h]
  exact filter_union v1 v2 _

theorem segmeta_rewrite_idempotent (victim : Nat → Bool) (ls : List SmLine) (h : AllShort ls) :
    smEntries (smRemove (keyArgs victim) (smRemove (keyArgs victim) (.lines ls)).1).1
      = smEntries (smRemove (keyArgs victim) (.lines ls)).1 := by
  rw [segmeta_rewrite_compose victim victim ls h, segmeta_rewrite_exact victim ls h]
  exact congrArg (survivors · ls) (funext fun k => Bool.or_self _)

/-- The full statement (no bound on the length of a line) is false for the code as it is: one line the
scanner cannot deliver (≥ 1 MiB) and nothing is rewritten — the victim stays listed. -/
theorem segmeta_rewrite_exact_counterexample :
    ¬ ∀ (victim : Nat → Bool) (ls : List SmLine),
        smEntries (smRemove (keyArgs victim) (.lines ls)).1 = survivors victim ls := by
  intro h
  have := h (fun k => k == 1) [.entry 1 0 1 300, .entry 2 0 2 smScanLimit]
  revert this
  decide +kernel

/-- … and characterised: such a file is never changed by `removeSegmetas` -/
theorem segmeta_rewrite_too_long_line_unchanged (a : SmArgs) (ls : List SmLine) (h : ∃ l ∈ ls, smScanLimit ≤ l.len) :
    (smRemove a (.lines ls)).1 = .lines ls := by
  rw [smRemove_lines, show (smScan ls).2 = true from smScanWith_tooLong _ ls h, Bool.or_true, Bool.true_or]
  rfl

example : AllShort [.entry 1 0 1 300, .junk 7 0, .entry 2 1 2 1048575] := by
  unfold AllShort AllShorter; decide +kernel

theorem removes_indexArgs (i : Nat) (l : SmLine) (h : l.isEntry = true) :
    (indexArgs i).removes l = decide (l.idx = i) := by
  cases l with
  | entry k j u n => rfl
  | junk u n => cases h

/-- index deletion (`DeleteSegmentsForIndex` → `removeSegmetas(nil, index)`), for a file of any size: exactly
the entries of the other indexes stay, in order -/
theorem segmeta_index_rewrite_exact (i : Nat) (ls : List SmLine) (h : AllShort ls) :
    smEntries (smRemove (indexArgs i) (.lines ls)).1 = (ls.filter (·.isEntry)).filter (fun l => !decide (l.idx = i)) :=
  smRemove_exact (indexArgs i) ls h rfl id _ (removes_indexArgs i)

/-- `AddOrReplaceRotatedSegmeta`, for a file of any size: the other segments' entries stay as they are and
in order, the new entry is the last line -/
theorem segmeta_add_or_replace (key idx uid len : Nat) (hl : len < smScanLimit) (ls : List SmLine) (h : AllShort ls) :
    smEntries (smAddOrReplace key idx uid len (.lines ls))
      = survivors (fun k => decide (k = key)) ls ++ [.entry key idx uid len] :=
  (smEntries_smAppend (.entry key idx uid len) hl _ (smRemove_fileShort (keyArgs _) ls h)).trans
    (congrArg (· ++ _) (segmeta_rewrite_exact _ ls h))

/-- … so afterwards exactly one entry carries the key: the new one -/
theorem segmeta_add_or_replace_unique (key idx uid len : Nat) (hl : len < smScanLimit) (ls : List SmLine) (h : AllShort ls) :
    (smEntries (smAddOrReplace key idx uid len (.lines ls))).filter (fun l => decide (l.key = key))
      = [.entry key idx uid len] := by
  -- no survivor carries the key
  rw [segmeta_add_or_replace key idx uid len hl ls h, List.filter_append, survivors, List.filter_filter,
    List.filter_eq_nil_iff.mpr fun l _ => Bool.eq_false_iff.mp (Bool.and_not_self _)]
  exact List.filter_eq_self.mpr (List.forall_mem_singleton.mpr (decide_eq_true rfl))

/-- the line-level rewrite refines the `segmeta` step of the delete protocol above (`applyStep (.segmeta ks)`):
the keys listed afterwards are the same -/
theorem segmeta_step_refines (ks : List Nat) (ms : List Meta) (s : Store) (hs : s.segmetaJson = ms) :
    (smEntries (smRemove (keyArgs (fun k => decide (k ∈ ks))) (smOfMetas ms)).1).map (·.key)
      = ((applyStep s (.segmeta ks)).segmetaJson).map (·.key) := by
  subst hs
  have hshort : AllShort (s.segmetaJson.map fun m => SmLine.entry m.key m.org m.key 300) :=
    List.forall_mem_map.mpr fun _ _ => (by decide : 300 < smScanLimit)
  -- every line is an entry; filtering the lines is filtering the metas
  have he : (s.segmetaJson.map fun m => SmLine.entry m.key m.org m.key 300).filter (·.isEntry) = _ :=
    List.filter_eq_self.mpr (List.forall_mem_map.mpr fun _ _ => rfl)
  rw [smOfMetas, segmeta_rewrite_exact _ _ hshort, survivors, he, List.filter_map, List.map_map]
  exact congrArg (List.map Meta.key) (List.filter_congr fun m _ => decide_not.symm)

/-- written, then scanned: the scanner delivers exactly the lines that were written, for a file of any
length — provided no line contains a newline or ends in '\r' (json.Marshal escapes both) -/
theorem segmeta_file_lines_roundtrip (ls : List (List Nat)) (h : ∀ l ∈ ls, 10 ∉ l ∧ l.getLast? ≠ some 13) :
    smSplitLines (smJoinLines ls) = ls := by
  induction ls with
  | nil => rfl
  | cons l r ih =>
    have hl := h l List.mem_cons_self
    -- the file is `l`, its newline, the other lines
    refine (smSplitAux_line l (smJoinLines r) [] hl.1).trans ?_
    rw [show smDropCR ([].reverseAux l) = l from if_neg hl.2]
    exact congrArg (l :: ·) (ih fun x hx => h x (List.mem_cons_of_mem _ hx))

/-- At full strength, for EVERY segmeta.json (lines of any length, junk, duplicates) and every argument of
`removeSegmetas`: the file afterwards is the file before, or exactly its preserved entries — the function
never rewrites from a partial read (`reader.Err() != nil` → `return nil`). -/
theorem segmeta_rewrite_all_or_nothing (a : SmArgs) (ls : List SmLine) :
    (smRemove a (.lines ls)).1 = .lines ls ∨ (smRemove a (.lines ls)).1.lineList = smPreserved a ls := by
  rw [smRemove_lines]
  exact rewritten_all_or_nothing _ ls _

/-- … so no entry that was not to be removed is ever dropped from segmeta.json, whatever the file looks like -/
theorem segmeta_rewrite_keeps_survivors (a : SmArgs) (ls : List SmLine) (l : SmLine)
    (hl : l ∈ ls) (he : l.isEntry = true) (hr : a.removes l = false) :
    l ∈ (smRemove a (.lines ls)).1.lineList := by
  rw [smRemove_lines]
  exact mem_rewritten hl (List.mem_filter.mpr ⟨hl, (Bool.and_eq_true _ _).mpr ⟨he, (Bool.not_eq_true' _).mpr hr⟩⟩)

/-! ### 7. metricmeta.json (after the two repairs: 64 MiB scanner, no rewrite after a read error) -/

/-- the rewrite of metricmeta.json, for a file of any number of lines, each shorter than the scanner's
64 MiB: what `ReadMetricsMeta` finds afterwards is exactly the entries whose key was not to be removed, in
order, and it reports no error -/
theorem metricsmeta_rewrite_exact (victim : Nat → Bool) (ls : List SmLine) (h : AllShorter mmScanLimit ls) :
    mmRead (mmRemove false victim (.lines ls)) = (survivors victim ls, false) := by
  rw [mmRemove_lines, smScanWith_allShorter _ ls h]
  -- the file stays only when no entry is on the list
  exact read_rewritten _ _ ls (fun l => victim l.key) h (Bool.not_eq_true' _).mp

/-- **No survivor is ever dropped from metricmeta.json** — at full strength, for EVERY file (lines of any
length, junk, duplicates) and every key set: an entry whose key was not to be removed is still a line of the
file afterwards.  (False before the repair: `metricsmeta_rewrite_old_drops_tail`.) -/
theorem metricsmeta_rewrite_keeps_survivors (nilMap : Bool) (victim : Nat → Bool) (ls : List SmLine) (l : SmLine)
    (hl : l ∈ ls) (he : l.isEntry = true) (hv : victim l.key = false) :
    l ∈ (mmRemove nilMap victim (.lines ls)).lineList := by
  rw [mmRemove_lines]
  exact mem_rewritten hl (List.mem_filter.mpr ⟨List.mem_filter.mpr ⟨hl, he⟩, (Bool.not_eq_true' _).mpr hv⟩)

/-- … and nothing but victims is ever removed: the file afterwards is the file before, or exactly its
surviving entries (the scan was complete) -/
theorem metricsmeta_rewrite_all_or_nothing (nilMap : Bool) (victim : Nat → Bool) (ls : List SmLine) :
    mmRemove nilMap victim (.lines ls) = .lines ls
      ∨ (mmRemove nilMap victim (.lines ls)).lineList = survivors victim ls := by
  rw [mmRemove_lines]
  exact rewritten_all_or_nothing _ ls _

/-- a file the scanner cannot read to its end is left exactly as it is -/
theorem metricsmeta_rewrite_unchanged_on_read_error (nilMap : Bool) (victim : Nat → Bool) (ls : List SmLine)
    (h : ∃ l ∈ ls, mmScanLimit ≤ l.len) : mmRemove nilMap victim (.lines ls) = .lines ls := by
  rw [mmRemove_lines, smScanWith_tooLong _ ls h, Bool.or_true, Bool.true_or]
  rfl

/-- the metrics half of a pass over a file of lines shorter than 64 MiB: exactly the entries whose key's (last)
entry is expired are gone afterwards -/
theorem metrics_pass_exact (expired : SmLine → Bool) (ls : List SmLine) (h : AllShorter mmScanLimit ls) :
    mmRead (mmPass expired (.lines ls)) = (survivors (mmExpiredKey expired (ls.filter (·.isEntry))) ls, false) := by
  have hr : mmRead (.lines ls) = (ls.filter (·.isEntry), false) := mmReadWith_allShorter _ ls h
  rw [mmPass, hr]
  exact metricsmeta_rewrite_exact _ ls h

/-- the line that stopped all retention before the repair (65536 bytes: some 2700 tag keys) is handled now -/
example : mmRead (mmPass (fun l => l.key == 1) (.lines [.entry 1 0 1 300, .entry 2 0 2 mmScanLimitOld]))
    = ([.entry 2 0 2 mmScanLimitOld], false) := by decide +kernel

/-- What is left of the defect: a line of ≥ 64 MiB (millions of tag keys in one segment) still makes
`ReadMetricsMeta` fail, and then no pass deletes anything — but nothing is lost. -/
theorem metrics_pass_blocked_by_long_line (expired : SmLine → Bool) (ls : List SmLine)
    (h : ∃ l ∈ ls, mmScanLimit ≤ l.len) : mmPass expired (.lines ls) = .lines ls :=
  if_pos (smScanWith_tooLong mmScanLimit ls h)

/-- so "every expired metrics segment is deleted" needs the (now 64 MiB) bound on the line length -/
theorem metrics_pass_deletes_expired_counterexample :
    ¬ ∀ (expired : SmLine → Bool) (ls : List SmLine) (l : SmLine),
        l ∈ ls → l.isEntry = true → expired l = true → l ∉ (mmRead (mmPass expired (.lines ls))).1 := by
  intro h
  have := h (fun l => l.key == 1) [.entry 1 0 1 300, .entry 2 0 2 mmScanLimit] (.entry 1 0 1 300)
    List.mem_cons_self rfl rfl
  revert this
  decide +kernel

example : AllShorter mmScanLimit [.entry 1 0 1 300, .entry 2 1 2 65536, .entry 3 0 3 2000000] := by
  unfold AllShorter; decide +kernel

/-! #### the behaviour before the repairs (`mmReadOld`, `mmRemoveOld`, `mmPassOld`: 64 KiB scanner, rewrite from a partial read) -/

/-- before the repair the exactness statement was false for lines of any length: the rewrite went on after
the scanner's error with the lines it had got -/
theorem metricsmeta_rewrite_exact_old_counterexample :
    ¬ ∀ (victim : Nat → Bool) (ls : List SmLine),
        (mmReadOld (mmRemoveOld false victim (.lines ls))).1 = survivors victim ls := by
  intro h
  have := h (fun k => k == 1) [.entry 1 0 1 300, .entry 2 0 2 300, .entry 3 0 3 mmScanLimitOld, .entry 4 0 4 300]
  revert this
  decide +kernel

/-- … characterised: with a victim before the first line of ≥ 64 KiB, the rewritten file listed the survivors
among the lines BEFORE it and nothing else — every entry from that line on was dropped, survivors included -/
theorem metricsmeta_rewrite_old_drops_tail (victim : Nat → Bool) (pre post : List SmLine) (long : SmLine)
    (hp : AllShorter mmScanLimitOld pre) (hl : mmScanLimitOld ≤ long.len)
    (hv : ((pre.filter (·.isEntry)).any (fun l => victim l.key)) = true) :
    (mmRemoveOld false victim (.lines (pre ++ long :: post))).lineList = survivors victim pre := by
  unfold mmRemoveOld
  dsimp only
  rw [smScanWith_prefix mmScanLimitOld pre post long hp hl, hv]
  exact lineList_rewritten pre _

/-- "no survivor is ever dropped" was false before the repair -/
theorem metricsmeta_rewrite_keeps_survivors_old_counterexample :
    ¬ ∀ (victim : Nat → Bool) (ls : List SmLine) (l : SmLine), l ∈ ls → l.isEntry = true → victim l.key = false →
        l ∈ (mmRemoveOld false victim (.lines ls)).lineList :=
  -- hypotheses and conclusion of the instance in one evaluation
  fun h => absurd (h (fun k => k == 1) [.entry 1 0 1 300, .entry 2 0 2 300, .entry 3 0 3 mmScanLimitOld, .entry 4 0 4 300]
    (.entry 4 0 4 300)) (by decide +kernel)

/-- before the repair one line of ≥ 64 KiB in metricmeta.json and no pass deleted anything any more -/
theorem metrics_pass_old_blocked_by_long_line (expired : SmLine → Bool) (ls : List SmLine)
    (h : ∃ l ∈ ls, mmScanLimitOld ≤ l.len) : mmPassOld expired (.lines ls) = .lines ls :=
  if_pos (smScanWith_tooLong mmScanLimitOld ls h)

/-! ### 8. metricmeta.json: one retention pass against concurrent rotations and readers (`MmConc`)

The machine interleaves, in ANY order, the steps of one pass (`RemoveMetricsSegments`: lock, scan, one directory removal
per removed entry, rewrite + unlock), of any number of rotations (`AddMetricsMetaEntry`: lock, append + unlock) and of any
number of readers; a step that would wait for `mMetaLock` is not taken.  `victim` = the pass's list, `key i` = the entry
rotation `i` appends; a freshly rotated segment is not on the list (`hk`).  Tied to the code by suite `retmmc` (replay of
generated schedules on the real functions, stopped at pause points) and the call-order facts `C14.RemoveMetricsSegments.order`,
`C14.removeMetricsSegmentsByList.order`, `C14.AddMetricsMetaEntry.order`, `C14.ReadMetricsMeta.order`. -/
section MmConcProps
open SigModel.Retention.MmConc SigModel.Lemmas.C14Conc

/-- the state every schedule starts from: the file as it is, nobody has started -/
def mmcInit (f0 d0 : List Nat) : MmConc.St := { file := f0, dirs := d0 }

/-- NO ROTATION IS LOST: after any schedule, the entry of every rotation that has returned is listed in metricmeta.json -/
theorem mmc_no_rotation_lost (victim : Nat → Bool) (key : Nat → Nat) (hk : ∀ i, victim (key i) = false)
    (f0 d0 : List Nat) (sched : List MmConc.Tid) (i : Nat)
    (h : MmConc.acked (MmConc.run victim key (mmcInit f0 d0) sched) i = true) :
    key i ∈ (MmConc.run victim key (mmcInit f0 d0) sched).file :=
  (inv_reachable victim key hk f0 d0 sched).ack i ((acked_iff _ i).mp h)

/-- after any schedule every entry that was not to be removed is still listed -/
theorem mmc_survivors_listed (victim : Nat → Bool) (key : Nat → Nat) (hk : ∀ i, victim (key i) = false)
    (f0 d0 : List Nat) (sched : List MmConc.Tid) (k : Nat) (h0 : k ∈ f0) (hv : victim k = false) :
    k ∈ (MmConc.run victim key (mmcInit f0 d0) sched).file :=
  (inv_reachable victim key hk f0 d0 sched).surv k h0 hv

/-- THE PASS IS ATOMIC WITH RESPECT TO ROTATIONS: once the pass has returned — whatever was interleaved with it, and
whatever ran afterwards — metricmeta.json lists exactly the initial entries that were not to be removed and the entries
of the rotations that have returned -/
theorem mmc_pass_exact (victim : Nat → Bool) (key : Nat → Nat) (hk : ∀ i, victim (key i) = false)
    (f0 d0 : List Nat) (sched : List MmConc.Tid)
    (hd : (MmConc.run victim key (mmcInit f0 d0) sched).ppc = .done) (k : Nat) :
    k ∈ (MmConc.run victim key (mmcInit f0 d0) sched).file ↔
      (k ∈ f0 ∧ victim k = false) ∨ ∃ i, k = key i ∧ MmConc.acked (MmConc.run victim key (mmcInit f0 d0) sched) i = true := by
  have inv := inv_reachable victim key hk f0 d0 sched
  constructor
  · intro hf
    rcases inv.only k hf with h0 | ⟨i, hi, ha⟩
    · exact Or.inl ⟨h0, inv.clean hd k hf⟩
    · exact Or.inr ⟨i, hi, (acked_iff _ i).mpr ha⟩
  · rintro (⟨h0, hv⟩ | ⟨i, rfl, ha⟩)
    · exact inv.surv k h0 hv
    · exact inv.ack i ((acked_iff _ i).mp ha)

/-- between its scan and its rewrite the pass holds the lock: a rotation that arrives then waits (its step is not
taken), in every reachable state -/
theorem mmc_rotation_waits_for_pass (victim : Nat → Bool) (key : Nat → Nat) (hk : ∀ i, victim (key i) = false)
    (f0 d0 : List Nat) (sched : List MmConc.Tid) (i : Nat)
    (hp : (MmConc.run victim key (mmcInit f0 d0) sched).ppc = .scan ∨ (MmConc.run victim key (mmcInit f0 d0) sched).ppc = .rmdir
      ∨ (MmConc.run victim key (mmcInit f0 d0) sched).ppc = .rewrite)
    (ha : (MmConc.run victim key (mmcInit f0 d0) sched).apc i = .lock) :
    MmConc.step victim key (MmConc.run victim key (mmcInit f0 d0) sched) (.app i)
      = (MmConc.run victim key (mmcInit f0 d0) sched, .blocked) := by
  have hw : (MmConc.run victim key (mmcInit f0 d0) sched).writer = some .pass :=
    (inv_reachable victim key hk f0 d0 sched).pass_holds_lock hp
  simp [MmConc.step, ha, hw]

/-- non-vacuity: a rotation that tries to get in after the scan and after the directory removal, then gets in:
the pass returns, the rotation returns, the file lists the survivors and the rotated segment -/
example :
    let s := MmConc.run (fun k => k == 1) (fun i => 101 + i) (mmcInit [1, 2, 3] [1, 2, 3, 101])
      [.pass, .pass, .app 0, .pass, .app 0, .pass, .app 0, .app 0]
    s.ppc = .done ∧ MmConc.acked s 0 = true ∧ s.file = [2, 3, 101] ∧ s.dirs = [2, 3, 101] := by
  decide +kernel

end MmConcProps

/-! ### 9. the directory of a segment from its key (`utils.GetSegBaseDirFromFilename`)

`DeleteSegmentData` and `removeSegmetas` find the directory of a victim from its segment key.  Tied to the code by suite
`retsbd` (the real function on generated keys) and, end to end, by suite `ret`, whose victims' index names are drawn from the
words of the data layout. -/
section SegDirProps
open SigModel.Retention.SegDir SigModel.Lemmas.C14Dir

/-- for every segment key in the writer's layout `<pre>/final/<index>/<stream>/<suffix>/<suffix>` (`config.GetSegKey`),
whatever the index is called — `final` included —, the result is the segment's directory `<pre>/final/<index>/<stream>/<suffix>/`
(`config.GetBaseSegDir`).  Hypotheses: index name, stream id and suffix hold no "/" (index names: `vtable.IsValidIndexName`),
and the data path + host id `pre` do not themselves hold a "/final/" (stated so that an occurrence straddling the end of `pre`
is excluded too) — the code's own note: the function is coupled to getBaseSegDir -/
theorem segBaseDir_of_writer_layout (pre index stream suffix : List Char)
    (hpre : findSub finalStr (pre ++ "/final".toList) = none)
    (hi : '/' ∉ index) (hs : '/' ∉ stream) (hx : '/' ∉ suffix) :
    segBaseDir (segKey pre index stream suffix) = some (baseSegDir pre index stream suffix) := by
  -- a literal is the list of its characters by `String.toList_ofList`; evaluating `toList` on it is far slower
  have hfinal : finalStr = "/final".toList ++ ['/'] := by
    unfold finalStr
    rw [String.toList_ofList, String.toList_ofList]
    rfl
  simp only [segKey, baseSegDir, List.append_assoc, List.singleton_append]
  exact segBaseDir_at pre _ _ (findSub_behind _ _ _ hfinal _ pre hpre) (takeParts_component 2 _ index _ hi
    (takeParts_component 1 _ stream _ hs (takeParts_component 0 _ suffix _ hx (takeParts_zero _))))

/-- non-vacuity, and the case that matters: an index called `final` -/
example : segBaseDir "/data/host1/final/final/123/7/7".toList = some "/data/host1/final/final/123/7/".toList := by
  -- the literals by `String.toList_ofList`, as above; the one inside `finalStr` is replaced through an equation proved apart,
  -- since the kernel checks a rewrite under the `match` of `segBaseDir` by evaluating both sides
  rw [String.toList_ofList, String.toList_ofList, segBaseDir, show finalStr = _ from String.toList_ofList]
  decide +kernel

/-- the hypothesis on `pre` cannot be dropped: under a data path that holds a `/final/` the function answers with a
directory of the data path -/
theorem segBaseDir_data_path_with_final_counterexample :
    segBaseDir (segKey "/mnt/final/sig/h".toList "app".toList "1".toList "7".toList)
      ≠ some (baseSegDir "/mnt/final/sig/h".toList "app".toList "1".toList "7".toList) := by
  rw [String.toList_ofList, String.toList_ofList, String.toList_ofList, String.toList_ofList]
  decide +kernel

end SegDirProps

end SigModel.Props.C14
