/-
C06 — Pipeline commands mean the same however the stream is chunked.
Property theorems (and `read_two_pass_over`, the general form of `two_pass_over`).  Model: SigModel/Model/Pipe.lean (the
DataProcessor.Fetch loop `pass` / `runBatches` over the processors of head, tail, scroll-from, dedup, fillnull, rename, fields).

Every `chunk_invariant_*` theorem quantifies over EVERY list of batches `parts` (any table, any partition,
empty batches included): what the final consumer receives equals the documented meaning `sem` applied to
the concatenated input.  The model mirrors the code AFTER the C06 repairs (dedup key = digest of the sequence of
field hashes, dedup columns read with backfill, tail hands out a copy of its result).  `kf` is the key of a
tuple of field values; in the code `digestKey h combine` with `h` the hash of a single value and `combine`
the digest of the sequence of hashes (both xxhash) — parameters.

Section `plan` (model: SigModel/Model/PipePlan.lean, lemmas: Lemmas/C06P.lean and Lemmas/C06MS.lean, suite pipeplan): which
commands CanParallelSearch / SetupQueryParallelism clone into parallel chains, `sort` under any batching, the merge of the chains'
sorted results under the merge limit (numReturned), the second read of the merger after DataProcessor.Rewind, and a
DataProcessor with several input streams (getStreamInput).
-/
import SigModel.Model.Pipe
import SigModel.Lemmas.C06
import SigModel.Lemmas.C06b
import SigModel.Model.PipePlan
import SigModel.Lemmas.C06P
import SigModel.Lemmas.C06MS

namespace SigModel.Props.C06
open SigModel.Pipe SigModel.Lemmas.C06

/-! ### commands whose processors are chunk-invariant without any condition -/

/-- `head n`: the counter kept between batches makes the limit global; the early EOF drops nothing that
the full-stream meaning keeps. -/
theorem chunk_invariant_head (n : Nat) (parts : List Table) :
    runBatched (headProc n) parts = sem (.head n) parts.flatten :=
  (runBatched_onePass _ rfl parts).trans (head_pass n parts 0)

/-- `tail n` (a bottleneck: everything is withheld until the upstream's EOF): the last n rows of the whole
stream, in reverse order, whatever the batch sizes. -/
theorem chunk_invariant_tail (n : Nat) (parts : List Table) :
    runBatched (tailProc n) parts = sem (.tail n) parts.flatten :=
  (runBatched_onePass _ rfl parts).trans (tail_pass_flatten n parts)

/-- the `scroll from` processor skips exactly the first `from` rows of the whole stream -/
theorem chunk_invariant_scroll (n : Nat) (parts : List Table) :
    runBatched (scrollProc n) parts = sem (.scroll n) parts.flatten :=
  (runBatched_onePass _ rfl parts).trans (scroll_pass n parts n)

/-- `rename old as new` -/
theorem chunk_invariant_rename (a b : String) (parts : List Table) :
    runBatched (rowwiseProc (renameTable a b)) parts = sem (.rename a b) parts.flatten :=
  rowwise_run _ rfl (renameTable_append a b) parts

/-- `fields + …` / `fields - …` (literal names) -/
theorem chunk_invariant_fields (inc : Bool) (fs : List String) (parts : List Table) :
    runBatched (rowwiseProc (fieldsTable inc fs)) parts = sem (.fields inc fs) parts.flatten :=
  rowwise_run _ rfl (fieldsTable_append inc fs) parts

/-- `fillnull value=v f1 …` (with a field list: streaming) -/
theorem chunk_invariant_fillnull_fields (v : String) (f : String) (fs : List String) (parts : List Table) :
    runBatched (rowwiseProc (fillTable (f :: fs) v)) parts = sem (.fillnull v (f :: fs)) parts.flatten :=
  rowwise_run _ rfl (fun _ _ => List.map_append) parts

/-- `fillnull value=v` without a field list — the two-pass command: the first read collects the columns of
the whole stream, `Rewind`, the second read fills.  Stated for two DIFFERENT partitions of the same rows
in the two passes ("in one or two passes"). -/
theorem two_pass_fillnull_all (v : String) (parts1 parts2 : List Table) (hsame : parts1.flatten = parts2.flatten) :
    runTwoPass (fillAllProc v) parts1 parts2 = sem (.fillnull v []) parts1.flatten := by
  unfold runTwoPass
  rw [show (fillAllProc v).init = { known := [], second := false } from rfl, fillAll_pass1]
  exact (fillAll_pass2 v _ parts2).trans (hsame ▸ rfl)

theorem chunk_invariant_fillnull_all (v : String) (parts : List Table) :
    runBatched (fillAllProc v) parts = sem (.fillnull v []) parts.flatten :=
  two_pass_fillnull_all v parts parts rfl

/-! ### composition -/

/-- If two processors are chunk-invariant, so is the second one fed with whatever batches the first one
emits: the chain means the composition of the two meanings. -/
theorem compose {σ τ : Type} (p : Proc σ) (q : Proc τ) (f g : Table → Table)
    (hp : ∀ parts, runBatched p parts = f parts.flatten)
    (hq : ∀ parts, runBatched q parts = g parts.flatten) (parts : List Table) :
    runBatched q (runBatches p parts) = g (f parts.flatten) := by
  rw [hq, ← hp]; rfl

/-- a chunk-invariant stage: a processor together with its meaning -/
structure Stage where
  σ : Type
  proc : Proc σ
  meaning : Table → Table
  inv : ∀ parts, runBatched proc parts = meaning parts.flatten

/-- each stage is fed the batches the previous one emits -/
def runStages : List Stage → List Table → List Table
  | [], parts => parts
  | s :: ss, parts => runStages ss (runBatches s.proc parts)

/-- every chain of chunk-invariant stages means the composition of the stage meanings on the whole input,
for every partition of the input (induction on the chain) -/
theorem chain_invariant (ss : List Stage) : ∀ (parts : List Table),
    (runStages ss parts).flatten = ss.foldl (fun t s => s.meaning t) parts.flatten := by
  induction ss with
  | nil => intro parts; rfl
  | cons s ss ih =>
    intro parts
    simp only [runStages, List.foldl_cons]
    rw [ih, ← s.inv]; rfl

/-- the chain reader the Oracle runs (`Chain.read`, which re-reads a rewound upstream for two-pass
commands) is `runBatches` for one DataProcessor over the replayed source … -/
theorem read_single {σ : Type} (p : Proc σ) (parts : List Table) (n : Nat) :
    (Chain.read (n + 2) (.dp (.src parts) p p.init false)).2 = runBatches p parts := by
  dsimp only [Chain.read, runBatches]
  cases p.twoPass
  · exact congrArg (fun e => (pass p e p.init parts).2) (Bool.or_false _)
  · rfl

/-- … and `runBatches` of `runBatches` for a single-pass command on top of any command. -/
theorem read_pair {σ τ : Type} (p : Proc σ) (q : Proc τ) (hq : q.twoPass = false) (parts : List Table) (n : Nat) :
    (Chain.read (n + 3) (.dp (.dp (.src parts) p p.init false) q q.init false)).2 = runBatches q (runBatches p parts) := by
  rw [← read_single p parts n]
  simp only [Chain.read, runBatches, hq, Bool.false_and, Bool.false_eq_true, ↓reduceIte, Bool.or_false]

/-- … and for a two-pass command on top of a single-pass one: first read, Rewind of the whole chain (the upstream processor
keeps the state it reached), second read. -/
theorem read_two_pass_over {σ τ : Type} (p : Proc σ) (q : Proc τ) (hp : p.twoPass = false) (hq : q.twoPass = true)
    (parts : List Table) (n : Nat) :
    (Chain.read (n + 3) (.dp (.dp (.src parts) p p.init false) q q.init false)).2
      = (pass q true (q.rewind (pass q false q.init (pass p (!p.bottleneck) p.init parts).2).1)
          (pass p (!p.bottleneck) (p.rewind (pass p (!p.bottleneck) p.init parts).1) parts).2).2 := by
  simp only [Chain.read, Chain.rewind, hp, hq, Bool.false_and, Bool.or_false, Bool.not_false, Bool.and_true,
    Bool.false_eq_true, ↓reduceIte]

/-! ### dedup -/

/-- What the CODE computes, for EVERY key function on value tuples, every option set (limit, consecutive,
keepempty, keepevents) and every partition — whatever columns the batches carry (an absent column reads
as nulls): dedup of the whole stream under that key.  The seen-map survives batch boundaries exactly. -/
theorem chunk_invariant_dedup_code (kf : List Val → Nat) (o : DedupOpts) (parts : List Table)
    (hf : o.fields ≠ []) :
    runBatched (dedupProc kf o) parts = dedupSpec (rowKey kf o.fields) o parts.flatten :=
  (runBatched_onePass _ rfl parts).trans ((dedup_pass kf o hf parts []).trans
    (dedupRows_spec kf o parts.flatten [] [] (fun _ => by cases o.consecutive <;> rfl)))

/-- assumption on the single-value hash: no collisions -/
def HashInjective (h : Val → Nat) : Prop := ∀ v w, h v = h w → v = w
/-- assumption on the digest: no collisions between hash sequences of the same length (the digest input is
the concatenation of fixed-width 8-byte hashes of the same number of fields) -/
def DigestInjective (combine : List Nat → Nat) : Prop :=
  ∀ a b : List Nat, a.length = b.length → combine a = combine b → a = b

/-- FULL STATEMENT about the key: tuples of the same length with different values get different keys —
modulo exactly the two collision-freeness assumptions above. -/
theorem dedup_key_injective (h : Val → Nat) (combine : List Nat → Nat)
    (hinj : HashInjective h) (cinj : DigestInjective combine) (vs ws : List Val)
    (hl : vs.length = ws.length) (e : digestKey h combine vs = digestKey h combine ws) : vs = ws :=
  (List.map_inj_right hinj).mp (cinj _ _ (by rw [List.length_map, List.length_map, hl]) e)

/-- C06 for dedup at full strength: for every partition, every column layout of the batches and every
option set, the code's dedup is the documented dedup (key = the TUPLE of field values) of the whole
stream.  Residual assumptions: the two hashes are collision-free. -/
theorem chunk_invariant_dedup (h : Val → Nat) (combine : List Nat → Nat)
    (hinj : HashInjective h) (cinj : DigestInjective combine) (o : DedupOpts) (parts : List Table)
    (hf : o.fields ≠ []) :
    runBatched (dedupProc (digestKey h combine) o) parts = sem (.dedup o) parts.flatten :=
  (chunk_invariant_dedup_code _ o parts hf).trans
    (dedup_key_congr _ o _ (fun x => x.length = o.fields.length)
      (fun x y hx hy => dedup_key_injective h combine hinj cinj x y (hx.trans hy.symm))
      (fun r _ x hx => rowKey_length _ r x hx))

/-- decidable, table-local form of the collision assumption: on the rows of THIS table the key separates
what the value tuples separate (Bool) -/
def keyFaithful (kf : List Val → Nat) (fs : List String) (t : Table) : Bool :=
  t.all (fun r => t.all (fun r' =>
    match rowKey (fun vs => vs) fs r, rowKey (fun vs => vs) fs r' with
    | some vs, some ws => kf vs != kf ws || vs == ws
    | _, _ => true))

/-- the same theorem for ANY key function under the table-local, checkable assumption (no global
injectivity needed; see the `example` at the end for a concrete instance) -/
theorem chunk_invariant_dedup_local (kf : List Val → Nat) (o : DedupOpts) (parts : List Table)
    (hf : o.fields ≠ []) (hk : keyFaithful kf o.fields parts.flatten = true) :
    runBatched (dedupProc kf o) parts = sem (.dedup o) parts.flatten := by
  refine (chunk_invariant_dedup_code kf o parts hf).trans
    (dedup_key_congr kf o _ (fun x => ∃ r, r ∈ parts.flatten ∧ rowKey (fun vs => vs) o.fields r = some x) ?_
      (fun r hr x hx => ⟨r, hr, hx⟩))
  rintro x y ⟨r, hr, hx⟩ ⟨r', hr', hy⟩ e
  have h1 := List.all_eq_true.mp (List.all_eq_true.mp hk r hr) r' hr'
  rw [hx, hy] at h1
  exact (Bool.or_eq_true_iff.mp h1).elim (fun h => absurd e (bne_iff_ne.mp h)) beq_iff_eq.mp

/-- The code BEFORE the repair combined the field hashes with XOR: for EVERY hash (1,2) and (2,1) collide … -/
theorem dedup_key_counterexample_old (h : Val → Nat) :
    xorKeyOld h [.int 1, .int 2] = xorKeyOld h [.int 2, .int 1] := xorKeyOld_swap h _ _

/-- … and so do (1,1) and (2,2) (every pair of equal values has key 0). -/
theorem dedup_key_counterexample_cancel_old (h : Val → Nat) :
    xorKeyOld h [.int 1, .int 1] = xorKeyOld h [.int 2, .int 2] := by
  rw [xorKeyOld_pair_self, xorKeyOld_pair_self]

/-- with that key the code's dedup is NOT the documented one (same theorem `chunk_invariant_dedup_code`,
instantiated with the old key): (a=1,b=2), (a=2,b=1) come out as one row, for every hash. -/
theorem chunk_invariant_dedup_counterexample_old (h : Val → Nat) :
    runBatched (dedupProc (xorKeyOld h) { fields := ["a", "b"] })
        [[[("a", .int 1), ("b", .int 2)], [("a", .int 2), ("b", .int 1)]]]
      ≠ sem (.dedup { fields := ["a", "b"] }) [[("a", .int 1), ("b", .int 2)], [("a", .int 2), ("b", .int 1)]] := by
  rw [chunk_invariant_dedup_code _ _ _ (List.cons_ne_nil _ _)]
  simp [sem, dedupSpec, dedupSpecFrom, rowKey, Row.get, List.lookup_cons, Val.isNull, emitRow, xorKeyOld, Nat.xor_comm]

/-! ### a two-pass command on top of a stateful command (the upstream is rewound and read again) -/

/-- the single-pass processor `p`, rewound after a complete read of `parts`, yields its meaning again -/
def RereadableOn {σ : Type} (p : Proc σ) (f : Table → Table) (parts : List Table) : Prop :=
  ((pass p (!p.bottleneck) (p.rewind (pass p (!p.bottleneck) p.init parts).1) parts).2).flatten = f parts.flatten

/-- `head`'s Rewind resets the counter -/
theorem rereadable_head (n : Nat) (parts : List Table) : RereadableOn (headProc n) (sem (.head n)) parts :=
  head_pass n parts 0

/-- `dedup`'s Rewind drops the seen-map -/
theorem rereadable_dedup (h : Val → Nat) (combine : List Nat → Nat)
    (hinj : HashInjective h) (cinj : DigestInjective combine) (o : DedupOpts) (parts : List Table)
    (hf : o.fields ≠ []) :
    RereadableOn (dedupProc (digestKey h combine) o) (sem (.dedup o)) parts :=
  (runBatched_onePass _ rfl parts).symm.trans (chunk_invariant_dedup h combine hinj cinj o parts hf)

/-- `tail` does not rewind anything: it answers with (a copy of) the final result it already has -/
theorem rereadable_tail (n : Nat) (parts : List Table) : RereadableOn (tailProc n) (sem (.tail n)) parts :=
  (congrArg List.flatten (tail_reread n false parts parts)).trans
    ((runBatched_onePass _ rfl parts).symm.trans (chunk_invariant_tail n parts))

/-- the row-wise commands have no state -/
theorem rereadable_rowwise (f : Table → Table) (h0 : f [] = []) (happ : ∀ a b, f (a ++ b) = f a ++ f b)
    (parts : List Table) : RereadableOn (rowwiseProc f) f parts :=
  (runBatched_onePass _ rfl parts).symm.trans (rowwise_run f h0 happ parts)

/-- The two-pass `fillnull` on top of any single-pass command that is chunk-invariant and re-readable:
first read, Rewind of the whole chain, second read — the chain means fillnull of the upstream's meaning,
for every partition of the source.  (`Chain.read` is what the Oracle runs.) -/
theorem two_pass_over {σ : Type} (p : Proc σ) (hp2 : p.twoPass = false) (f : Table → Table) (parts : List Table)
    (n : Nat) (v : String) (h1 : runBatched p parts = f parts.flatten) (h2 : RereadableOn p f parts) :
    ((Chain.read (n + 3) (.dp (.dp (.src parts) p p.init false) (fillAllProc v) (fillAllProc v).init false)).2).flatten
      = sem (.fillnull v []) (f parts.flatten) := by
  rw [read_two_pass_over p _ hp2 rfl]
  have hx1 : ((pass p (!p.bottleneck) p.init parts).2).flatten = f parts.flatten :=
    (runBatched_onePass p hp2 parts).symm.trans h1
  exact (two_pass_fillnull_all v _ _ (hx1.trans h2.symm)).trans (congrArg _ hx1)

/-- "in one or two passes", the chain that lost a column before the repair (tail answered the second pass
with the very object `rename` had already renamed in place): with tail handing out copies it means the
composition of the three meanings. -/
theorem two_pass_reread_repaired (kf : List Val → Nat) :
    runChain kf [.tail 1, .rename "b" "e", .fillnull "30" []] [[[("a", .int 1), ("b", .int 7)]]]
      = sem (.fillnull "30" []) (sem (.rename "b" "e") (sem (.tail 1) [[("a", .int 1), ("b", .int 7)]])) := by
  -- none of the three stages is a dedup: once the chain is unfolded the key function is gone and the kernel evaluates
  dsimp only [runChain, List.foldl, Cmd.stage]
  clear kf
  decide +kernel

/-! ### the whole command set -/

/-- the only condition left: dedup names at least one field (the parser guarantees it) -/
def Guard : Cmd → Prop
  | .dedup o => o.fields ≠ []
  | _ => True

/-- C06 for every modelled command: one DataProcessor of the command over ANY partition of ANY table, with
any column layout of the batches, yields the documented meaning on the whole ordered input (dedup: assuming
collision-free hashes). -/
theorem chunk_invariant (h : Val → Nat) (combine : List Nat → Nat)
    (hinj : HashInjective h) (cinj : DigestInjective combine) (c : Cmd) (parts : List Table) (hg : Guard c) :
    runCmd (digestKey h combine) c parts = sem c parts.flatten := by
  cases c with
  | head n => exact chunk_invariant_head n parts
  | tail n => exact chunk_invariant_tail n parts
  | scroll n => exact chunk_invariant_scroll n parts
  | dedup o => exact chunk_invariant_dedup h combine hinj cinj o parts hg
  | fillnull v fs =>
    cases fs with
    | nil => exact chunk_invariant_fillnull_all v parts
    | cons f fs => exact chunk_invariant_fillnull_fields v f fs parts
  | rename a b => exact chunk_invariant_rename a b parts
  | fields inc fs => exact chunk_invariant_fields inc fs parts

/-- what the Oracle runs for a one-command op line is `runCmd` -/
theorem runChain_single (kf : List Val → Nat) (c : Cmd) (parts : List Table) :
    runChain kf [c] parts = runCmd kf c parts := by
  cases c with
  | fillnull v fs => cases fs <;> exact congrArg List.flatten (read_single _ parts 0)
  | _ => exact congrArg List.flatten (read_single _ parts 0)

/-! ### the plan / parallelism layer (Model/PipePlan.lean): which commands are cloned into parallel chains -/

section plan
open SigModel.PipePlan SigModel.Lemmas.C06P

/-- every DataProcessor kind: a two-pass command is a bottleneck, a command that ignores its input order is a bottleneck,
and only commands that ignore their input order are mergeable (the flag literals of dataprocessor.go, tied by the
correspondence run of suite pipeplan) -/
theorem kinds_flags_consistent : ∀ d, d ∈ allKinds →
    (d.twoPass = true → d.bottleneck = true) ∧ (d.ignoresOrder = true → d.bottleneck = true) ∧
      (d.mergeable = true → d.ignoresOrder = true) := by
  decide +kernel

/-- CanParallelSearch as coded: when it answers (true, i), position i is the FIRST bottleneck of the chain, no command up
to and including it depends on the order of its input or generates data, and some command up to it ignores its input order -/
theorem can_parallel_sound (dps : List Flags) (i : Nat) (h : canParallelSearch dps = (true, i)) :
    (∃ d, dps[i]? = some d ∧ d.bottleneck = true ∧ d.orderMatters = false ∧ d.generates = false) ∧
    (∀ j d, j < i → dps[j]? = some d → d.bottleneck = false ∧ d.orderMatters = false ∧ d.generates = false) ∧
    (∃ j d, j ≤ i ∧ dps[j]? = some d ∧ d.ignoresOrder = true) := by
  obtain ⟨k, rfl, hb, hpre, hign⟩ := canParallelGo_sound dps false 0 i h
  rw [Nat.zero_add]
  exact ⟨hb, hpre, hign.resolve_left Bool.false_ne_true⟩

/-- C06 for the planner: NO two-pass command and no bottleneck is ever cloned into the parallel chains (every chain would
derive its first-pass state from its own share only), and the command the chains are merged at ignores its input order
(so it does not matter which rows reach which chain, nor in which order the chains deliver). -/
theorem cloned_commands_stream (dps : List Flags) (hk : ∀ d, d ∈ dps → d ∈ allKinds) (i : Nat)
    (h : canParallelSearch dps = (true, i)) :
    (∀ j d, j < i → dps[j]? = some d → d.twoPass = false ∧ d.bottleneck = false ∧ d.orderMatters = false) ∧
    (∃ d, dps[i]? = some d ∧ d.ignoresOrder = true ∧ d.bottleneck = true) := by
  obtain ⟨-, hpre, j, dj, hj, hdj, hi⟩ := can_parallel_sound dps i h
  refine ⟨fun j d hj hd => ?_, ?_⟩
  · have hp := hpre j d hj hd
    refine ⟨Bool.eq_false_iff.2 fun ht => ?_, hp.1, hp.2.1⟩
    exact Bool.noConfusion (((kinds_flags_consistent d (hk d (List.mem_of_getElem? hd))).1 ht).symm.trans hp.1)
  · -- the command that ignores its input order is a bottleneck, and the first bottleneck stands at `i`
    have hbj := (kinds_flags_consistent dj (hk dj (List.mem_of_getElem? hdj))).2.1 hi
    rcases Nat.lt_or_eq_of_le hj with hji | rfl
    · exact Bool.noConfusion (hbj.symm.trans (hpre j dj hji hdj).1)
    · exact ⟨dj, hdj, hi, hbj⟩

/-- the commands of the plan grammar with a meaning in the model -/
def InGrammar : PCmd → Prop
  | .base (.scroll _) => False
  | .shapeOnly _ _ => False
  | _ => True

/-- a command is chunk-local when its output on a union of inputs is the concatenation of its outputs -/
def RowLocal (c : PCmd) : Prop :=
  ∃ f : Table → Table, (∀ t, semP c t = some (f t)) ∧ f [] = [] ∧ ∀ a b, f (a ++ b) = f a ++ f b

/-- every command that CAN be cloned into parallel chains (its DataProcessors are no bottleneck and do not depend on the
input order) is chunk-local: where, eval, rename, fields, fillnull with a field list, bin with a span — what a chain
computes on its share is its part of the whole answer -/
theorem cloned_commands_row_local (c : PCmd) (hg : InGrammar c)
    (h : ∀ d, d ∈ c.dps → d.bottleneck = false ∧ d.orderMatters = false) : RowLocal c := by
  cases c with
  | base b =>
    cases b with
    | head n => exact Bool.noConfusion (h headDP List.mem_cons_self).2
    | tail n => exact Bool.noConfusion (h tailDP List.mem_cons_self).1
    | scroll n => exact hg.elim
    | dedup o => exact Bool.noConfusion (h (dedupDP false) List.mem_cons_self).2
    | fillnull v fs =>
      cases fs with
      | nil => exact Bool.noConfusion (h (fillnullDP false) List.mem_cons_self).1
      | cons f fs => exact ⟨fillTable (f :: fs) v, fun _ => rfl, rfl, fun _ _ => List.map_append⟩
    | rename a b => exact ⟨renameTable a b, fun _ => rfl, rfl, renameTable_append a b⟩
    | fields inc fs => exact ⟨fieldsTable inc fs, fun _ => rfl, rfl, fieldsTable_append inc fs⟩
  | sort l ks => exact Bool.noConfusion (h sortDP List.mem_cons_self).1
  | bin f span bins =>
    cases span with
    | zero => exact Bool.noConfusion (h (binDP false) List.mem_cons_self).1
    | succ sp => exact ⟨binSpanSem f (sp + 1), fun _ => rfl, rfl, fun _ _ => List.map_append⟩
  | stats aggs by_ => exact Bool.noConfusion (h statsDP List.mem_cons_self).1
  | where_ f op c => exact ⟨whereSem f op c, fun _ => rfl, rfl, fun _ _ => List.filter_append ..⟩
  | eval n f op c => exact ⟨evalSem n f op c, fun _ => rfl, rfl, fun _ _ => List.map_append⟩
  | shapeOnly d fs => exact hg.elim

/-! ### sort: batches, parallel chains, merge limit, Rewind -/

/-- the rows are told apart by the sort keys (the op format makes the last key row-unique) -/
def KeysSeparate (ks : List (String × Bool)) (t : Table) : Prop := AS (leKeys ks) t

/-- `sort <limit> <keys>` under the Fetch loop, for EVERY partition of the input into batches: the first `limit` rows of
the sorted input (sortProcessor.Process merges every sorted batch into resultsSoFar and cuts at the limit) -/
theorem chunk_invariant_sort (l : Nat) (ks : List (String × Bool)) (parts : List Table)
    (hu : KeysSeparate ks parts.flatten) :
    runBatched (sortProc l ks) parts = sortSem l ks parts.flatten :=
  sort_runBatched (leKeys_trans ks) (leKeys_total ks) (sortLimit l) parts hu

/-- PARALLEL CHAINS + MERGE LIMIT: however the rows are dealt to the chains (`shares`, one table per chain that takes
part), when every chain sorts its share under the limit and the merger merges the chains' results under the same limit
(rounds of MergeIQRs, each until a chain is drained; DiscardAfter(limit - numReturned)), the consumer receives exactly
`sort <limit> <keys>` of the whole input. -/
theorem parallel_sort_is_sort (l : Nat) (ks : List (String × Bool)) (shares : List Table)
    (hu : KeysSeparate ks shares.flatten) :
    (mergerBatches (lessKeys ks) (sortLimit l) (shares.map (sortSem l ks))).flatten = sortSem l ks shares.flatten :=
  SigModel.Lemmas.C06MS.parallel_sort_merge (leKeys_trans ks) (leKeys_total ks) (lessKeys_eq ks) (sortLimit l) shares hu

/-- LIMITS ARE EXACT (C05): the consumer of parallel `sort <limit>` chains receives exactly min(limit, rows) rows -/
theorem parallel_sort_row_count (l : Nat) (ks : List (String × Bool)) (shares : List Table)
    (hu : KeysSeparate ks shares.flatten) :
    (mergerBatches (lessKeys ks) (sortLimit l) (shares.map (sortSem l ks))).flatten.length
      = min (sortLimit l) shares.flatten.length := by
  rw [parallel_sort_is_sort l ks shares hu]
  unfold sortSem sortL
  rw [List.length_take, List.length_mergeSort]

/-- … in particular the answer does not depend on how many chains there are nor on which rows reach which chain: any two
dealings of the same rows (permutations of each other) give the same answer -/
theorem parallel_sort_independent_of_dealing (l : Nat) (ks : List (String × Bool)) (sh₁ sh₂ : List Table)
    (hp : sh₁.flatten.Perm sh₂.flatten) (hu : KeysSeparate ks sh₁.flatten) :
    (mergerBatches (lessKeys ks) (sortLimit l) (sh₁.map (sortSem l ks))).flatten
      = (mergerBatches (lessKeys ks) (sortLimit l) (sh₂.map (sortSem l ks))).flatten := by
  rw [parallel_sort_is_sort l ks sh₁ hu, parallel_sort_is_sort l ks sh₂ (hu.mono hp.symm.subset)]
  exact congrArg (List.take _) (mergeSort_perm_eq (leKeys_trans ks) (leKeys_total ks) hu hp)

/-- the merger hands out, in total, the first `limit - numReturned` rows of the sorted union of what the chains still
have to deliver: the counter is what makes the limit global across merge rounds -/
theorem merger_limit_global (l : Nat) (ks : List (String × Bool)) (s : MergerSt) (fuel : Nat)
    (hs : ∀ q, q ∈ s.queues → q.Pairwise (fun a b => leKeys ks a b = true)) (hu : KeysSeparate ks s.queues.flatten)
    (hf : totalLen s.queues < fuel) :
    (mergerRun (lessKeys ks) l fuel s).2.flatten = (s.queues.flatten.mergeSort (leKeys ks)).take (l - s.numReturned) :=
  SigModel.Lemmas.C06MS.mergerRun_spec (leKeys_trans ks) (leKeys_total ks) (lessKeys_eq ks) l fuel s hs hu hf

/-- REWIND ("in one or two passes"): DataProcessor.Rewind resets numReturned and rewinds the streams, so a two-pass command
downstream reads from the merger, the second time, exactly what it read the first time -/
theorem merger_second_pass_same (less : Row → Row → Bool) (limit fuel : Nat) (full : List Table) (s : MergerSt) :
    (mergerRun less limit fuel (mergerRewind full s)).2 = (mergerRun less limit fuel { queues := full }).2 := rfl

/-- a Rewind that kept the counter (as if only the merger's own second pass reset it) would make the second read come up
short: here empty, although the first read delivered a row -/
theorem merger_second_pass_needs_reset :
    let q : List Table := [[[("id", .int 1)]], [[("id", .int 2)]]]
    let ks := [("id", true)]
    let first := mergerRun (lessKeys ks) 1 5 { queues := q }
    (first.2.flatten = [[("id", .int 1)]]) ∧
      (mergerRun (lessKeys ks) 1 5 { queues := q, numReturned := first.1.numReturned }).2.flatten = [] := by
  decide +kernel

/-- decidable form of `KeysSeparate` (what the op format guarantees by a row-unique last key) -/
def keysSeparateB (ks : List (String × Bool)) (t : Table) : Bool :=
  t.all (fun a => t.all (fun b => !(leKeys ks a b && leKeys ks b a) || a == b))

theorem keysSeparate_of_B (ks : List (String × Bool)) (t : Table) (h : keysSeparateB ks t = true) : KeysSeparate ks t := by
  intro a b ha hb h1 h2
  have := List.all_eq_true.mp (List.all_eq_true.mp h a ha) b hb
  simpa [h1, h2] using this

/-- setMergeSettings as coded: when a sort is followed by a command that ignores its input order (a second sort, stats), the
merge settings of the first sort are overwritten with the always-true comparator — while a limit stays in place … -/
theorem merge_settings_later_sort_drops_order :
    (mergeSettingsOf [sortDP, sortDP] (fun i => if i = 0 then 3 else 10000)).getD 0 {} = { less := .always, limit := some 3 } ∧
    (mergeSettingsOf [sortDP, evalDP, sortDP, statsDP] (fun i => if i = 0 then 3 else 10000)).getD 0 {}
      = { less := .always, limit := some 10000 } ∧
    (mergeSettingsOf [sortDP, headDP, sortDP] (fun i => if i = 0 then 3 else 10000)).getD 0 {} = { less := .sortAt 0, limit := some 3 } := by
  decide +kernel

/-- … which is why the merger of parallel sort chains must not take them: SetupQueryParallelism (after the repair) gives it the
comparator and the limit of the sort it merges, whatever follows in the chain -/
theorem merger_takes_sort_order (k : Nat) (dps : List Flags) (limitAt : Nat → Nat) (lk : LessKind) (l : Option Nat)
    (h : (setup k false dps limitAt).merger = .limit lk l) :
    lk = .sortAt (canParallelSearch dps).2 ∧ l = some (limitAt (canParallelSearch dps).2) := by
  revert h
  dsimp only [setup, setupWith, Bool.false_eq_true, ↓reduceIte]
  -- of the three mergers only the one built from the sort is a `.limit`
  refine iteInduction (motive := (· = Merger.limit lk l → _)) (fun _ => ?_) fun _ => nofun
  refine iteInduction (motive := (· = Merger.limit lk l → _)) (fun _ => nofun) fun _ e => ?_
  cases e
  exact ⟨rfl, rfl⟩

/-- the code BEFORE the repair (setupOld: less and limit from the sort's propagated mergeSettings): `sort 3 … | sort …` on
two CPUs gets a merger with the always-true comparator and limit 3; after the repair the sort's own order -/
theorem setupOld_merger_order_dropped :
    (setupOld 2 false [sortDP, sortDP] (fun i => if i = 0 then 3 else 10000)).merger = .limit .always (some 3) ∧
    (setup 2 false [sortDP, sortDP] (fun i => if i = 0 then 3 else 10000)).merger = .limit (.sortAt 0) (some 3) := by
  decide +kernel

/-- … and a merger with the always-true comparator under a limit does NOT deliver the first rows of the sorted whole
(IndexOfMin with an always-true `less` picks the last stream): of the two chains' sorted results [id=1] and [id=2] under
limit 1 it passes on id=2.  `parallel_sort_is_sort` needs the sort's own comparator (fixed: old sig
plan-parallel/sort/order-dropped-limit-kept) -/
theorem parallel_sort_order_dropped_counterexample_old :
    (mergerBatches (fun _ _ => true) 1 [[[("id", .int 1)]], [[("id", .int 2)]]]).flatten = [[("id", .int 2)]] ∧
    (mergerBatches (lessKeys [("id", true)]) 1 [[[("id", .int 1)]], [[("id", .int 2)]]]).flatten = [[("id", .int 1)]] := by
  decide +kernel

/-! ### a DataProcessor with several input streams (getStreamInput; Model/PipePlan.lean §6, Lemmas/C06MS.lean, op `planms`) -/

open SigModel.Lemmas.C06MS in
/-- NO two-pass command takes the fast path of getStreamInput (`IgnoresInputOrder() && IsBottleneckCmd()`: whole batches from
whichever stream answers first): over the flag literals of every DataProcessor kind.  A two-pass command hands its input on in
input order in its second pass, so it must read the record-level merge. -/
theorem two_pass_never_reads_unmerged : ∀ d, d ∈ allKinds → d.twoPass = true → d.readsUnmerged = false := by
  decide +kernel

/-- every kind that does take the fast path ignores the order of its input (f(p(rows)) = f(rows)) and is not marked
order-dependent: sort, stats, timechart, top, rare — and nothing else -/
theorem unmerged_readers_ignore_order : ∀ d, d ∈ allKinds → d.readsUnmerged = true →
    d.ignoresOrder = true ∧ d.orderMatters = false ∧ d.twoPass = false ∧ d.name ∈ ["sort", "stats", "timechart", "top", "rare"] := by
  decide +kernel

/-- the condition seed C06-5 widened the fast path to (`!DoesInputOrderMatter() && IsBottleneckCmd()`) WOULD admit the two-pass
bottlenecks, which do not ignore their input order: `bin` without span and `fillnull` without field list -/
theorem widened_fast_path_admits_two_pass_counterexample :
    ¬ (∀ d, d ∈ allKinds → d.twoPass = true → d.readsUnmergedWidened = false) ∧
    (binDP false).readsUnmergedWidened = true ∧ (binDP false).ignoresOrder = false ∧
    (fillnullDP false).readsUnmergedWidened = true ∧ (fillnullDP false).ignoresOrder = false := by
  decide +kernel

/-- every stream is sorted in merge order (each is the output of a sorted upstream chain) -/
def StreamsSorted (ks : List (String × Bool)) (streams : List (List Table)) : Prop :=
  ∀ s, s ∈ streams → s.flatten.Pairwise (fun a b => leKeys ks a b = true)

/-- C06 for several input streams: a DataProcessor whose flags do NOT satisfy the fast-path condition, reading k ≥ 2 sorted
streams, hands its processor — in total, over all calls of getStreamInput until EOF — exactly the MERGE of the streams by the
comparator, cut at the merge limit: whatever the batch boundaries of the streams (each round merges the current batches until
one is drained, the rest goes back to its stream), whatever the arrival schedule. -/
theorem multi_stream_input_is_merge (d : Flags) (hd : d.readsUnmerged = false) (ks : List (String × Bool)) (limit : Option Nat)
    (sched : List Nat) (s₁ s₂ : List Table) (rest : List (List Table))
    (hs : StreamsSorted ks (s₁ :: s₂ :: rest)) (hu : KeysSeparate ks ((s₁ :: s₂ :: rest).map List.flatten).flatten) :
    (streamInput d (lessKeys ks) limit sched (s₁ :: s₂ :: rest)).flatten
      = takeOpt limit ((((s₁ :: s₂ :: rest).map List.flatten).flatten).mergeSort (leKeys ks)) := by
  simp only [streamInput, hd, Bool.false_eq_true, ↓reduceIte]
  exact SigModel.Lemmas.C06MS.msRun_fresh (leKeys_trans ks) (leKeys_total ks) (lessKeys_eq ks) limit _ hs hu

/-- … hence the answer does not depend on how the rows are split over the streams nor on how the streams are cut into batches:
two sets of sorted streams holding the same rows feed the processor the same sequence of rows.  With
`two_pass_never_reads_unmerged` this covers every two-pass command, and with the flag table head, tail, dedup, streamstats,
transaction and every row-wise command. -/
theorem multi_stream_input_independent_of_split (d : Flags) (hd : d.readsUnmerged = false) (ks : List (String × Bool))
    (limit : Option Nat) (sched₁ sched₂ : List Nat) (a₁ a₂ : List Table) (as : List (List Table)) (b₁ b₂ : List Table)
    (bs : List (List Table))
    (hp : ((a₁ :: a₂ :: as).map List.flatten).flatten.Perm ((b₁ :: b₂ :: bs).map List.flatten).flatten)
    (ha : StreamsSorted ks (a₁ :: a₂ :: as)) (hb : StreamsSorted ks (b₁ :: b₂ :: bs))
    (hu : KeysSeparate ks ((a₁ :: a₂ :: as).map List.flatten).flatten) :
    (streamInput d (lessKeys ks) limit sched₁ (a₁ :: a₂ :: as)).flatten
      = (streamInput d (lessKeys ks) limit sched₂ (b₁ :: b₂ :: bs)).flatten := by
  simp only [streamInput, hd, Bool.false_eq_true, ↓reduceIte]
  exact SigModel.Lemmas.C06MS.msRun_batches_irrelevant (leKeys_trans ks) (leKeys_total ks) (lessKeys_eq ks) limit _ _ hp ha hb hu

/-- … and equals what ONE stream holding the merged rows (under the limit) delivers -/
theorem multi_stream_input_eq_single_stream (d : Flags) (hd : d.readsUnmerged = false) (ks : List (String × Bool))
    (limit : Option Nat) (sched : List Nat) (s₁ s₂ : List Table) (rest : List (List Table))
    (hs : StreamsSorted ks (s₁ :: s₂ :: rest)) (hu : KeysSeparate ks ((s₁ :: s₂ :: rest).map List.flatten).flatten) :
    (streamInput d (lessKeys ks) limit sched (s₁ :: s₂ :: rest)).flatten
      = (streamInput d (lessKeys ks) limit sched
          [[takeOpt limit ((((s₁ :: s₂ :: rest).map List.flatten).flatten).mergeSort (leKeys ks))]]).flatten := by
  rw [multi_stream_input_is_merge d hd ks limit sched s₁ s₂ rest hs hu]
  exact (List.append_nil _).symm

/-- the fast path (fetchFromAnyStream), for EVERY arrival schedule: every row of every stream reaches the processor exactly once
(a permutation of the input).  That the answer of the commands that take it does not depend on this permutation is their flag
ignoresInputOrder (`unmerged_readers_ignore_order`); for sort that is `chunk_invariant_sort` + `mergeSort_perm_eq`, for stats it is
tied by the correspondence run only. -/
theorem fast_path_delivers_a_permutation (d : Flags) (hd : d.readsUnmerged = true) (less : Row → Row → Bool) (limit : Option Nat)
    (sched : List Nat) (s₁ s₂ : List Table) (rest : List (List Table)) :
    (streamInput d less limit sched (s₁ :: s₂ :: rest)).flatten.Perm (s₁ :: s₂ :: rest).flatten.flatten := by
  simp only [streamInput, hd, ↓reduceIte]
  exact SigModel.Lemmas.C06MS.anyRun_perm _ sched _ (Nat.lt_succ_self _)

/-- what the widened condition costs, on the model: the two-pass `fillnull` reading whole batches in arrival order from the streams
(ts 10,8 | 6,4) and (ts 9,7 | 5,3), answering in turn, hands on 10,8,9,7,… — not the merge 10,9,8,7,… it hands on as coded -/
theorem widened_fast_path_order_counterexample :
    let r (n : Int) : Row := [("timestamp", .int n)]
    let streams : List (List Table) := [[[r 10, r 8], [r 6, r 4]], [[r 9, r 7], [r 5, r 3]]]
    (streamInput (fillnullDP false) (lessKeys [("timestamp", false)]) none [] streams).flatten
        = [r 10, r 9, r 8, r 7, r 6, r 5, r 4, r 3] ∧
      (anyRun 5 [0, 1, 0, 1] streams).flatten = [r 10, r 8, r 9, r 7, r 6, r 4, r 5, r 3] := by
  decide +kernel

end plan

/-! ### non-vacuity -/

/-- the table-local assumption is satisfiable, with duplicates and permuted tuples present, for a concrete
(hash, digest) pair: value hash = the number itself, digest = decimal positional encoding -/
example : keyFaithful (digestKey (fun v => match v with | .int i => i.toNat | _ => 0) (fun l => l.foldl (fun a x => 10 * a + x) 0))
    ["a", "b"]
    [[("a", .int 1), ("b", .int 2)], [("a", .int 2), ("b", .int 1)], [("a", .int 1), ("b", .int 2)], [("a", .int 1), ("b", .int 1)]] = true := by
  decide +kernel

/-- … and it separates the pair the old key confused -/
example : digestKey (fun v => match v with | .int i => i.toNat | _ => 0) (fun l => l.foldl (fun a x => 10 * a + x) 0)
    [.int 1, .int 2] ≠ digestKey (fun v => match v with | .int i => i.toNat | _ => 0) (fun l => l.foldl (fun a x => 10 * a + x) 0)
    [.int 2, .int 1] := by decide +kernel

/-- the guard of the sort theorems is satisfiable with ties on the leading keys: the last key is row-unique -/
example : keysSeparateB [("x", false), ("id", true)]
    [[("id", .int 1), ("x", .int 5)], [("id", .int 2), ("x", .int 5)], [("id", .int 3), ("x", .null)], [("id", .int 4), ("x", .str "6162")]] = true := by
  decide +kernel

end SigModel.Props.C06
