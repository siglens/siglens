/-
C02 — Search filters select exactly the events that satisfy them.  Property theorems only.

Decided by proof here: the query-time-range tests, on kernels REGENERATED from /repo on every run
(SigModel/Gen/TimeRange.lean) — a record is kept iff its timestamp lies in the inclusive query range, and a block is
visited iff its [earliest, latest] range intersects the query range — for ALL timestamps and ranges; the typed comparison
of a stored value with a literal in the search clause, the block range index and the where stage (section Kernel); the
free-text word matcher (section FreeText); the selection of segments by time (section SegSelect).  The boolean
combination of filters over whole events is decided by the end-to-end differential against the Lean specification
(SigModel/Spec/Logs.lean) — see evidence and known_findings.txt.
-/
import SigModel.Gen.TimeRange
import SigModel.Spec.Logs
import SigModel.Lemmas.C02Kb
import SigModel.Lemmas.C02Sub
import SigModel.Lemmas.SegSelect

namespace SigModel.Props.C02
open SigModel.Gen SigModel.Spec

/-- C02.4a record-level time filter = membership in the inclusive range -/
theorem checkInRange_iff (s e t : Int) :
    TimeRange_CheckInRange e s t = true ↔ (s ≤ t ∧ t ≤ e) :=
  SegSelect.checkInRange_iff s e t

/-- C02.4b block-level time filter = the block's range intersects the query range (never skips a
block that holds a record in range, never visits a disjoint one), for well-formed ranges -/
theorem overlap_iff (s e lo hi : Int) (hq : s ≤ e) (hb : lo ≤ hi) :
    TimeRange_CheckRangeOverLap e s lo hi = true ↔ ¬ (hi < s ∨ e < lo) :=
  SegSelect.checkRangeOverLap_iff s e lo hi hq hb

/-- hence: a record in range forces its block to be visited (time pruning is sound) -/
theorem time_prune_sound (s e lo hi t : Int) (hb1 : lo ≤ t) (hb2 : t ≤ hi)
    (hin : TimeRange_CheckInRange e s t = true) :
    TimeRange_CheckRangeOverLap e s lo hi = true := by
  have h := (checkInRange_iff s e t).mp hin
  exact SegSelect.checkRangeOverLap_of_point s e lo hi t h.1 h.2 hb1 hb2

/-- same for the metrics (second-resolution) ranges -/
theorem metrics_overlap_iff (s e lo hi : Int) (hq : s ≤ e) (hb : lo ≤ hi) :
    MetricsTimeRange_CheckRangeOverLap e s lo hi = true ↔ ¬ (hi < s ∨ e < lo) :=
  overlap_iff s e lo hi hq hb

/-- SPEC-level facts used by the differential: on events that HAVE the compared fields the
specification's AND / OR / NOT are intersection / union / complement (two-valued). -/
theorem spec_and_or_not (e : Event) (a b : Filter) :
    (evalFilter e (.and a b)).1 = (evalFilter e a).1.and (evalFilter e b).1 ∧
    (evalFilter e (.or a b)).1 = (evalFilter e a).1.or (evalFilter e b).1 :=
  ⟨rfl, rfl⟩

example : TimeRange_CheckRangeOverLap 20 10 5 12 = true ∧ TimeRange_CheckRangeOverLap 20 10 1 9 = false := by decide +kernel

/-! ## Kernel slice C02K: the typed comparison of a stored value with a literal (numeric; string and bool literals last)

Model `SigModel/Model/Cmp.lean` (mirrors rawchecker.go filterOpOnDataType → fopOnNumber → compareNumberDte,
segutils.go enclosureFromJsonNumber, metacheckers.go checkRangeIndexHelper, evaluationstructs.go / dtypeutils.go
where-stage comparison — the code AFTER the C02 repairs: exact float64 `=`/`!=`, unsigned literal above MaxInt64
against a signed record, ConvertToSameType keeping the values when a conversion fails, a string record that reads as a
number compared as that float64 (c02-4), a back-fill record against a string / bool literal treated like the empty
record of a block without the column (c02-1), a number or boolean record against a string literal satisfying `!=`
(c02-5)), tied to the real code by the correspondence suite `cmpk`.  `rnd` is the float64 rounding
(`strconv.ParseFloat`, `float64(int)`); the theorems hold for EVERY `rnd` with `RndOk rnd` (rnd 0 = 0, idempotent, fixes
binary64 values); exactness of `rnd` on a converted integer is part of the guards, and that it holds within ±2^53 is the
hypothesis `Exact53` of `search_where_agree_within_2_53`.  Counterexamples use the Oracle's concrete round-to-nearest-even
`roundF64` and are replayed on the real code (corpus/cmpk.ops).  Definitions named `…Old` are the code before the
repairs; their counterexample theorems are kept for the record. -/

section Kernel
open SigModel.Cmp SigModel.Tlv SigModel.Lemmas.C02K

/-- (1) FULL-strength statement: for every stored value `v` of the writer's kinds, every operator and every number
text `t`, the search-clause comparison on the record bytes answers without error exactly the comparison BY VALUE
(`specCmp`: integers and float64 records denote their exact values, a string in number syntax the float64 it
reads as, an integer literal its integer, any other literal the float64 it parses to; a value that is not a
number satisfies only `!=`). -/
def ImplEqSpec (rnd : Rat → Rat) : Prop :=
  ∀ (ci : Bool) (v : SVal) (op : Cmp.Op) (t : NumText), v.wf → t.wf →
    implCmp rnd ci v.enc op (mkLit rnd t) = .ok (specCmp rnd v op (mkLit rnd t))

/-- REFUTED, class B: the stored int64 2^53+1 is not `>` the literal 9007199254740992.0 in the code
(`float64(record)` drops the low bit). -/
theorem implCmp_eq_spec_counterexample_int_beyond_2_53 : ¬ ImplEqSpec roundF64 := by
  intro h
  have := h false (.int 9007199254740993) .gt ⟨false, none, none, 9007199254740992⟩ rfl rfl
  revert this; decide +kernel

/-- REFUTED, class C: the stored float64 2^63 `=` the integer literal 9223372036854775807 in the code
(the literal's FloatVal is rounded). -/
theorem implCmp_eq_spec_counterexample_lit_beyond_2_53 : ¬ ImplEqSpec roundF64 := by
  intro h
  have := h false (.float 0x43e0000000000000) .eq
    ⟨false, some 9223372036854775807, some 9223372036854775807, 9223372036854775807⟩ rfl rfl
  revert this; decide +kernel

/-- REFUTED, class D (latent: no ingest path stores uint64 records): the stored uint64 0 is `<` the literal -1000
in the code (`uint64(-1000)` wraps). -/
theorem implCmp_eq_spec_counterexample_uint_vs_negative : ¬ ImplEqSpec roundF64 := by
  intro h
  have := h false (.uint 0) .lt ⟨true, none, some (-1000), -1000⟩ rfl (by decide)
  revert this; decide +kernel

/-- class C on a numeric STRING (the record is the float64 the text reads as, since repair c02-4): the stored text
"9223372036854775808" `=` the integer literal 9223372036854775807 in the code. -/
theorem implCmp_eq_spec_counterexample_numeric_string_lit_beyond_2_53 : ¬ ImplEqSpec roundF64 := by
  intro h
  have := h false (.str [57, 50, 50, 51, 51, 55, 50, 48, 51, 54, 56, 53, 52, 55, 55, 53, 56, 48, 56]) .eq
    ⟨false, some 9223372036854775807, some 9223372036854775807, 9223372036854775807⟩ rfl rfl
  revert this; decide +kernel

/-- the decidable guard that excludes exactly the classes B, C, D (`cmpGuardQ`, SigModel/Lemmas/C02K.lean):
integers that float64 does not represent exactly when a float comparison is made (the record for a float-typed
literal; an integer literal for a float64 record or a numeric string), an unsigned record against a negative
integer literal -/
def CmpGuard (rnd : Rat → Rat) (v : SVal) (op : Cmp.Op) (t : NumText) : Bool := cmpGuardQ rnd v op (mkLit rnd t)

/-- (1) PROVED under the guard, for every rounding function with `RndOk`, every stored value, operator, literal
text and case-sensitivity flag: the search-clause comparison is the comparison by value. -/
theorem implCmp_eq_spec_partial (rnd : Rat → Rat) (hr : RndOk rnd) (ci : Bool) (v : SVal) (op : Cmp.Op) (t : NumText)
    (hv : v.wf) (ht : t.wf) (hg : CmpGuard rnd v op t = true) :
    implCmp rnd ci v.enc op (mkLit rnd t) = .ok (specCmp rnd v op (mkLit rnd t)) :=
  impl_eq_spec_q rnd ci v hv op _ _ (mkLit_numLit rnd t ht) hg

/-- the case repaired by /repo ec0bd3f, at full generality: an integer record that float64 represents exactly
(every |i| ≤ 2^53) against ANY float-typed literal (2.5, 2.0, 1e3, +2, …) under all six operators is compared by
value. -/
theorem int_vs_decimal_by_value (rnd : Rat → Rat) (hr : RndOk rnd) (ci : Bool) (i : Int) (op : Cmp.Op) (t : NumText)
    (hv : (SVal.int i).wf) (ht : t.wf) (hex : rnd (i : Rat) = (i : Rat)) (hf : (mkLit rnd t).dtype = .float) :
    implCmp rnd ci (SVal.int i).enc op (mkLit rnd t) = .ok (specCmp rnd (.int i) op (mkLit rnd t)) :=
  implCmp_eq_spec_partial rnd hr ci _ op t hv ht (guard_int rnd i op _ fun _ => hex)

/-- an int64 record against an integer literal of ANY size (negative, below 2^63, in [2^63, 2^64)) is compared by
value — no guard (the [2^63, 2^64) part is the C02 repair of the wrapped SignedVal). -/
theorem int_vs_int_literal_by_value (rnd : Rat → Rat) (hr : RndOk rnd) (ci : Bool) (i : Int) (op : Cmp.Op) (t : NumText)
    (hv : (SVal.int i).wf) (ht : t.wf) (hf : (mkLit rnd t).dtype ≠ .float) :
    implCmp rnd ci (SVal.int i).enc op (mkLit rnd t) = .ok (specCmp rnd (.int i) op (mkLit rnd t)) :=
  implCmp_eq_spec_partial rnd hr ci _ op t hv ht (guard_int rnd i op _ fun h => absurd h hf)

/-- a float64 record against ANY float-typed literal is compared by value, `=` and `!=` included — no guard (the
C02 repair of the AlmostEquals tolerance). -/
theorem float_vs_decimal_by_value (rnd : Rat → Rat) (hr : RndOk rnd) (ci : Bool) (b : Nat) (op : Cmp.Op) (t : NumText)
    (hv : (SVal.float b).wf) (ht : t.wf) (hf : (mkLit rnd t).dtype = .float) :
    implCmp rnd ci (SVal.float b).enc op (mkLit rnd t) = .ok (specCmp rnd (.float b) op (mkLit rnd t)) := by
  apply implCmp_eq_spec_partial rnd hr ci _ op t hv ht
  dsimp only [CmpGuard, cmpGuardQ]
  rw [hf]

/-- repair c02-4, at full generality: a stored STRING — numeric text of any spelling the engine reads as a number,
or any other text — against ANY float-typed literal, and against every integer literal that float64 represents
exactly (every |n| ≤ 2^53), under all six operators: a numeric text is compared by the value it reads as, any other
text satisfies only `!=`. -/
theorem string_vs_number_by_value (rnd : Rat → Rat) (hr : RndOk rnd) (ci : Bool) (s : Bytes) (op : Cmp.Op) (t : NumText)
    (hv : (SVal.str s).wf) (ht : t.wf)
    (hex : (mkLit rnd t).dtype = .float ∨ rnd t.val = t.val) :
    implCmp rnd ci (SVal.str s).enc op (mkLit rnd t) = .ok (specCmp rnd (.str s) op (mkLit rnd t)) := by
  refine implCmp_eq_spec_partial rnd hr ci _ op t hv ht ?_
  dsimp only [CmpGuard, cmpGuardQ]
  cases numOfStr? s with
  | none => rfl
  | some a =>
    rcases hex with hd | h
    · rw [hd]
    · -- `float64(·)` keeps the text's value, so that value is what the literal denotes
      have hl : litVal rnd t = t.val := ite_eq_left_iff.2 fun _ => h
      exact guard_float_of_exact rnd _ _ (mkLit_numLit rnd t ht) (by rw [hl, h]) 0 op

/-- the assumptions on `rnd` are consistent, and the closed one holds for the Oracle's rounding -/
example : RndOk (fun x => x) := ⟨rfl, fun _ => rfl, fun _ _ => rfl⟩
theorem roundF64_zero : roundF64 0 = 0 := by decide +kernel

/-- the guard is satisfiable — including the inputs the repairs brought in: 2.00001 = 2 on a float64 record,
5 < 9223372036854775808 on an int64 record -/
example : CmpGuard roundF64 (.int 2) .lt ⟨false, none, none, 5 / 2⟩ = true ∧
    CmpGuard roundF64 (.int 2) .eq ⟨false, none, none, 2⟩ = true ∧
    CmpGuard roundF64 (.float 0x3fb999999999999a) .eq ⟨false, none, none, 1 / 10⟩ = true ∧
    CmpGuard roundF64 (.float 0x400000053e2d6239) .eq ⟨false, some 2, some 2, 2⟩ = true ∧
    CmpGuard roundF64 (.int 5) .lt ⟨false, some 9223372036854775808, none, 9223372036854775808⟩ = true := by
  decide +kernel

/-- regression witnesses of the two repaired search-clause classes on the fixed model -/
example : implCmp roundF64 false (SVal.float 0x400000053e2d6239).enc .eq (mkLit roundF64 ⟨false, some 2, some 2, 2⟩) = .ok false ∧
    implCmp roundF64 false (SVal.int 5).enc .lt
      (mkLit roundF64 ⟨false, some 9223372036854775808, none, 9223372036854775808⟩) = .ok true := by decide +kernel

/-- the search clause BEFORE the C02 repairs (tolerance-based float equality, wrapped literal in the signed branch) -/
def ImplEqSpecOld (rnd : Rat → Rat) : Prop :=
  ∀ (v : SVal) (op : Cmp.Op) (t : NumText), v.wf → t.wf →
    fopOnNumberOld rnd v.enc (mkLit rnd t) op = .ok (specCmp rnd v op (mkLit rnd t))

/-- for the record, class A (REPAIRED): the stored float64 2.00001 `=` literal 2 was true (AlmostEquals, 1e-4). -/
theorem implCmpOld_eq_spec_counterexample_tolerance : ¬ ImplEqSpecOld roundF64 := by
  intro h
  have := h (.float 0x400000053e2d6239) .eq ⟨false, some 2, some 2, 2⟩ rfl rfl
  revert this; decide +kernel

/-- for the record, class E (REPAIRED): the stored int64 5 was not `<` the literal 9223372036854775808
(`int64(2^63)` wraps to -2^63). -/
theorem implCmpOld_eq_spec_counterexample_lit_beyond_int64 : ¬ ImplEqSpecOld roundF64 := by
  intro h
  have := h (.int 5) .lt ⟨false, some 9223372036854775808, none, 9223372036854775808⟩ rfl rfl
  revert this; decide +kernel

/-- the search clause BEFORE repair c02-4 only (a string record is never a number) -/
def ImplEqSpecStrOld (rnd : Rat → Rat) : Prop :=
  ∀ (v : SVal) (op : Cmp.Op) (t : NumText), v.wf → t.wf →
    fopOnNumberStrOld rnd v.enc (mkLit rnd t) op = .ok (specCmp rnd v op (mkLit rnd t))

/-- for the record, class F (REPAIRED by c02-4): the stored string "2" was not `=` the literal 2 (numeric strings
were "not a number" for `fopOnNumber`: only `!=` held), while `| where` and the statistics read it as 2. -/
theorem implCmpStrOld_eq_spec_counterexample_numeric_string : ¬ ImplEqSpecStrOld roundF64 := by
  intro h
  have := h (.str [50]) .eq ⟨false, some 2, some 2, 2⟩ rfl rfl
  revert this; decide +kernel

/-- regression witnesses of repair c02-4 on the fixed model: "2" = 2, "2.5" > 2, "1.0" = 1, "1e3" = 1000, "+5" = 5,
"abc" satisfies only `!=` -/
example : implCmp roundF64 false (SVal.str [50]).enc .eq (mkLit roundF64 ⟨false, some 2, some 2, 2⟩) = .ok true ∧
    implCmp roundF64 false (SVal.str [50, 46, 53]).enc .gt (mkLit roundF64 ⟨false, some 2, some 2, 2⟩) = .ok true ∧
    implCmp roundF64 false (SVal.str [49, 46, 48]).enc .eq (mkLit roundF64 ⟨false, some 1, some 1, 1⟩) = .ok true ∧
    implCmp roundF64 false (SVal.str [49, 101, 51]).enc .eq (mkLit roundF64 ⟨false, some 1000, some 1000, 1000⟩) = .ok true ∧
    implCmp roundF64 false (SVal.str [43, 53]).enc .ne (mkLit roundF64 ⟨false, some 5, some 5, 5⟩) = .ok false ∧
    implCmp roundF64 false (SVal.str [97, 98, 99]).enc .ne (mkLit roundF64 ⟨false, some 5, some 5, 5⟩) = .ok true ∧
    implCmp roundF64 false (SVal.str [97, 98, 99]).enc .eq (mkLit roundF64 ⟨false, some 5, some 5, 5⟩) = .ok false := by
  decide +kernel

/-- repair c02-1: against a string or boolean literal a BACK-FILL record (the event does not have the column, the
block does) answers exactly like the empty record of a block that does not have the column at all — `=` no,
`!=` yes — so whether an event lacking the field satisfies `!=` no longer depends on what else its block holds. -/
theorem backfill_record_like_absent_column (rnd : Rat → Rat) (ci : Bool) (op : Cmp.Op) (q : Cmp.Lit)
    (hq : q.dtype = .str ∨ q.dtype = .bool) :
    implCmp rnd ci SVal.backfill.enc op q = implCmp rnd ci [] op q := by
  cases q
  rcases hq with rfl | rfl <;> rfl

/-- … and for a numeric literal both satisfy exactly `!=` (unchanged code) -/
theorem backfill_record_like_absent_column_num (rnd : Rat → Rat) (ci : Bool) (op : Cmp.Op) (q : Cmp.Lit)
    (hq : q.dtype = .signed ∨ q.dtype = .unsigned ∨ q.dtype = .float) :
    implCmp rnd ci SVal.backfill.enc op q = .ok (op == .ne) ∧ implCmp rnd ci [] op q = .ok (op == .ne) := by
  cases q
  -- `fopOnNumber` finds no number in either record (`getNumberRecDte`, `strRecNum?`)
  rcases hq with rfl | rfl | rfl <;> exact ⟨rfl, rfl⟩

/-- for the record (REPAIRED by c02-1): the back-fill record did not satisfy `g != "red"` although the empty
record did. -/
theorem backfill_record_like_absent_column_old_counterexample :
    ¬ (∀ (ci : Bool) (op : Cmp.Op) (q : Cmp.Lit), q.dtype = .str →
        implCmpBackfillOld ci SVal.backfill.enc op q = implCmpBackfillOld ci [] op q) := by
  intro h
  have := h false .ne (strLit [114, 101, 100]) rfl
  revert this; decide +kernel

/-- (2) FULL-strength statement: the block range-index check never skips a block whose range holds a value that
satisfies the comparison by value. -/
def RangeSound (rnd : Rat → Rat) : Prop :=
  ∀ (ri : Range) (v : SVal) (op : Cmp.Op) (t : NumText), v.wf → t.wf → ri.contains rnd v →
    specCmp rnd v op (mkLit rnd t) = true → rangeCheck rnd ri op t = true

/-- REFUTED (float fallback of an integer range, bounds beyond 2^53): a block holding only the int64 2^53+1 is
skipped for `> 9007199254740992.0`. -/
theorem range_check_sound_counterexample : ¬ RangeSound roundF64 := by
  -- the value satisfies the comparison and the check skips the block: one evaluation (both round the literal)
  suffices w : _ ∧ ¬ _ from fun h => w.2 (h (.s 9007199254740993 9007199254740993) (.int 9007199254740993) .gt
    ⟨false, none, none, 9007199254740992⟩ rfl rfl ⟨Int.le_refl _, Int.le_refl _⟩ w.1)
  decide +kernel

/-- REFUTED (float range, integer literal beyond 2^53 re-read with ParseFloat): a block holding only the float64
2^64 is skipped for `> 18446744073709551615`. -/
theorem range_check_sound_counterexample_float_range : ¬ RangeSound roundF64 := by
  intro h
  have := h (.f (f64val 0x43f0000000000000) (f64val 0x43f0000000000000)) (.float 0x43f0000000000000) .gt
    ⟨false, some 18446744073709551615, none, 18446744073709551615⟩ rfl rfl
    ⟨Rat.le_refl, Rat.le_refl⟩ (by decide +kernel)
  revert this; decide +kernel

/-- (2) PROVED under the guard `rangeGuard` (every integer pushed through float64 by the fallback or by a float
range is represented exactly): for every range of every type that contains the stored value, every operator and
literal text, if the value satisfies the comparison by value the check does not skip — with the float fallback of
ec0bd3f as coded, on the REGENERATED does*PassRangeFilter kernels. -/
theorem range_check_sound_partial (rnd : Rat → Rat) (ri : Range) (v : SVal) (op : Cmp.Op) (t : NumText) (ht : t.wf)
    (hc : ri.contains rnd v) (hs : specCmp rnd v op (mkLit rnd t) = true) (hg : rangeGuard rnd ri v t = true) :
    rangeCheck rnd ri op t = true := by
  -- every branch of the check is the float kernel on the literal's value and on bounds that enclose the stored value
  have key : ∀ a L mn mx, v.num? rnd = some a → decide (litVal rnd t = L) = true → mn ≤ a → a ≤ mx →
      doesFloatPassRangeFilter op.code L mn mx = true := by
    intro a L mn mx ha hl h1 h2
    rw [specCmp_num rnd v op t ht a ha, of_decide_eq_true hl] at hs
    exact floatPass_sound op L a mn mx h1 h2 hs
  unfold Range.contains at hc
  split at hc
  · next mn mx i =>
    have h1 := Rat.intCast_le_intCast.mpr hc.1
    have h2 := Rat.intCast_le_intCast.mpr hc.2
    revert hg
    dsimp only [rangeCheck, rangeGuard]
    cases t.intOk with
    | some k => exact fun hg => (intPass_eq _ _ _ _).trans (key i _ _ _ rfl hg h1 h2)
    | none =>
      intro hg
      simp only [Bool.and_eq_true, decide_eq_true_eq] at hg
      exact key i _ _ _ rfl (decide_eq_true hg.2) (le_of_eq_of_le hg.1.1 h1) (le_of_le_of_eq h2 hg.1.2.symm)
  · next mn mx n =>
    have h1 := Rat.natCast_le_natCast.mpr hc.1
    have h2 := Rat.natCast_le_natCast.mpr hc.2
    revert hg
    dsimp only [rangeCheck, rangeGuard]
    cases hu : t.uintOk with
    | some u =>
      have hw := wf_uint t ht u hu
      have hl : litVal rnd t = ((u : Int) : Rat) := by
        rewrite [litVal, hw.2.2, hu]
        exact hw.1
      -- `doesUintPassRangeFilter` unfolds to the same term as `doesIntPassRangeFilter`
      exact fun _ => (intPass_eq _ _ _ _).trans (key n _ _ _ rfl (decide_eq_true hl) h1 h2)
    | none =>
      intro hg
      simp only [Bool.and_eq_true, decide_eq_true_eq] at hg
      exact key n _ _ _ rfl (decide_eq_true hg.2) (le_of_eq_of_le hg.1.1 h1) (le_of_le_of_eq h2 hg.1.2.symm)
  · next mn mx x =>
    have hg := Bool.and_eq_true_iff.1 hg
    exact key x _ _ _ rfl hg.2 (of_decide_eq_true hg.1 ▸ hc.1) (of_decide_eq_true hg.1 ▸ hc.2)
  · next mn mx x =>
    have hg := Bool.and_eq_true_iff.1 hg
    exact key x _ _ _ rfl hg.2 (of_decide_eq_true hg.1 ▸ hc.1) (of_decide_eq_true hg.1 ▸ hc.2)
  · exact key _ _ _ _ rfl hg hc.1 hc.2
  · exact hc.elim

/-- the range guard is satisfiable: int64 range [1,3] against 2.5 (float fallback) and against 2; float range -/
example : rangeGuard roundF64 (.s 1 3) (.int 2) ⟨false, none, none, 5 / 2⟩ = true ∧
    rangeGuard roundF64 (.s 1 3) (.int 2) ⟨false, some 2, some 2, 2⟩ = true ∧
    rangeGuard roundF64 (.f (1 / 2) 3) (.int 2) ⟨false, some 2, some 2, 2⟩ = true := by decide +kernel

/-- (3) FULL-strength statement: on a numeric field the search clause and the same comparison in a later `where`
stage give the same answer. -/
def SearchWhereAgree (rnd : Rat → Rat) : Prop :=
  ∀ (ci : Bool) (v : SVal) (op : Cmp.Op) (t : NumText) (b : Bool), v.wf → t.wf →
    whereCmp rnd v op t = some b → implCmp rnd ci v.enc op (mkLit rnd t) = .ok b

/-- REFUTED (the where stage compares every number as float64): the int64 2^53+1 `= 9007199254740992` is true in
the where stage, false in the search clause. -/
theorem search_where_agree_counterexample_beyond_2_53 : ¬ SearchWhereAgree roundF64 := by
  intro h
  have := h false (.int 9007199254740993) .eq
    ⟨false, some 9007199254740992, some 9007199254740992, 9007199254740992⟩ true rfl rfl (by decide +kernel)
  revert this; decide +kernel

/-- (3) PROVED under both guards (`CmpGuard` for the search clause, `whereGuard` for the where stage): on a numeric
field both stages compute the comparison by value, hence agree. -/
theorem search_where_agree_partial (rnd : Rat → Rat) (hr : RndOk rnd) (ci : Bool) (v : SVal) (op : Cmp.Op) (t : NumText)
    (b : Bool) (hv : v.wf) (ht : t.wf) (hg : CmpGuard rnd v op t = true) (hw : whereGuard rnd v op t = true)
    (h : whereCmp rnd v op t = some b) :
    implCmp rnd ci v.enc op (mkLit rnd t) = .ok b ∧ b = specCmp rnd v op (mkLit rnd t) := by
  have hb := where_eq_spec rnd hr v hv op t ht hw b h
  exact ⟨hb ▸ implCmp_eq_spec_partial rnd hr ci v op t hv ht hg, hb⟩

/-- (3) WHAT REMAINS, stated without guards: whenever every integer involved — the stored integer and the literal's
value if it is an integer — is within ±2^53 (where float64 is exact, `Exact53`), the search clause and the where
stage agree on every int64 / float64 field, for all six operators and every spelling of the literal (the
tolerance and `where x=0` exceptions are gone with the C02 repairs); on a uint64 field provided the literal is not
a negative integer (latent class D). -/
theorem search_where_agree_within_2_53 (rnd : Rat → Rat) (hr : RndOk rnd) (hex : Exact53 rnd) (ci : Bool) (v : SVal)
    (op : Cmp.Op) (t : NumText) (b : Bool) (hv : v.wf) (ht : t.wf) (hin : Within53 v t)
    (hD : ∀ n, v = .uint n → (mkLit rnd t).dtype ≠ .signed) (h : whereCmp rnd v op t = some b) :
    implCmp rnd ci v.enc op (mkLit rnd t) = .ok b ∧ b = specCmp rnd v op (mkLit rnd t) := by
  have hg := guards_within_2_53 rnd hr hex v op t ht hin h hD
  exact search_where_agree_partial rnd hr ci v op t b hv ht hg.1 hg.2 h

/-- both guards are satisfiable together — including the inputs the repairs brought in (2.5 = 0, 2.00001 = 2) -/
example : (CmpGuard roundF64 (.int 2) .lt ⟨false, none, none, 5 / 2⟩ && whereGuard roundF64 (.int 2) .lt ⟨false, none, none, 5 / 2⟩) = true ∧
    (CmpGuard roundF64 (.float 0x4004000000000000) .eq ⟨false, some 0, some 0, 0⟩ &&
      whereGuard roundF64 (.float 0x4004000000000000) .eq ⟨false, some 0, some 0, 0⟩) = true ∧
    (CmpGuard roundF64 (.float 0x400000053e2d6239) .ne ⟨false, some 2, some 2, 2⟩ &&
      whereGuard roundF64 (.float 0x400000053e2d6239) .ne ⟨false, some 2, some 2, 2⟩) = true := by decide +kernel

/-- regression witnesses of the repaired where-stage class on the fixed model: `where x=0` is false for 2.5 -/
example : whereCmp roundF64 (.float 0x4004000000000000) .eq ⟨false, some 0, some 0, 0⟩ = some false ∧
    whereCmp roundF64 (.float 0x4004000000000000) .ne ⟨false, some 0, some 0, 0⟩ = some true := by decide +kernel

/-- the two stages BEFORE the C02 repairs -/
def SearchWhereAgreeOld (rnd : Rat → Rat) : Prop :=
  ∀ (v : SVal) (op : Cmp.Op) (t : NumText) (b : Bool), v.wf → t.wf →
    whereCmpOld rnd v op t = some b → fopOnNumberOld rnd v.enc (mkLit rnd t) op = .ok b

/-- for the record (REPAIRED, dtypeutils.ConvertToSameType): `where x=0` was TRUE for the float64 2.5. -/
theorem search_where_agree_old_counterexample_where_zero : ¬ SearchWhereAgreeOld roundF64 := by
  intro h
  have := h (.float 0x4004000000000000) .eq ⟨false, some 0, some 0, 0⟩ true rfl rfl (by decide +kernel)
  revert this; decide +kernel

/-- for the record (REPAIRED, tolerance): the float64 2.00001 `= 2` was true in the search clause, false in the
where stage. -/
theorem search_where_agree_old_counterexample_tolerance : ¬ SearchWhereAgreeOld roundF64 := by
  intro h
  have := h (.float 0x400000053e2d6239) .eq ⟨false, some 2, some 2, 2⟩ false rfl rfl (by decide +kernel)
  revert this; decide +kernel

/-- case-insensitive text equality of the kernel (`fopOnString`): `=` on a stored string against a string literal
of any length is ASCII case-folded equality when the flag is set, byte equality otherwise; `!=` is its negation. -/
theorem string_eq_ne (rnd : Rat → Rat) (ci : Bool) (s p : Bytes) (hs : s.length < 65536) :
    implCmp rnd ci (SVal.str s).enc .eq (strLit p) = .ok (bytesEq ci s p) ∧
    implCmp rnd ci (SVal.str s).enc .ne (strLit p) = .ok (!bytesEq ci s p) :=
  ⟨implCmp_str_strLit rnd ci s p hs .eq, implCmp_str_strLit rnd ci s p hs .ne⟩

/-- repair c02-5: against a string literal (no wildcard) a stored NUMBER or BOOLEAN is "not equal": `=` does not
match, `!=` does — for every value and every literal text.  The same number stored as TEXT (a block column that holds
numbers and text is stored as text) answers the same way unless its text IS the literal (`string_eq_ne`), so that
`t != "abc"` no longer depends on what else the block of the event holds. -/
theorem string_literal_vs_non_string (rnd : Rat → Rat) (ci : Bool) (v : SVal) (op : Cmp.Op) (p : Bytes)
    (hv : (∃ i, v = .int i) ∨ (∃ n, v = .uint n) ∨ (∃ b, v = .float b) ∨ (∃ b, v = .bool b)) :
    implCmp rnd ci v.enc op (strLit p) = .ok (op == .ne) := by
  rcases hv with ⟨i, rfl⟩ | ⟨n, rfl⟩ | ⟨b, rfl⟩ | ⟨b, rfl⟩ <;> rfl

/-- for the record (REPAIRED by c02-5): the number 7 satisfied neither `t = "abc"` nor `t != "abc"`, while the text
"7" — what the very same event is stored as when its block also holds text — satisfies `t != "abc"`. -/
theorem string_literal_vs_non_string_old_counterexample :
    implCmpNonStringOld (fun x => x) false (SVal.int 7).enc .ne (strLit [97, 98, 99]) = .ok false ∧
    implCmpNonStringOld (fun x => x) false (SVal.str [55]).enc .ne (strLit [97, 98, 99]) = .ok true ∧
    implCmp (fun x => x) false (SVal.int 7).enc .ne (strLit [97, 98, 99]) = .ok true := by
  decide +kernel

end Kernel

/-! ### free-text terms and phrases: the word matcher `utils.IsSubWordPresent` (model `Bloom.subWord`, tied by the suites
subword — C02 — and bloom — C03) -/
section FreeText
open SigModel.Bloom SigModel.Tlv

/-- the free-text matcher, for EVERY haystack and needle: the needle is present iff the haystack is `pre ++ mid ++ post`
where `mid` equals the needle (exactly, or up to ASCII case when the search is case-insensitive), `pre` is empty or ends
with a space and `post` is empty or starts with a space — the needle occurs between token boundaries, wherever: the first
occurrence need not be the one -/
theorem subWord_iff_token_rule (ci : Bool) (hay needle : Bytes) :
    subWord ci hay needle = true ↔
      ∃ pre mid post, hay = pre ++ mid ++ post ∧ mid.length = needle.length ∧ bytesEq ci mid needle = true ∧
        (pre = [] ∨ pre.getLast? = some 32) ∧ (post = [] ∨ post.head? = some 32) :=
  (subWord_iff_index ci hay needle).trans (exists_split_iff hay needle.length fun pre mid post =>
    bytesEq ci mid needle = true ∧ (pre = [] ∨ pre.getLast? = some 32) ∧ (post = [] ∨ post.head? = some 32)).symm

/-- exact case (SPL `CASE(…)`): `mid` IS the needle -/
theorem subWord_exact_iff_token_rule (hay needle : Bytes) :
    subWord false hay needle = true ↔
      ∃ pre post, hay = pre ++ needle ++ post ∧ (pre = [] ∨ pre.getLast? = some 32) ∧ (post = [] ∨ post.head? = some 32) := by
  refine (subWord_iff_token_rule false hay needle).trans ⟨?_, ?_⟩
  · rintro ⟨pre, mid, post, h, _, he, hb⟩
    cases eq_of_beq he
    exact ⟨pre, post, h, hb⟩
  · rintro ⟨pre, post, h, hb⟩
    exact ⟨pre, needle, post, h, rfl, beq_self_eq_true needle, hb⟩

/-- the witness of seeded change C02-2: "xtimeout timeout" holds the word "timeout" (its FIRST occurrence is glued to x) -/
example : subWord false [120, 116, 105, 109, 101, 111, 117, 116, 32, 116, 105, 109, 101, 111, 117, 116] [116, 105, 109, 101, 111, 117, 116] = true := by decide +kernel

end FreeText

/-! ### Segment selection by time (Model/SegSelect.lean: bulkAddSegmentMicroIndex, FilterSegmentsByTime,
FilterUnrotatedSegmentsInQuery, getAllSegmentsInQuery / getAllSegmentsInAggs; tied by the suite `segsel`)

Before any block is looked at, a query decides by TIME which segments of the queried indexes it reads.  The segments of an
index may have any widths, overlap, be nested and be added in any order (several ingest streams, back-filled events). -/
section SegSelect
open SigModel.SegSelect

/-- C02.4d COMPLETE: a segment — rotated or open, of a queried index and the query's org — that holds an instant of the query
range is selected: by FilterSegmentsByTime when it is in its table's slice (whatever else the slice holds, in whatever
order), by FilterUnrotatedSegmentsInQuery when it is open, and the query's request list has a request for its key.  For all
ranges, bounds and lists; no assumption on order, widths or well-formedness. -/
theorem segment_select_complete (qs qe org t : Int) (indexes : List Nat) (tables : Nat → List Seg) (open_ : List Seg) (s : Seg)
    (hq1 : qs ≤ t) (hq2 : t ≤ qe) (hs1 : s.earliest ≤ t) (hs2 : t ≤ s.latest) (horg : s.org = org) (hix : s.table ∈ indexes) :
    (s ∈ tables s.table → s ∈ filterRotated qs qe org indexes tables) ∧
    (s ∈ open_ → s ∈ filterUnrotated qs qe org indexes open_) ∧
    ((s ∈ tables s.table ∨ s ∈ open_) →
      ∃ s' ∈ (collect qs qe org indexes tables open_).1 ++ (collect qs qe org indexes tables open_).2, s'.key = s.key) :=
  have hk := keep_of_point qs qe org t s hq1 hq2 hs1 hs2 horg
  have hr := fun h => (mem_filterRotated qs qe org indexes tables s).mpr ⟨s.table, hix, h, hk⟩
  have hu := fun h => (mem_filterUnrotated qs qe org indexes open_ s).mpr ⟨h, hix, hk⟩
  ⟨hr, hu, fun h => collect_has_key qs qe org indexes tables open_ s (h.imp hr hu)⟩

/-- C02.4d for the tables as bulkAddSegmentMicroIndex builds them: the rotated segments added in ANY order, cut into ANY
bulks (each bulk re-sorts the slices by the segments' ends, descending), a segment whose key no other added segment carries
is selected when it holds an instant of the range -/
theorem segment_select_complete_any_order (qs qe org t : Int) (indexes : List Nat) (bulks : List (List Seg)) (s : Seg)
    (hq1 : qs ≤ t) (hq2 : t ≤ qe) (hs1 : s.earliest ≤ t) (hs2 : t ≤ s.latest) (horg : s.org = org) (hix : s.table ∈ indexes)
    (huniq : ∀ b ∈ bulks, ∀ y ∈ b, y.key = s.key → y = s) (hin : ∃ b ∈ bulks, s ∈ b) :
    s ∈ filterRotated qs qe org indexes (tableOf bulks) :=
  (segment_select_complete qs qe org t indexes (tableOf bulks) [] s hq1 hq2 hs1 hs2 horg hix).1 (mem_tableOf bulks s huniq hin)

/-- C02.4e SOUND: what is selected belongs to a queried index and to the query's org and — for a well-formed range and
segment — shares an instant with the range (nothing disjoint is read) -/
theorem segment_select_sound (qs qe org : Int) (indexes : List Nat) (tables : Nat → List Seg) (open_ : List Seg) (s : Seg)
    (hq : qs ≤ qe) (hs : s.earliest ≤ s.latest)
    (h : s ∈ filterRotated qs qe org indexes tables ∨ s ∈ filterUnrotated qs qe org indexes open_) :
    s.org = org ∧ ((∃ ix ∈ indexes, s ∈ tables ix) ∨ (s ∈ open_ ∧ s.table ∈ indexes)) ∧
      ∃ t, qs ≤ t ∧ t ≤ qe ∧ s.earliest ≤ t ∧ t ≤ s.latest := by
  rcases h with h | h
  · obtain ⟨ix, hix, hm, hk⟩ := (mem_filterRotated ..).mp h
    have hp := point_of_keep qs qe org s hq hs hk
    exact ⟨hp.1, Or.inl ⟨ix, hix, hm⟩, hp.2⟩
  · obtain ⟨hm, hix, hk⟩ := (mem_filterUnrotated ..).mp h
    have hp := point_of_keep qs qe org s hq hs hk
    exact ⟨hp.1, Or.inr ⟨hm, hix⟩, hp.2⟩

/-- the walk may NOT stop early: sorted by their ends (descending), the segments overlapping a range are not next to each
other when widths differ — a walk that stops at the first non-overlapping segment once it has seen an overlapping one
(`filterRotatedEarlyExit`, not the code) loses the segment [2000, 3000] for the range [1500, 5000] behind [1000, 9000] and
[7000, 7100] -/
theorem early_exit_counterexample :
    let segs := [⟨1, 0, 1000, 9000, 0⟩, ⟨2, 0, 7000, 7100, 0⟩, (⟨3, 0, 2000, 3000, 0⟩ : Seg)]
    let tables : Nat → List Seg := fun ix => if ix = 0 then sortDesc segs else []
    (⟨3, 0, 2000, 3000, 0⟩ : Seg) ∈ filterRotated 1500 5000 0 [0] tables ∧
    (⟨3, 0, 2000, 3000, 0⟩ : Seg) ∉ filterRotatedEarlyExit 1500 5000 0 [0] tables := by
  decide +kernel

/-- non-vacuity: the hypotheses of `segment_select_complete` hold for the segment of the counterexample -/
example : (1500 : Int) ≤ 2500 ∧ (2500 : Int) ≤ 5000 ∧ (⟨3, 0, 2000, 3000, 0⟩ : Seg).earliest ≤ 2500 ∧
    (2500 : Int) ≤ (⟨3, 0, 2000, 3000, 0⟩ : Seg).latest := by decide

end SegSelect

end SigModel.Props.C02
