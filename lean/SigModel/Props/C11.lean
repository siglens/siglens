/-
C11 — Concurrent ingest, flush, rotation and search stay consistent.

Property theorems about the PROTOCOL LOGIC only: the interleaving machine of `SigModel/Model/Conc.lean`
(flush | rotation as its four steps in the order extracted from checkAndRotateColFiles /
CleanupUnrotatedSegment | query as its two segment-list snapshots in the order extracted from
getAllSegmentsInQuery / getAllSegmentsInAggs, the request list de-duplicated by segment key, followed by the
read).  Every theorem quantifies over ALL schedules (lists of labels "which thread moves next") from the
initial empty state, for any number of streams and queries.  `Cfg.real` is tied to the source by the go2lean
call-order facts C11.* (lib/props.py).  `Cfg.realOld` / `Reader.old` are the code BEFORE the three repairs
recorded in known_findings.txt (count doubled, segment skipped, crash); their counterexample theorems are kept
under names ending in `_old`.

NOT decided here (see lib/props.py, `partial`): data races in the Go memory model, deadlocks, crashes and
real scheduling — the stress worker and the `-race` build are exploration only.

The machine treats the read of one request as ONE step.  Section 4 (`ReadOne`) refines exactly that step to the
lock acquisitions of the read path: the reader as it is reads the segment in every interleaving with the
rotation of that segment (it falls back to the rotated metadata when the key has left the unrotated map between
a check and its look-up); the composition of the two machines is not proved.

Section 5 (namespace `Create`) is about a different machine, `SigModel/Model/ConcCreate.lean`:
the get-or-create of a stream's SegStore in the table `allSegStores` by any number of concurrent ingest calls, with
flushes and removeStaleSegments — no acknowledged event may end up in a store that is not in the table.

Section 6 (namespace `Flush`, after section 5) is about the machine of `SigModel/Model/ConcFlush.lean`: the flushes of
DIFFERENT segstores (different indexes, several streams of one index) run concurrently — each holds only its own
store's lock — and every segment's block-summary file must hold exactly the summaries of its own blocks.

Block `(g, k)` "has been flushed" in state `s` iff `k < s.total g`; `(s.query j).pre` is `total` at the
moment query `j` took its first step (theorem `pre_is_flushed_at_first_step`).
-/
import SigModel.Model.Conc
import SigModel.Lemmas.C11c
import SigModel.Lemmas.C11d
import SigModel.Lemmas.C11e
import SigModel.Lemmas.C11f
import SigModel.Lemmas.C11g
import SigModel.Lemmas.SegSelect

namespace SigModel.Props.C11
open SigModel.Conc

/-- the state reached from the empty engine by a schedule: the code as it is -/
abbrev reach (sched : List Label) : St := run Cfg.real init sched

/-- … and the code before the de-duplication of the request list by segment key -/
abbrev reachOld (sched : List Label) : St := run Cfg.realOld init sched

/-! ## 1. no loss -/

/-- C11.1 (invariant) At every step of every schedule, a request for a segment reads exactly the blocks
that were ever flushed to it: while the segment moves from open to rotated it is at every moment in the
unrotated map or in the rotated map, with all its blocks.  (Depends on add-before-remove.) -/
theorem flushed_blocks_always_visible (sched : List Label) (g : Seg) :
    nowCount (reach sched) g = (reach sched).total g :=
  Lemmas.C11.nowCount_eq_total _ (Lemmas.C11.inv_reach (d := true) sched) g

/-- … in the words of the property: every flushed block's segment is in unrotated ∪ rotated. -/
theorem flushed_segment_in_unrot_or_rot (sched : List Label) (g : Seg) (k : Nat)
    (h : k < (reach sched).total g) :
    k < (reach sched).unrot g ∨ k < (reach sched).rot g := by
  rcases Lemmas.C11.visible _ (Lemmas.C11.inv_reach (d := true) sched) g k h with h1 | h1
  · exact Or.inl h1.2
  · exact Or.inr h1

/-- the ghost `pre` is what it is called: when query `j` takes its first step, `pre` becomes the flush
history of that moment … -/
theorem pre_is_flushed_at_first_step (sched : List Label) (j : Nat) (k : Bool)
    (h : ((reach sched).query j).started = false) :
    ((reach (sched ++ [.q j k])).query j).pre = (reach sched).total := by
  have hnf := (Lemmas.C11.qinv_run (d := true) sched j).not_finished h
  have e : reach (sched ++ [.q j k]) = _ := (Lemmas.C11.run_append ..).trans (Lemmas.C11.qStep_first hnf h)
  rw [e, Lemmas.C11.query_upd]

/-- … and it never changes afterwards. -/
theorem pre_stable (sched : List Label) (l : Label) (j : Nat)
    (h : ((reach sched).query j).started = true) :
    ((reach (sched ++ [l])).query j).pre = ((reach sched).query j).pre := by
  rw [show reach (sched ++ [l]) = step Cfg.real (reach sched) l from Lemmas.C11.run_append ..]
  exact (Lemmas.C11.started_frame (d := true) _ l j h).pre

/-- C11.1 (snapshots) A query whose first snapshot step follows a completed flush has that flush's segment,
with a block count that covers the flushed block, in at least one of its two snapshots.
(Depends on add-before-remove in the rotation AND on unrotated-before-rotated in the query.) -/
theorem no_loss_snapshots (sched : List Label) (j : Nat) (g : Seg) (k : Nat)
    (hs : ((reach sched).query j).started = true) (ht : ((reach sched).query j).todo = [])
    (hk : k < ((reach sched).query j).pre g) :
    (∃ n, (g, n) ∈ ((reach sched).query j).snapU ∧ k < n) ∨
    (∃ n, (g, n) ∈ ((reach sched).query j).snapR ∧ k < n) := by
  have hq := Lemmas.C11.qinv_run (d := true) sched j
  obtain ⟨n, hn, hlt⟩ := (hq.started hs).seenR ht g k hk
  have hn : (g, n) ∈ dedupKey (_ ++ _) := hn
  rw [Lemmas.C11.dedupKey_append _ _ hq.keysU hq.keysR] at hn
  rcases List.mem_append.mp hn with h | h
  · exact Or.inl ⟨n, (List.mem_filter.mp h).1, hlt⟩
  · exact Or.inr ⟨n, h, hlt⟩

/-- C11.1 `no_loss`: in every interleaving, a finished query (record query or count query) has read every
block whose flush had completed before the query's first step. -/
theorem no_loss (sched : List Label) (j : Nat) (g : Seg) (k : Nat)
    (hf : ((reach sched).query j).finished = true) (hk : k < ((reach sched).query j).pre g) :
    (g, k) ∈ ((reach sched).query j).result :=
  ((Lemmas.C11.qinv_run (d := true) sched j).finished hf).res g k hk

/-- the rotation with `removeSegKeyFromUnrotatedInfo` BEFORE `AddSegMetaToMetadata` -/
def Cfg.removeFirst : Cfg := { Cfg.real with rotOrder := [.segmetaFile, .removeUnrot, .addMeta, .reset] }

/-- the query taking the rotated snapshot BEFORE the unrotated one -/
def Cfg.rotatedFirst : Cfg := { Cfg.real with qOrder := [.snapR, .snapU] }

/-- why the rotation order is a checked fact: with remove-before-add there is a schedule in which a query
that starts after a completed flush loses the flushed block (the query runs between the two steps). -/
theorem no_loss_fails_if_rotation_reordered :
    ∃ (sched : List Label) (j : Nat) (g : Seg) (k : Nat),
      ((run Cfg.removeFirst init sched).query j).finished = true ∧
      k < ((run Cfg.removeFirst init sched).query j).pre g ∧
      (g, k) ∉ ((run Cfg.removeFirst init sched).query j).result :=
  ⟨[.flush 0, .rot 0, .rot 0, .q 0 false, .q 0 false, .q 0 false], 0, ⟨0, 0⟩, 0, by decide +kernel⟩

/-- why the snapshot order is a checked fact: with rotated-before-unrotated there is a schedule in which a
query loses a flushed block even though the rotation adds before it removes (the whole hand-over happens
between the two snapshots). -/
theorem no_loss_fails_if_snapshots_reordered :
    ∃ (sched : List Label) (j : Nat) (g : Seg) (k : Nat),
      ((run Cfg.rotatedFirst init sched).query j).finished = true ∧
      k < ((run Cfg.rotatedFirst init sched).query j).pre g ∧
      (g, k) ∉ ((run Cfg.rotatedFirst init sched).query j).result :=
  ⟨[.flush 0, .q 0 false, .rot 0, .rot 0, .rot 0, .q 0 false, .q 0 false], 0, ⟨0, 0⟩, 0, by decide +kernel⟩

/-! ## 2. at most once -/

/-- C11.2 `at_most_once`: in every interleaving a finished query — record query or count query — has read
every block at most once.  (Record queries drop a (segment, block) pair already taken; the request list is
de-duplicated by segment key, so a segment that is in both snapshots is requested once.) -/
theorem at_most_once (sched : List Label) (j : Nat)
    (hf : ((reach sched).query j).finished = true) :
    ((reach sched).query j).result.Nodup :=
  Lemmas.C11.nodup_of_dedup (Lemmas.C11.qinv_run (d := true) sched j) hf

/-- the former witness schedule (a rotation publishes the segment between the two snapshots of a count
query) now counts the block once -/
example : ((reach [.flush 0, .q 0 true, .rot 0, .rot 0, .q 0 true, .q 0 true]).query 0).result = [(⟨0, 0⟩, 0)] := by
  decide +kernel

/-- C11.2 for record queries held before the repair as well (block-level `processedBlocks` filter). -/
theorem at_most_once_rrc_old (sched : List Label) (j : Nat)
    (hf : ((reachOld sched).query j).finished = true) (hk : ((reachOld sched).query j).kind = .rrc) :
    ((reachOld sched).query j).result.Nodup :=
  ((Lemmas.C11.qinv_run (d := false) sched j).finished hf).resRrc hk

/-- BEFORE the repair (`Cfg.realOld`: the two request lists appended as they were) C11.2 was false: flush;
the count query takes its unrotated snapshot; the rotation publishes the segment (`AddSegMetaToMetadata`); the
query takes its rotated snapshot ⇒ the segment is in both snapshots and its block is counted twice.
(Was replayed on the real engine by the suite `conc`: `c11 1 f0 q0s r0 r0 q0s q0s` → count 4 for 2 events.) -/
theorem at_most_once_counterexample_old :
    ¬ (∀ (sched : List Label) (j : Nat), ((reachOld sched).query j).finished = true →
        ((reachOld sched).query j).result.Nodup) :=
  fun h => absurd (h [.flush 0, .q 0 true, .rot 0, .rot 0, .q 0 true, .q 0 true] 0) (by decide +kernel)

/-- … and "no rotation step between the two snapshot steps" would not have been a sufficient guard: both
snapshots can fall into the hand-over window of a rotation (published, not yet removed from the unrotated map). -/
theorem at_most_once_window_counterexample_old :
    ∃ (sched : List Label) (j : Nat), ((reachOld sched).query j).finished = true ∧
      ¬ ((reachOld sched).query j).result.Nodup :=
  ⟨[.flush 0, .rot 0, .rot 0, .q 0 true, .q 0 true, .q 0 true], 0, by decide +kernel⟩

/-- the two snapshots of a query name no segment twice -/
def SnapshotsDisjoint (q : Query) : Prop := ∀ r ∈ q.snapU, ∀ r' ∈ q.snapR, r.1 ≠ r'.1

instance (q : Query) : Decidable (SnapshotsDisjoint q) := by
  unfold SnapshotsDisjoint; infer_instance

/-- before the repair, partial (state guard): a finished query whose two snapshots are disjoint had read every
block at most once … -/
theorem at_most_once_partial_old (sched : List Label) (j : Nat)
    (hf : ((reachOld sched).query j).finished = true)
    (hd : SnapshotsDisjoint ((reachOld sched).query j)) :
    ((reachOld sched).query j).result.Nodup :=
  Lemmas.C11.nodup_of_disj (Lemmas.C11.qinv_run (d := false) sched j) hf hd

/-- … and the guard excluded exactly the failing class: a finished COUNT query counted some block twice
if and only if its two snapshots shared a segment. -/
theorem count_query_nodup_iff_old (sched : List Label) (j : Nat)
    (hf : ((reachOld sched).query j).finished = true) (hk : ((reachOld sched).query j).kind = .stats) :
    ((reachOld sched).query j).result.Nodup ↔ SnapshotsDisjoint ((reachOld sched).query j) :=
  ⟨Lemmas.C11.disj_of_nodup (Lemmas.C11.qinv_run (d := false) sched j) hf hk, at_most_once_partial_old sched j hf⟩

/-- no segment is in its hand-over window (in the unrotated map and already in the rotated map) -/
def WindowFree (s : St) : Prop := ∀ g ∈ s.segs, s.unrot g ≠ 0 → s.rot g = 0

instance (s : St) : Decidable (WindowFree s) := by
  unfold WindowFree; infer_instance

/-- neither a rotation step nor a step of query `j` -/
def QuietFor (j : Nat) (l : Label) : Prop := (∀ i, l ≠ .rot i) ∧ (∀ b, l ≠ .q j b)

/-- before the repair, partial (schedule guard): if query `j` took its first snapshot when no segment was in
its hand-over window, and no rotation step ran before its second snapshot, then — whatever happened before
and afterwards — it read every block at most once. -/
theorem at_most_once_no_rotation_overlap_old (p m rest : List Label) (j : Nat) (k k' : Bool)
    (hns : ((reachOld p).query j).started = false) (hw : WindowFree (reachOld p))
    (hm : ∀ l ∈ m, QuietFor j l)
    (hf : ((reachOld (p ++ .q j k :: (m ++ .q j k' :: rest))).query j).finished = true) :
    ((reachOld (p ++ .q j k :: (m ++ .q j k' :: rest))).query j).result.Nodup := by
  apply Lemmas.C11.nodup_of_disj (Lemmas.C11.qinv_run (d := false) _ j) hf
  rw [Lemmas.C11.run_append, Lemmas.C11.run_cons, Lemmas.C11.run_append, Lemmas.C11.run_cons]
  exact Lemmas.C11.quiet_disj _ m rest j k k' ((Lemmas.C11.qinv_run (d := false) p j).not_finished hns) hns hw hm

/-- the old guards were satisfiable: a rotation that completes before the count query starts, flushes woven
through the query — nothing counted twice (and nothing lost). -/
example :
    let p : List Label := [.flush 0, .flush 1, .rot 0, .rot 0, .rot 0, .rot 0, .flush 0]
    let sched := p ++ .q 0 true :: ([.flush 1, .flush 0] ++ .q 0 true :: [.rot 1, .q 0 true])
    ((reachOld p).query 0).started = false ∧ WindowFree (reachOld p) ∧
    ((reachOld sched).query 0).finished = true ∧ SnapshotsDisjoint ((reachOld sched).query 0) ∧
    ((reachOld sched).query 0).result = [(⟨1, 0⟩, 0), (⟨0, 1⟩, 0), (⟨0, 0⟩, 0)] := by
  decide +kernel

/-! ## 3. quiescence -/

/-- C11.3 `quiescent_eq_sequential`: when a schedule ends with no rotation in progress, the unrotated map,
the rotated map and the flush history equal those of the SEQUENTIAL execution `seqOf` of the same schedule —
the same effective flushes in the same order, every rotation run as one uninterrupted block of its steps,
no concurrency. -/
theorem quiescent_eq_sequential (sched : List Label) (hq : Quiescent (reach sched)) :
    let seqSched := seqOf Cfg.real init sched
    (∀ g, (reach sched).unrot g = (reach seqSched).unrot g) ∧
    (∀ g, (reach sched).rot g = (reach seqSched).rot g) ∧
    (∀ g, (reach sched).total g = (reach seqSched).total g) ∧
    (reach sched).segs = (reach seqSched).segs := by
  have hrel := Lemmas.C11.rel_run (d := true) sched init init Lemmas.C11.inv_init Lemmas.C11.rel_refl_init
  have hc := Lemmas.C11.inv_reach (d := true) sched
  have ha := Lemmas.C11.inv_reach (d := true) (seqOf Cfg.real init sched)
  have hce := Lemmas.C11.contents_eq _ _ hc ha hrel hq
  exact ⟨fun g => (hce g).1, fun g => (hce g).2, congrFun hrel.total, hrel.segs⟩

/-- … and at quiescence the stored contents are exactly the flushed blocks, each in exactly one of the two
maps: nothing lost, nothing doubled, nothing invented. -/
theorem quiescent_contents_exact (sched : List Label) (hq : Quiescent (reach sched)) (g : Seg) :
    ((reach sched).unrot g = (reach sched).total g ∧ (reach sched).rot g = 0) ∨
    ((reach sched).unrot g = 0 ∧ (reach sched).rot g = (reach sched).total g) := by
  rcases (Lemmas.C11.inv_reach (d := true) sched).key g with h | ⟨_, _, h⟩ | h
  · exact .inl h
  · exact absurd (hq g.stream) h
  · exact .inr h

/-! ## 4. the read of one request, at lock granularity -/

open SigModel.Conc.ReadOne in
/-- C11.1 / "no crashes" at lock granularity: whatever the interleaving with the rotation of its segment, a
finished read of a request has read the segment — from the unrotated entry or from the rotated metadata.  The
reader checks `IsSegKeyUnrotated` and looks the key up under a second lock acquisition; when the rotation has
removed the key in between, it asks again and takes the rotated path (GetSSRsFromQSR,
initNewMultiColumnReader), and `SharedMultiColReaders.Close` is idempotent. -/
theorem read_one_reads_segment (sched : List RLabel) (hd : (rrun .real {} sched).pc = .done) :
    (rrun .real {} sched).outcome = some .readUnrotated ∨ (rrun .real {} sched).outcome = some .readRotated := by
  have h := Lemmas.C11.ReadOne.good_run sched {} rfl
  unfold Lemmas.C11.ReadOne.Good at h
  rwa [hd] at h

open SigModel.Conc.ReadOne in
/-- … in particular the read never skips the segment and never crashes. -/
theorem read_one_never_skips_never_crashes (sched : List RLabel) :
    (rrun .real {} sched).outcome ≠ some .skipped ∧ (rrun .real {} sched).outcome ≠ some .crashed := by
  have h := Lemmas.C11.ReadOne.good_run sched {} rfl
  unfold Lemmas.C11.ReadOne.Good at h
  split at h
  · rcases h with h | h
    · rw [h]
      decide
    · rw [h]
      decide
  · rw [h]
    decide

open SigModel.Conc.ReadOne in
/-- BEFORE the repair the statement was false: the check in GetSSRsFromQSR answered yes, the rotation ran to
`removeSegKeyFromUnrotatedInfo`, the look-up in CheckMicroIndicesForUnrotated found nothing and the segment was
skipped — its events silently missing.  (Was replayed on the real engine: suite `conc`, op `c11w ssr`.) -/
theorem read_one_skipped_counterexample_old :
    ¬ (∀ (sched : List RLabel), (rrun .old {} sched).pc = .done →
        ((rrun .old {} sched).outcome = some .readUnrotated ∨ (rrun .old {} sched).outcome = some .readRotated)) :=
  fun h => absurd (h [.read, .rot, .rot, .rot, .read] rfl) (by decide)

open SigModel.Conc.ReadOne in
/-- … and the same window one layer down ended in the double release of the FD semaphore, a crash of the
process.  (Was replayed on the real engine: suite `conc`, op `c11w reader`.) -/
theorem read_one_crash_counterexample_old :
    ∃ (sched : List RLabel), (rrun .old {} sched).outcome = some .crashed :=
  ⟨[.read, .read, .read, .rot, .rot, .rot, .read], by decide +kernel⟩

open SigModel.Conc.ReadOne in
/-- before the repair, partial: if the `removeUnrot` step did not fall between a check and its look-up, a
finished read had read the segment. -/
theorem read_one_ok_partial_old (sched : List RLabel) (hg : noRemoveInWindow {} sched = true)
    (hd : (rrun .old {} sched).pc = .done) :
    (rrun .old {} sched).outcome = some .readUnrotated ∨ (rrun .old {} sched).outcome = some .readRotated := by
  revert hd
  rw [Lemmas.C11.ReadOne.old_run_eq Bool.noConfusion hg]
  exact read_one_reads_segment sched

open SigModel.Conc.ReadOne in
/-- the old guard was satisfiable with a rotation that does run concurrently with the read -/
example : noRemoveInWindow {} [.rot, .read, .read, .rot, .rot, .read, .rot] = true ∧
    (rrun .old {} [.rot, .read, .read, .rot, .rot, .read, .rot]).outcome = some .readRotated := by
  decide +kernel

/-! ### The open segments are collected whatever the rotated metadata hold (Model/SegSelect.lean; suite `segsel`,
facts C11.query.unrotated.steps / C11.aggs.unrotated.steps)

"Every event whose flush completed before the search began" sits in a segment that is in the unrotated or in the rotated map
(section 1).  That the query then asks for that segment is decided by time, per segment: an index may have several open
segments (one per ingest stream) and its rotated segments may end later than events that are still in an open one. -/
section SegSelect
open SigModel.SegSelect

/-- a flushed event of an OPEN segment of a queried index, inside the query range: the query's request list holds a request for
the segment's key — for EVERY content of the rotated tables (newer or older than the range, of any index) -/
theorem open_segment_collected (qs qe org t : Int) (indexes : List Nat) (tables : Nat → List SegSelect.Seg) (open_ : List SegSelect.Seg) (s : SegSelect.Seg)
    (hq1 : qs ≤ t) (hq2 : t ≤ qe) (hs1 : s.earliest ≤ t) (hs2 : t ≤ s.latest) (horg : s.org = org) (hix : s.table ∈ indexes)
    (hopen : s ∈ open_) :
    ∃ s' ∈ (collect qs qe org indexes tables open_).1 ++ (collect qs qe org indexes tables open_).2, s'.key = s.key :=
  collect_has_key qs qe org indexes tables open_ s
    (Or.inr ((mem_filterUnrotated ..).mpr ⟨hopen, hix, keep_of_point qs qe org t s hq1 hq2 hs1 hs2 horg⟩))

/-- the same for a segment that has just moved to the rotated table (it is found there) -/
theorem rotated_segment_collected (qs qe org t : Int) (indexes : List Nat) (tables : Nat → List SegSelect.Seg) (open_ : List SegSelect.Seg) (s : SegSelect.Seg)
    (hq1 : qs ≤ t) (hq2 : t ≤ qe) (hs1 : s.earliest ≤ t) (hs2 : t ≤ s.latest) (horg : s.org = org) (hix : s.table ∈ indexes)
    (hrot : s ∈ tables s.table) :
    ∃ s' ∈ (collect qs qe org indexes tables open_).1 ++ (collect qs qe org indexes tables open_).2, s'.key = s.key :=
  collect_has_key qs qe org indexes tables open_ s
    (Or.inl ((mem_filterRotated ..).mpr ⟨s.table, hix, hrot, keep_of_point qs qe org t s hq1 hq2 hs1 hs2 horg⟩))

/-- the unrotated look-up may NOT be skipped on the strength of the rotated metadata: with the rule of
metadata.IsUnrotatedQueryNeeded (`collectSkipUnrotated`, not the code: no unrotated requests when every queried index has
rotated data ending at or after the range's end) the flushed events 500..504 of the open segment of a second stream are lost
for the range [400, 600] once the first stream's segment [1000, 1009] is rotated -/
theorem skip_unrotated_counterexample :
    let tables : Nat → List SegSelect.Seg := fun ix => if ix = 0 then [⟨1, 0, 1000, 1009, 0⟩] else []
    let open_ : List SegSelect.Seg := [⟨2, 0, 500, 504, 0⟩]
    (∃ s' ∈ (collect 400 600 0 [0] tables open_).1 ++ (collect 400 600 0 [0] tables open_).2, s'.key = 2) ∧
    ¬ (∃ s' ∈ (collectSkipUnrotated 400 600 0 [0] tables open_).1 ++ (collectSkipUnrotated 400 600 0 [0] tables open_).2, s'.key = 2) := by
  decide +kernel

end SegSelect

end SigModel.Props.C11

/-! ## 5. get-or-create of the segstore table

The machine of `SigModel/Model/ConcCreate.lean`: any number of ingest calls (each: getSegStore under the read lock;
if the stream has no SegStore, createSegStore = Lock, re-check, build (suffix file read, suffix file write), insert,
deferred Unlock; then AddEntry under the store's own lock — which refuses a store that removeStaleSegments has
marked, so that the call starts over — and the acknowledgement), flush + rotation of the registered stores, and
removeStaleSegments (under the table lock and the store's lock: mark, delete), in ANY interleaving.  A step that
needs `allSegStoresLock` is not enabled while a call holds it.  `Cfg.real` = the statement order of createSegStore
and the mark-and-retry protocol extracted from the source (facts C11.create.order, C11.getOrCreate.order,
C11.lock.getSegStore, C11.addEntry.order, C11.addEntry.removed, C11.evict.order, C11.suffix.order), replayed step
by step on the real writer by the `c11c` op lines of suite `conc`.  `Cfg.realOld` is the code BEFORE the repair
of removeStaleSegments / AddEntryToInMemBuf (no mark, no retry); its counterexample theorems are kept under names
ending in `_old`.

An acknowledged event is LOST (`Lost s e r`) when it is not persistent and its store `r` is not the registered
store of its stream: the flush timers, forced rotation and the shutdown flush iterate over the table only. -/
namespace SigModel.Props.C11.Create
open SigModel.ConcCreate

/-- the state reached from the empty engine by a schedule: the code as it is -/
abbrev reach (sched : List Label) : St := run Cfg.real init sched

/-- … and the code before removeStaleSegments marked the store it deletes and AddEntryToInMemBuf started over -/
abbrev reachOld (sched : List Label) : St := run Cfg.realOld init sched

/-- C11 (table) `no_lost_ack`, FULL statement: in EVERY interleaving of any number of ingest calls on any streams,
flushes + rotations and removeStaleSegments passes (at any moment — the idle horizon is not used) no acknowledged
event is lost: every acknowledged event is persistent or sits in the registered store of its stream. -/
theorem create_no_lost_ack (sched : List Label) (e r : Nat) : ¬ Lost (reach sched) e r := by
  intro ⟨h1, h2, h3⟩
  rcases (Lemmas.C11f.inv_reach sched).ack e r h1 with hp | ⟨_, hreg⟩
  · exact h2 hp
  · exact h3 hreg

/-- BEFORE the repair the statement was false: call 0 creates the store of stream 0 and appends, the store is
flushed and rotated (no records left); call 1 gets the store from getSegStore; removeStaleSegments deletes it from
the table; call 1 appends to it and is acknowledged — no flush ever reached that store.
(Was replayed on the real writer: suite `conc`, `c11c 1 c0 c0 c0 c0 c0 c0 c0 c0 f0 c1 e0 c1 c2`.) -/
theorem create_no_lost_ack_counterexample_old :
    ¬ (∀ (sched : List Label) (e r : Nat), ¬ Lost (reachOld sched) e r) :=
  fun h => h [.call 0 0, .call 0 0, .call 0 0, .call 0 0, .call 0 0, .call 0 0, .call 0 0, .call 0 0,
              .flush 0, .call 1 0, .evict 0, .call 1 0] 1 0 (by decide +kernel)

/-- … and, the same window one call earlier, by an eviction between createSegStore and the AddEntry of the very
call that created the store (`c11c 1 c0 c0 c0 c0 c0 c0 c0 e0 c0`; with the stale horizon of 900 ns instead of
900 s that the code had, any pass of removeStaleSegments could do it). -/
theorem create_no_lost_ack_counterexample_creator_old :
    ∃ (sched : List Label) (e r : Nat), Lost (reachOld sched) e r :=
  ⟨[.call 0 0, .call 0 0, .call 0 0, .call 0 0, .call 0 0, .call 0 0, .call 0 0, .evict 0, .call 0 0], 0, 0, by decide +kernel⟩

/-- the two former witness schedules now: the call whose store was evicted under its hands appends nothing to it,
starts over, and ends up — acknowledged once — in the new registered store. -/
example :
    let sched : List Label := [.call 0 0, .call 0 0, .call 0 0, .call 0 0, .call 0 0, .call 0 0, .call 0 0, .call 0 0,
      .flush 0, .call 1 0, .evict 0, .call 1 0,
      .call 1 0, .call 1 0, .call 1 0, .call 1 0, .call 1 0, .call 1 0, .call 1 0, .call 1 0]
    ((reach (sched.take 12)).thread 1).pc = .retry ∧ (reach (sched.take 12)).acked = [(0, 0)] ∧
    (reach sched).acked = [(0, 0), (1, 1)] ∧ (reach sched).table 0 = some 1 ∧
    ((reach sched).store 0).removed = true ∧ ((reach sched).store 0).events = [] := by
  decide +kernel

example :
    let sched : List Label := [.call 0 0, .call 0 0, .call 0 0, .call 0 0, .call 0 0, .call 0 0, .call 0 0, .evict 0,
      .call 0 0, .call 0 0, .call 0 0, .call 0 0, .call 0 0, .call 0 0, .call 0 0, .call 0 0, .call 0 0]
    (reach sched).acked = [(0, 1)] ∧ (reach sched).table 0 = some 1 := by
  decide +kernel

/-- C11 (table) `one_store_per_stream`: in every eviction-free interleaving, of all the stores ever built for a
stream there is exactly one — k concurrent first ingests create ONE SegStore. -/
theorem create_one_store_per_stream (sched : List Label) (hf : evictFree sched = true) (m1 m2 : Nat)
    (h1 : m1 < (reach sched).nstores) (h2 : m2 < (reach sched).nstores)
    (hs : ((reach sched).store m1).stream = ((reach sched).store m2).stream) : m1 = m2 :=
  Lemmas.C11f.one_store (Lemmas.C11f.inv_reach sched) hf h1 h2 hs

/-- C11 (table) `append_target_registered`: in every interleaving, the store that a call is about to append to is
the REGISTERED store of the call's stream — or it carries the mark of removeStaleSegments, and then AddEntry
refuses it. -/
theorem create_append_target_registered (sched : List Label) (t : Nat)
    (hp : ((reach sched).thread t).pc = .append) :
    ∃ r, ((reach sched).thread t).ret = some r ∧
      (((reach sched).store r).removed = false → (reach sched).table ((reach sched).thread t).stream = some r) := by
  obtain ⟨_, r, h1, _, h4⟩ := ((Lemmas.C11f.inv_reach sched).th t).at hp
  exact ⟨r, h1, h4⟩

/-- … and a store in the table never carries the mark. -/
theorem create_registered_store_not_removed (sched : List Label) (i r : Nat) (h : (reach sched).table i = some r) :
    ((reach sched).store r).removed = false :=
  ((Lemmas.C11f.inv_reach sched).tab i r h).2.2

/-- C11 (table) `suffix_handed_out_once`: in every interleaving no segment suffix of a stream is handed out
twice — by the creating calls (GetNextSuffix under allSegStoresLock) and by the rotations. -/
theorem create_suffix_handed_out_once (sched : List Label) : (reach sched).handed.Nodup :=
  (Lemmas.C11f.inv_reach sched).handed.2

/-- C11 (table) "no deadlock" at the level of the lock protocol: in every interleaving, a call that holds
allSegStoresLock is inside createSegStore past its `lock` statement — its next statement never waits — and the
`unlock` is still ahead of it. -/
theorem create_lock_holder_can_move (sched : List Label) (t : Nat) (h : (reach sched).lock = some t) :
    ∃ a rest, ((reach sched).thread t).pc = .create (a :: rest) ∧ a ≠ .lock ∧ CStep.unlock ∈ a :: rest :=
  Lemmas.C11f.holder_pc ((Lemmas.C11f.inv_reach sched).th t) h

/-- … hence, once every started call has returned, the lock is free. -/
theorem create_lock_free_at_quiescence (sched : List Label)
    (hq : ∀ t, ((reach sched).thread t).pc = .idle ∨ ((reach sched).thread t).pc = .done) :
    (reach sched).lock = none := by
  cases hl : (reach sched).lock with
  | none => rfl
  | some t =>
    obtain ⟨a, rest, hpc, _⟩ := create_lock_holder_can_move sched t hl
    rcases hq t with h | h <;> exact Pc.noConfusion (hpc.symm.trans h)

/-- C11 (table): every call that has returned was acknowledged (no call fails, a call that had to start over is
acknowledged for the store it finally appended to) … -/
theorem create_done_is_acked (sched : List Label) (t : Nat) (hd : ((reach sched).thread t).pc = .done) :
    ∃ r, (t, r) ∈ (reach sched).acked :=
  (((Lemmas.C11f.inv_reach sched).th t).at hd).2

/-- … and "once activity stops the stored contents are those of a sequential execution": if the lock is free (e.g.
every call has returned), ONE flush of its stream makes an acknowledged event persistent — nothing acknowledged is
out of the reach of the flush. -/
theorem create_flush_makes_acked_persistent (sched : List Label)
    (hl : (reach sched).lock = none) (e r : Nat) (ha : (e, r) ∈ (reach sched).acked) :
    e ∈ (reach (sched ++ [.flush ((reach sched).store r).stream])).persisted := by
  rw [reach, run, List.foldl_append]
  exact Lemmas.C11f.flush_persists (Lemmas.C11f.inv_reach sched) hl ha

/-! ### why the statement order of createSegStore is a checked fact -/

/-- With the store built BEFORE the lock is taken and inserted without a re-check (`Cfg.buildOutsideLock`) two
first ingests on a new stream lose an acknowledged event, without any eviction: both pass the nil check, each
builds a store, the second insert overwrites the first, the first call appends to the overwritten store. -/
theorem create_lost_ack_if_built_outside_lock :
    ∃ (sched : List Label) (e r : Nat), evictFree sched = true ∧ Lost (run Cfg.buildOutsideLock init sched) e r :=
  ⟨[.call 0 0, .call 1 0, .call 0 0, .call 0 0, .call 0 0, .call 0 0, .call 0 0,
    .call 1 0, .call 1 0, .call 1 0, .call 1 0, .call 1 0, .call 0 0, .call 1 0], 0, 0, by decide +kernel⟩

/-- … and the two racers are handed the same suffix (GetNextSuffix's read and write are not atomic by themselves). -/
theorem create_duplicate_suffix_if_built_outside_lock :
    ∃ sched : List Label, ¬ (run Cfg.buildOutsideLock init sched).handed.Nodup :=
  ⟨[.call 0 0, .call 1 0, .call 0 0, .call 1 0, .call 0 0, .call 1 0], by decide +kernel⟩

/-- Everything under the lock but WITHOUT the re-check (`Cfg.noRecheck`): the second of two calls that both passed
the nil check builds and inserts a second store. -/
theorem create_lost_ack_if_no_recheck :
    ∃ (sched : List Label) (e r : Nat), evictFree sched = true ∧ Lost (run Cfg.noRecheck init sched) e r :=
  ⟨[.call 0 0, .call 1 0, .call 0 0, .call 0 0, .call 0 0, .call 0 0, .call 0 0, .call 0 0,
    .call 1 0, .call 1 0, .call 1 0, .call 1 0, .call 1 0, .call 1 0], 0, 0, by decide +kernel⟩

/-- The lock released BEFORE the insert (`Cfg.unlockBeforeInsert`): a second call re-checks in the window, inserts its
own store and is then overwritten by the first call's insert. -/
theorem create_lost_ack_if_unlocked_before_insert :
    ∃ (sched : List Label) (e r : Nat), evictFree sched = true ∧ Lost (run Cfg.unlockBeforeInsert init sched) e r :=
  ⟨[.call 0 0, .call 1 0, .call 0 0, .call 0 0, .call 0 0, .call 0 0, .call 0 0,
    .call 1 0, .call 1 0, .call 1 0, .call 1 0, .call 1 0, .call 1 0, .call 0 0, .call 0 0, .call 1 0], 1, 1, by decide +kernel⟩

end SigModel.Props.C11.Create

/-! ## 6. concurrent flushes of different segstores

The machine of `SigModel/Model/ConcFlush.lean`: one thread per store, each the block-summary part of a flush
(flushBlockSummary: encode the summary of the store's block into the work buffer, then append the buffer to the
segment's .bsu file), interleaved in ANY order — a flush holds the lock of its own store only.  `Cfg.real` (the work
buffer is allocated by the call) is tied to the source by the regenerated fact `C11.flush.bsu.pkgvars`
(flushBlockSummary and EncodeBlocksum refer to no package-level variable) and by the replay of generated schedules
on the real writer (suite conc, op `c11f`: every flush stopped before the encoding and before the write; the .bsu
files read back after rotation). -/

namespace SigModel.Props.C11.Flush
open SigModel.ConcFlush

/-- C11.6a (schedule independence) Whatever the interleaving of the flushes of the stores in a round — any schedule,
any number of stores, any blocks, any earlier file contents — every store j < n has afterwards appended EXACTLY the
summary of its own block to its own file: the stored contents equal those of the sequential execution. -/
theorem flush_round_equals_sequential (cur : Nat → Sum) (n : Nat) (s : St) (sched : List Nat) (j : Nat) (hj : j < n) :
    ((round Cfg.real cur n s sched).th j).file = (s.th j).file ++ [cur j] := by
  -- the end of the round completes the flush of `j`; no step of the schedule changes what completing it gives
  rw [round, (Lemmas.C11g.drain_th n).2 hj, Lemmas.C11g.run_fin]
  rfl

/-- C11.6b (flushes of different stores commute) Two schedules of the same round leave the same files. -/
theorem flushes_of_different_stores_commute (cur : Nat → Sum) (n : Nat) (s : St) (sched₁ sched₂ : List Nat)
    (j : Nat) (hj : j < n) :
    ((round Cfg.real cur n s sched₁).th j).file = ((round Cfg.real cur n s sched₂).th j).file :=
  (flush_round_equals_sequential cur n s sched₁ j hj).trans (flush_round_equals_sequential cur n s sched₂ j hj).symm

/-- C11.6c (any number of rounds = blocks per segment) After the rounds `scheds` (round r flushes the blocks
`cur r ·`) the file of store j holds, after what it held before, the summaries of ITS blocks in round order —
nothing of any other store, nothing missing, nothing twice. -/
theorem flush_rounds_equal_sequential (cur : Nat → Nat → Sum) (n : Nat) (scheds : List (List Nat)) :
    ∀ (r0 : Nat) (s : St) (j : Nat), j < n →
      ((rounds Cfg.real cur n r0 s scheds).th j).file =
        (s.th j).file ++ (List.range scheds.length).map (fun r => cur (r0 + r) j) := by
  induction scheds with
  | nil => exact fun _ _ _ _ => (List.append_nil _).symm
  | cons sched rest ih =>
    intro r0 s j hj
    refine (ih (r0 + 1) _ j hj).trans ?_
    rw [flush_round_equals_sequential (cur r0) n s sched j hj, List.append_assoc, List.length_cons,
      List.range_succ_eq_map, List.map_cons, List.map_map]
    simp only [Nat.add_right_comm r0 1]
    rfl

/-- C11.6d (the statement the replay checks on the real files) With the blocks of the replay harness, from the empty
engine: every block summary in the file of store j lies inside the time window of store j's own events. -/
theorem block_summaries_are_of_own_store (n : Nat) (scheds : List (List Nat)) (hlen : scheds.length ≤ 999)
    (j : Nat) (hj : j < n) (b : Sum) (hb : b ∈ ((rounds Cfg.real harnessCur n 0 init scheds).th j).file) :
    j * 1000000 ≤ b.lo ∧ b.lo ≤ b.hi ∧ b.hi < (j + 1) * 1000000 := by
  rw [flush_rounds_equal_sequential harnessCur n scheds 0 init j hj] at hb
  obtain ⟨r, hr, rfl⟩ := List.mem_map.mp hb
  have hr := Nat.le_of_lt_succ (Nat.lt_of_lt_of_le (List.mem_range.mp hr) hlen)
  -- the offset inside the window: r · 1000 + (cnt − 1) with r ≤ 998 and cnt − 1 = (j + r) % 3 < 3
  have h := Nat.add_lt_add_of_le_of_lt (Nat.mul_le_mul_right 1000 hr) (Nat.mod_lt (j + r) (Nat.succ_pos 2))
  refine ⟨Nat.le_add_right _ _, Nat.le_add_right _ _, ?_⟩
  dsimp only [harnessCur]
  rw [Nat.zero_add, Nat.add_one_mul, Nat.add_sub_cancel_left, Nat.add_assoc]
  exact Nat.add_lt_add_left (Nat.lt_of_lt_of_le h (by decide)) _

/-- Non-vacuity / why the buffer must not be shared: with ONE package-level work buffer (`Cfg.sharedWorkBuf`; "the
function runs with the segstore lock held" — the lock is per store) two stores between "encoded" and "written" at
the same time make the first one write the OTHER store's summary: the file of store 0 holds a block of store 1's
time window and none of its own. -/
theorem shared_work_buffer_counterexample :
    ∃ (sched : List Nat),
      ((round Cfg.sharedWorkBuf (harnessCur 0) 2 init sched).th 0).file = [harnessCur 0 1] ∧
      ((round Cfg.sharedWorkBuf (harnessCur 0) 2 init sched).th 0).file ≠ [harnessCur 0 0] :=
  ⟨[0, 0, 1, 1], by decide +kernel⟩

/-- … while the sequential schedule is harmless even then: the variant passes every test that flushes the stores
one after the other. -/
example : ((round Cfg.sharedWorkBuf (harnessCur 0) 2 init [0, 0, 0, 1, 1, 1]).th 0).file = [harnessCur 0 0] :=
  rfl

end SigModel.Props.C11.Flush
