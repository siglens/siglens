/-
C16 — All ingest protocols preserve event content and time: THE TIME-UNIT LOGIC.
The property theorems.  What a window guarantees of its values is stated once, after the vocabulary, and then that
the thresholds classify every window as its own unit (`thresholds_separate_windows`); the log reader is, on EVERY
integer below 2^63, `toMillis` of the classified unit (`extract_classified`), so `time_preserved` and the characterisations of
the units that are not accepted are that theorem on a value whose class is known; the four metrics readers are
instances of `seconds_cascade`; the parsers and the binary64 argument are in SigModel/Lemmas/C16.lean.

"The same logical event … is stored with the event time it carried; the time of arrival is used
only when the event has no time of its own."  Here: for EVERY instant of the plausible window,
rendered in EVERY accepted unit (seconds, milliseconds, nanoseconds) as a JSON number or as a JSON
string of digits, what `ExtractTimeStamp` (logs) and the metrics extractors return.  The decimal
rendering `dec n` is literally `toString n` (`dec_is_toString`), the parsers are the modelled Go
loops, and the thresholds come from the REGENERATED kernels `Gen.IsTimeInMilli`, `Gen.IsTimeInNano`,
`Gen.parseTimestamp`, `Gen.normalizeIntToSeconds`: a changed threshold, comparison or divisor in
/repo breaks these proofs.

Field preservation across the protocol decoders: namespace `Content` at the end of this file (the flattener
`ParseRawJsonObject` and the protocol envelopes, over the specification SigModel/Spec/Flatten.lean).
-/
import SigModel.Model.TimeUnit
import SigModel.Lemmas.C16
import SigModel.Spec.Flatten
import SigModel.Lemmas.C16Flatten

namespace SigModel.Props.C16
open SigModel SigModel.TimeUnit SigModel.MachInt
open SigModel.Lemmas.C16

/-! ## vocabulary -/

/-- the units that the code comments / tests name as accepted -/
inductive TUnit where
  | sec | milli | nano
deriving DecidableEq, Repr

/-- how the scalar travels in the JSON document -/
inductive Enc where
  | number | string
deriving DecidableEq, Repr

/-- plausible window of each unit: 1973-03-03T09:46:40Z (resp. …:39.999Z, the millisecond threshold)
… 2286-11-20T17:46:40Z; nanoseconds from 2001-09-09T01:46:40Z = 10^18 ns, the magnitude the code
comment documents for "Time in Nano Seconds" (see `nanos_before_2001_characterisation`), to
2262-04-11, the end of int64 nanoseconds (what every nanosecond-producing protocol carries). -/
def inWindow : TUnit → Nat → Prop
  | .sec, v => 100000000 ≤ v ∧ v < 10000000000
  | .milli, v => 99999999999 ≤ v ∧ v < 10000000000000
  | .nano, v => 1000000000000000000 ≤ v ∧ v < 9223372036854775808

instance (u : TUnit) (v : Nat) : Decidable (inWindow u v) := by
  cases u <;> unfold inWindow <;> infer_instance

/-- the instant in epoch milliseconds (sub-millisecond part dropped: the store's resolution) -/
def toMillis : TUnit → Nat → Nat
  | .sec, v => v * 1000
  | .milli, v => v
  | .nano, v => v / 1000000

/-- the instant in epoch seconds (metrics store resolution) -/
def toSeconds : TUnit → Nat → Nat
  | .sec, v => v
  | .milli, v => v / 1000
  | .nano, v => v / 1000000000

/-- the scalar under the timestamp key: integer `v` rendered by `toString`, as number or string.
`lo` is the (irrelevant) outcome of the date layouts on that digit string. -/
def scalarOf (enc : Enc) (v : Nat) (lo : Option Int) : Scalar :=
  match enc with
  | .number => .num (dec v)
  | .string => .str (dec v) lo

/-- the rendering used throughout is `toString` -/
theorem dec_is_toString (n : Nat) : dec n = (toString n).toList := by simp [dec]

/-! ## what membership in a window gives -/

/-- every window lies inside int64: both integer parsers accept the rendering -/
theorem inWindow_lt_int64 {u : TUnit} {v : Nat} (h : inWindow u v) : v < 9223372036854775808 := by
  cases u with
  | sec => exact Nat.lt_trans h.2 (by decide)
  | milli => exact Nat.lt_trans h.2 (by decide)
  | nano => exact h.2

/-- no instant of a window is the epoch, the value the callers take for "no time" -/
theorem toMillis_ne_zero {u : TUnit} {v : Nat} (h : inWindow u v) : ((toMillis u v : Nat) : Int) ≠ 0 := by
  refine Int.natCast_ne_zero.2 (Nat.ne_of_gt ?_)
  cases u with
  | sec => exact Nat.mul_pos (Nat.lt_of_lt_of_le (by decide) h.1) (by decide)
  | milli => exact Nat.lt_of_lt_of_le (by decide) h.1
  | nano => exact Nat.div_pos (Nat.le_trans (by decide) h.1) (by decide)

/-- on its window a value passes exactly the regenerated threshold tests of its unit -/
theorem inWindow_tests {u : TUnit} {v : Nat} (h : inWindow u v) :
    Gen.IsTimeInNano (v : Int) = decide (u = .nano) ∧ Gen.IsTimeInMilli (v : Int) = decide (u ≠ .sec) := by
  rw [isNano_natCast, isMilli_natCast]
  cases u with
  | sec =>
    exact ⟨decide_eq_false (Nat.not_le.2 (Nat.lt_trans h.2 (by decide))), decide_eq_false (Nat.not_le.2 (Nat.lt_trans h.2 (by decide)))⟩
  | milli => exact ⟨decide_eq_false (Nat.not_le.2 (Nat.lt_trans h.2 (by decide))), decide_eq_true h.1⟩
  | nano => exact ⟨decide_eq_true h.1, decide_eq_true (Nat.le_trans (by decide) h.1)⟩

/-! ## the thresholds separate the windows -/

/-- the unit that the threshold tests select (the cascade of ConvertTimestampToMillis /
ExtractOTLPPayload / parseTimestamp) -/
def classify (v : Int) : TUnit :=
  if Gen.IsTimeInNano v then .nano else if Gen.IsTimeInMilli v then .milli else .sec

/-- C16.4a on the plausible windows of the accepted units the regenerated thresholds classify exactly -/
theorem thresholds_separate_windows (u : TUnit) (v : Nat) (h : inWindow u v) : classify (v : Int) = u := by
  rw [classify, (inWindow_tests h).1, (inWindow_tests h).2]
  cases u <;> rfl

/-- C16.4b the windows are pairwise disjoint: a value determines its unit -/
theorem windows_disjoint (u₁ u₂ : TUnit) (v : Nat) (h₁ : inWindow u₁ v) (h₂ : inWindow u₂ v) : u₁ = u₂ := by
  rw [← thresholds_separate_windows u₁ v h₁, ← thresholds_separate_windows u₂ v h₂]

/-- the whole "milliseconds" class: from the millisecond threshold up to the nanosecond one -/
theorem classify_milli (v : Nat) (h1 : 99999999999 ≤ v) (h2 : v < 1000000000000000000) : classify (v : Int) = .milli := by
  rw [classify, isNano_natCast, isMilli_natCast, decide_eq_false (Nat.not_le.2 h2), decide_eq_true h1]
  rfl

/-- C16.4c after the ns → ms division the value is recognised as milliseconds (no second scaling) -/
theorem nanos_scaled_land_in_millis (v : Nat) (h : inWindow .nano v) :
    classify ((v / 1000000 : Nat) : Int) = .milli :=
  classify_milli (v / 1000000) ((Nat.le_div_iff_mul_le (by decide)).2 (Nat.le_trans (by decide) h.1))
    (Nat.div_lt_of_lt_mul (Nat.lt_trans h.2 (by decide)))

/-- the microsecond window lies wholly in the "milliseconds" class -/
theorem micros_classified_as_millis (v : Nat) (h1 : 100000000000000 ≤ v) (h2 : v < 10000000000000000) :
    classify (v : Int) = .milli :=
  classify_milli v (Nat.le_trans (by decide) h1) (Nat.lt_trans h2 (by decide))

/-! ## (1) accepted units, integer renderings -/

/-- the cascade reads a uint64 as the instant it denotes in the unit the thresholds select -/
theorem scaleUnits_classified (n : Nat) (h : n < 18446744073709551616) :
    scaleUnits (n : Int) = ((toMillis (classify (n : Int)) n : Nat) : Int) := by
  rw [scaleUnits_natCast n h, classify]
  cases Gen.IsTimeInNano (n : Int) <;> cases Gen.IsTimeInMilli (n : Int) <;> rfl

/-- EVERY integer below 2^63, as JSON number or digit string, inside the windows and outside: stored as the instant it
denotes in the unit it is classified as.  What is stored for a value is then a question about `classify` alone. -/
theorem extract_classified (enc : Enc) (v : Nat) (lo : Option Int) (h : v < 9223372036854775808) :
    extractTimeStamp (scalarOf enc v lo) = .ms ((toMillis (classify (v : Int)) v : Nat) : Int) := by
  rw [← scaleUnits_classified v (Nat.lt_trans h (by decide))]
  cases enc with
  | number => exact congrArg Res.ms (extractNum_dec v h)
  | string =>
    simp only [scalarOf, extractTimeStamp, convertTimestampToMillis, goParseUint_dec v (Nat.lt_trans h (by decide))]

/-- C16 (time-unit logic) AT FULL STRENGTH: every instant of the window, in every accepted unit and
both encodings, is stored as the instant it denotes.  (Before the repair of ExtractTimeStamp this
failed for nanoseconds given as a JSON number: `{"timestamp":1714352490251000000}`.) -/
theorem time_preserved (enc : Enc) (u : TUnit) (v : Nat) (lo : Option Int) (h : inWindow u v) :
    extractTimeStamp (scalarOf enc v lo) = .ms ((toMillis u v : Nat) : Int) := by
  rw [extract_classified enc v lo (inWindow_lt_int64 h), thresholds_separate_windows u v h]

/-- the Number branch alone, on seconds (what Splunk HEC hands over as `{"time":<s>}`) -/
theorem extractNum_seconds (s : Nat) (h : inWindow .sec s) : extractNum (dec s) = (s : Int) * 1000 :=
  (Res.ms.inj (time_preserved .number .sec s none h)).trans (Int.natCast_mul s 1000)

/-- the regression witness of the repaired defect -/
example : extractTimeStamp (.num (dec 1714352490251000000)) = .ms 1714352490251 :=
  time_preserved .number .nano 1714352490251000000 none (by decide)

/-! ## (2) fractional seconds; exact characterisation of what is NOT accepted -/

/-- C16.2a fractional seconds with exactly three fraction digits, `<s>.<fff>`, given as a JSON number (the
millisecond form of Splunk HEC clients; tokens with fewer or more fraction digits are not covered): ParseInt fails, ParseFloat's binary64 is multiplied by 1000 and rounded
BEFORE the conversion to an integer, and the result is exactly the instant s.fff — for every second
of the window and every millisecond.  (Before the repair the milliseconds were dropped.) -/
theorem fraction_preserved (s f : Nat) (h : inWindow .sec s) (hf : f < 1000) :
    extractTimeStamp (.num (fracText s f)) = .ms ((s : Int) * 1000 + f) :=
  congrArg Res.ms (extractNum_fracText s f (Nat.le_trans (by decide) h.1) h.2 hf)

/-- the regression witness: 1700000000.500 -/
example : extractTimeStamp (.num (fracText 1700000000 500)) = .ms 1700000000500 :=
  fraction_preserved 1700000000 500 (by decide) (by decide)

/-- microseconds (not an accepted unit): every µs instant of 1973…2286, in either encoding, is
returned unchanged, i.e. read as milliseconds (1000 times too far in the future). -/
theorem micros_characterisation (enc : Enc) (v : Nat) (lo : Option Int)
    (h1 : 100000000000000 ≤ v) (h2 : v < 10000000000000000) :
    extractTimeStamp (scalarOf enc v lo) = .ms (v : Int) := by
  rw [extract_classified enc v lo (Nat.lt_trans h2 (by decide)), micros_classified_as_millis v h1 h2]
  rfl

/-- nanosecond values for instants between 1973-03-03 and 2001-09-09 (below the documented 10^18
magnitude) are returned unchanged, i.e. read as milliseconds. -/
theorem nanos_before_2001_characterisation (enc : Enc) (v : Nat) (lo : Option Int)
    (h1 : 99999999999000000 ≤ v) (h2 : v < 1000000000000000000) :
    extractTimeStamp (scalarOf enc v lo) = .ms (v : Int) := by
  rw [extract_classified enc v lo (Nat.lt_trans h2 (by decide)), classify_milli v (Nat.le_trans (by decide) h1) h2]
  rfl

/-! ## (3) arrival time only if the event carries no time -/

/-- what the jp.Number branch reads from a token -/
inductive NumReading where
  | unparseable                 -- neither ParseInt nor ParseFloat accepts it (malformed, or infinite)
  | raw (v : Int)               -- a uint64 that then goes through the unit cascade
  | scaledMs (ms : Int)         -- a small non-negative float: already round(val·1000)
deriving Repr, DecidableEq

def numReading (t : List Char) : NumReading :=
  match jpParseInt t with
  | some v => .raw (wrapU64 v)
  | none =>
    match jpParseFloat t with
    | none => .unparseable
    | some f =>
      if (!f.neg || f.q == 0) && !(Gen.IsTimeInMilli (f64ToU64 f)) then .scaledMs (f64ToU64 (f.mulNat 1000).round)
      else .raw (f64ToU64 f)

/-- the precisely characterised shapes for which the event has no usable time of its own -/
def carriesNoTime : Scalar → Prop
  | .absent => True
  | .other => True
  | .strBadEscape => True
  | .num t =>
    match numReading t with
    | .unparseable => True
    | .raw v => v = 0                                       -- 0, -0, 0e5, "-" …: the epoch itself
    | .scaledMs ms => ms = 0                                -- |value| below half a millisecond
  | .str s lo =>
    match goParseUint s with
    | some v => v = 0                                       -- "0", "000", … : the epoch itself
    | none => lo = none ∨ ∃ x, lo = some x ∧ wrapU64 x = 0  -- no layout matches, or 1970-01-01T00:00:00Z

/-- a millisecond result asks for the arrival time exactly when it is 0 -/
theorem ms_noTime_iff {n : Int} : (Res.ms n = .ms 0 ∨ Res.ms n = .now) ↔ n = 0 :=
  ⟨fun h => h.elim Res.ms.inj Res.noConfusion, fun h => Or.inl (congrArg Res.ms h)⟩

/-- C16.3 the arrival time is substituted (result 0, or "now" for an unparseable string) exactly
for an absent key, a non-scalar, and the characterised shapes; in particular the unit cascade never
turns a non-zero reading into 0. -/
theorem arrival_only_if_absent (sc : Scalar) :
    (extractTimeStamp sc = .ms 0 ∨ extractTimeStamp sc = .now) ↔ carriesNoTime sc := by
  cases sc with
  | absent | other | strBadEscape => exact iff_true_intro (Or.inl rfl)
  | num t =>
    refine ms_noTime_iff.trans ?_
    dsimp only [extractNum, carriesNoTime, numReading]
    cases jpParseInt t with
    | some v => exact scaleUnits_eq_zero_iff (wrapU64_range v)
    | none =>
      cases jpParseFloat t with
      | none => exact iff_true_intro rfl
      | some f =>
        dsimp only
        split
        · exact Iff.rfl
        · exact scaleUnits_eq_zero_iff (f64ToU64_range f)
  | str s lo =>
    dsimp only [extractTimeStamp, carriesNoTime, convertTimestampToMillis]
    cases hpu : goParseUint s with
    | some v => exact ms_noTime_iff.trans (scaleUnits_eq_zero_iff (goParseUint_range hpu))
    | none => cases lo <;> simp

/-- consequence for the caller (`GetNewPLE` / `ProcessIndexRequestPle`): an event of the window, in
any accepted unit and encoding, is never stored under the arrival time. -/
theorem stored_is_event_time (tsNow : Int) (enc : Enc) (u : TUnit) (v : Nat) (lo : Option Int)
    (h : inWindow u v) :
    storedMillis tsNow (scalarOf enc v lo) = .ms ((toMillis u v : Nat) : Int) := by
  simp only [storedMillis, time_preserved enc u v lo h, toMillis_ne_zero h, if_false]

/-- C16.3b hand-over from the protocol handlers (`ProcessIndexRequestPle` as repaired): a time the
handler put on the event survives when the JSON record has no timestamp key of its own (OTLP logs:
time_unix_nano) … -/
theorem handler_time_kept (handlerMs : Int) (h : handlerMs ≠ 0) :
    ingestStored handlerMs .absent = .ms handlerMs := by
  simp [ingestStored, extractTimeStamp, h]

/-- … and a record's own time in any accepted unit and encoding still wins -/
theorem record_time_wins (handlerMs : Int) (enc : Enc) (u : TUnit) (v : Nat) (lo : Option Int) (h : inWindow u v) :
    ingestStored handlerMs (scalarOf enc v lo) = .ms ((toMillis u v : Nat) : Int) := by
  simp only [ingestStored, time_preserved enc u v lo h, toMillis_ne_zero h, ne_eq, not_false_eq_true, if_true]

/-- exactly when the arrival time is stored: the record's own time is unusable and the handler set none -/
theorem ingestStored_eq_now {handlerMs : Int} {sc : Scalar} :
    ingestStored handlerMs sc = .now ↔ extractTimeStamp sc = .now ∨ (extractTimeStamp sc = .ms 0 ∧ handlerMs = 0) := by
  unfold ingestStored
  cases extractTimeStamp sc with
  | now => simp
  | ms n =>
    by_cases hn : n = 0
    · by_cases hh : handlerMs = 0 <;> simp [hn, hh]
    · simp [hn]

/-- hence the arrival time is used only if the record carries no usable time of its own -/
theorem arrival_only_if_record_has_no_time (handlerMs : Int) (sc : Scalar)
    (h : ingestStored handlerMs sc = .now) : carriesNoTime sc :=
  (arrival_only_if_absent sc).1 ((ingestStored_eq_now.1 h).elim Or.inr fun h0 => Or.inl h0.1)

/-! ### Splunk HEC: the envelope's `time` -/

/-- an envelope without root timestamp whose `time` token reads as a positive binary64 (`ht`) is stored at what the Number
branch makes of that token -/
theorem hecStored_time {t : List Char} {m : Int} (ht : hecEventTime (some t) = extractNum t) (hm : extractNum t = m)
    (h0 : 0 < m) : hecStored (some t) .absent = .ms m := by
  rw [hecStored, ht, hm]
  exact handler_time_kept m (Int.ne_of_gt h0)

/-- C16.3c Splunk HEC, AT FULL STRENGTH on the seconds window: an event sent as
`{"time":<s>.<fff>,"event":{…}}` (number or numeric string; no timestamp key at the envelope's root)
is stored at the instant s.fff — for every second of the window and every millisecond.  (Before the
repair `time` was never read: `hec_time_old_counterexample`.) -/
theorem hec_time_used (s f : Nat) (h : inWindow .sec s) (hf : f < 1000) :
    hecStored (some (fracText s f)) .absent = .ms ((s : Int) * 1000 + f) :=
  have hs : 1 ≤ s := Nat.le_trans (by decide) h.1
  hecStored_time (hecEventTime_fracText s f hs h.2 hf) (extractNum_fracText s f hs h.2 hf)
    (Int.add_pos_of_pos_of_nonneg (Int.mul_pos (Int.natCast_pos.2 hs) (by decide)) (Int.natCast_nonneg f))

/-- … and whole seconds `{"time":<s>}` are stored as s·1000 ms -/
theorem hec_time_whole_seconds (s : Nat) (h : inWindow .sec s) :
    hecStored (some (dec s)) .absent = .ms ((s : Int) * 1000) :=
  have hs : 1 ≤ s := Nat.le_trans (by decide) h.1
  hecStored_time (hecEventTime_dec s hs h.2) (extractNum_seconds s h) (Int.mul_pos (Int.natCast_pos.2 hs) (by decide))

/-- the abstraction of `hecEventTime` is sound on the window: a whole number of seconds takes the
integer path of ExtractTimeStamp when re-rendered (`1700000000`) and the float path when written with
a fraction (`1700000000.000`); both give the same instant. -/
theorem hec_whole_seconds_both_paths (s : Nat) (h : inWindow .sec s) :
    extractNum (dec s) = extractNum (fracText s 0) := by
  rw [extractNum_fracText s 0 (Nat.le_trans (by decide) h.1) h.2 (by decide), extractNum_seconds s h]
  exact (Int.add_zero _).symm

/-- a timestamp key at the envelope's root still wins (the behaviour before the repair is kept) -/
theorem hec_root_timestamp_wins (t : Option (List Char)) (enc : Enc) (u : TUnit) (v : Nat) (lo : Option Int)
    (h : inWindow u v) : hecStored t (scalarOf enc v lo) = .ms ((toMillis u v : Nat) : Int) :=
  record_time_wins (hecEventTime t) enc u v lo h

/-- the arrival time is used only when the envelope has no time of its own: neither a usable root
timestamp nor a usable `time` -/
theorem hec_arrival_only_without_time (t : Option (List Char)) (sc : Scalar)
    (h : hecStored t sc = .now) : carriesNoTime sc ∧ (extractTimeStamp sc = .now ∨ hecEventTime t = 0) :=
  ⟨arrival_only_if_record_has_no_time _ sc h, (ingestStored_eq_now.1 h).imp id And.right⟩

/-- an envelope without `time` and without root timestamp is stored at its arrival -/
example : hecStored none .absent = .now := by decide

/-- the behaviour BEFORE the repair violated the property: the witness `{"time":1700000000.123,…}` was
stored under its arrival time … -/
theorem hec_time_old_counterexample :
    ¬ (∀ s f : Nat, inWindow .sec s → f < 1000 →
        hecStoredOld (some (fracText s f)) .absent = .ms ((s : Int) * 1000 + f)) :=
  -- `hecStoredOld _ .absent` is `.now` by computation
  fun hall => Res.noConfusion (hall 1700000000 123 (by decide) (by decide))

/-- … and the repaired code stores the witness at 1700000000123 -/
example : hecStored (some (fracText 1700000000 123)) .absent = .ms 1700000000123 :=
  hec_time_used 1700000000 123 (by decide) (by decide)

/-! ## metrics: uint32 seconds -/

/-- metrics window: the instant's seconds fit the uint32 of the metrics store (until 2106-02-07) -/
def inMetricWindow (u : TUnit) (v : Nat) : Prop := inWindow u v ∧ toSeconds u v < 4294967296

/-- The cascade every metrics reader runs (ExtractOTLPPayload, ExtractOTSDBPayload, parseTimestamp,
normalizeIntToSeconds): a test for nanoseconds, a test for milliseconds — each reader with its own comparisons,
`isN` and `isM` — a division, in the regenerated kernels a pass `w` through int64, and the cut to uint32.  Whenever
the tests pick the value's own unit the result is the instant's seconds, and it is positive. -/
theorem seconds_cascade {u : TUnit} {v : Nat} (h : inMetricWindow u v) (isN isM : Bool) (w : Int → Int)
    (hN : isN = decide (u = .nano)) (hM : isM = decide (u ≠ .sec))
    (hw : ∀ n : Nat, n < 9223372036854775808 → w n = n) :
    (if isN then wrapU32 (w (Int.tdiv v 1000000000)) else if isM then wrapU32 (w (Int.tdiv v 1000)) else wrapU32 v)
        = ((toSeconds u v : Nat) : Int) ∧ ((toSeconds u v : Nat) : Int) > 0 := by
  subst hN hM
  obtain ⟨hv, hs⟩ := h
  -- stated for `toSeconds u v`: in each case below that is the quotient itself, by computation
  have hs' := hw _ (Nat.lt_trans hs (by decide))
  cases u with
  | sec => exact ⟨wrapU32_natCast hs, Int.natCast_pos.2 (Nat.lt_of_lt_of_le (by decide) hv.1)⟩
  | milli =>
    refine ⟨?_, Int.natCast_pos.2 (Nat.div_pos (Nat.le_trans (by decide) hv.1) (by decide))⟩
    exact (congrArg (fun x => wrapU32 (w x)) (Int.ofNat_tdiv v 1000).symm).trans ((congrArg wrapU32 hs').trans (wrapU32_natCast hs))
  | nano =>
    refine ⟨?_, Int.natCast_pos.2 (Nat.div_pos (Nat.le_trans (by decide) hv.1) (by decide))⟩
    exact (congrArg (fun x => wrapU32 (w x)) (Int.ofNat_tdiv v 1000000000).symm).trans ((congrArg wrapU32 hs').trans (wrapU32_natCast hs))

/-- C16.5a OTLP metrics (JSON number): seconds, milliseconds and nanoseconds are all reduced to the
instant's seconds. -/
theorem otlp_metrics_correct (u : TUnit) (v : Nat) (h : inMetricWindow u v) :
    otlpTs (.num (dec v)) = some ((toSeconds u v : Nat) : Int) := by
  have hv := inWindow_lt_int64 h.1
  obtain ⟨e, hp⟩ := seconds_cascade h _ _ (fun x => x) (inWindow_tests h.1).1 (inWindow_tests h.1).2 (fun _ _ => rfl)
  simp only [otlpTs, otlpNum, jpParseInt_dec v hv, wrapU64_natCast (Nat.lt_trans hv (by decide)), e, finish, hp, if_true]

/-- C16.5b OpenTSDB put (JSON number or digit string): seconds and milliseconds ("seconds or
milliseconds since epoch", the code comment) are reduced to the instant's seconds. -/
theorem otsdb_metrics_correct (enc : Enc) (u : TUnit) (v : Nat) (lo : Option Int) (hu : u ≠ .nano)
    (h : inMetricWindow u v) :
    otsdbTs (match enc with | .number => .num (dec v) | .string => .str (dec v) lo)
      = some ((toSeconds u v : Nat) : Int) := by
  have hv := inWindow_lt_int64 h.1
  obtain ⟨e, hp⟩ := seconds_cascade h false _ (fun x => x) (decide_eq_false hu).symm (inWindow_tests h.1).2 (fun _ _ => rfl)
  simp only [Bool.false_eq_true, if_false] at e
  -- jsonparser.ParseInt on the number, strconv.ParseInt on the string: the same integer into the same cascade
  cases enc <;>
    simp only [otsdbTs, otsdbNum, otsdbStr, jpParseInt_dec v hv, goParseInt_dec v hv, wrapU64_natCast (Nat.lt_trans hv (by decide)),
      e, finish, hp, if_true]

/-- C16.5c Prometheus remote write (`parseTimestamp`, REGENERATED from /repo): all three units are
reduced to the instant's seconds. -/
theorem remote_write_correct (u : TUnit) (v : Nat) (h : inMetricWindow u v) :
    Gen.parseTimestamp (v : Int) = ((toSeconds u v : Nat) : Int) := by
  obtain ⟨e, _⟩ := seconds_cascade h _ _ wrapS64 (inWindow_tests h.1).1 (inWindow_tests h.1).2 (fun _ => wrapS64_natCast)
  simp only [Gen.parseTimestamp, wrapU64_natCast (Nat.lt_trans (inWindow_lt_int64 h.1) (by decide)), e]

/-- C16.5d the PromQL time parameter (`normalizeIntToSeconds`, REGENERATED): the same instants are
read back in the same unit as ingest stored them, EXCEPT that its millisecond class starts strictly
above 10^12 (2001-09-09) instead of at 99999999999, and its nanosecond class strictly above 10^18. -/
theorem promql_time_correct (u : TUnit) (v : Nat) (h : inMetricWindow u v)
    (hm : u = .milli → 1000000000000 < v) (hn : u = .nano → 1000000000000000000 < v) :
    Gen.normalizeIntToSeconds (v : Int) = some ((toSeconds u v : Nat) : Int) := by
  have hN : decide ((v : Int) > 1000000000000000000) = decide (u = .nano) := by
    cases u with
    | nano => exact decide_eq_true (Int.ofNat_lt.2 (hn rfl))
    | _ => exact decide_eq_false (Int.not_lt.2 (Int.ofNat_le.2 (Nat.le_trans (Nat.le_of_lt h.1.2) (by decide))))
  have hM : decide ((v : Int) > 1000000000000) = decide (u ≠ .sec) := by
    cases u with
    | nano => exact decide_eq_true (Int.ofNat_lt.2 (Nat.lt_of_lt_of_le (by decide) h.1.1))
    | sec => exact decide_eq_false (Int.not_lt.2 (Int.ofNat_le.2 (Nat.le_trans (Nat.le_of_lt h.1.2) (by decide))))
    | milli => exact decide_eq_true (Int.ofNat_lt.2 (hm rfl))
  obtain ⟨e, hp⟩ := seconds_cascade h _ _ wrapS64 hN hM (fun _ => wrapS64_natCast)
  have h0 : decide ((v : Int) > 0) = true :=
    decide_eq_true (Int.natCast_pos.2 (by cases u <;> exact Nat.lt_of_lt_of_le (by decide) h.1.1))
  rw [← e, Gen.normalizeIntToSeconds, h0, if_pos rfl, apply_ite some, apply_ite some]

/-- the metrics guards are satisfiable -/
example : inMetricWindow .sec 1700000000 ∧ inMetricWindow .milli 1700000000123 ∧
    inMetricWindow .nano 1700000000123456789 := by
  unfold inMetricWindow
  decide

/-! # CONTENT: "stored with all of its fields, attributes and identifiers intact"

Vocabulary (SigModel/Spec/Flatten.lean): a logical event is a JSON tree (`Members` = the members of the root
object); `leavesMembers doc` lists every scalar leaf with ITS OWN path (member keys and array positions);
`flatten ts doc` is what `GetNewPLE`/`ParseRawJsonObject` turn the document into: the columns `(name, value)`
in emission order; `joinPath [] p` is the flattener's name of path `p`, `dotted p` the documented convention
(segments joined with "."); `ts` is the configured timestamp key.  All statements are for EVERY tree. -/
namespace Content
open SigModel.Spec.Flatten SigModel.Lemmas.C16Flatten

/-- EXACT CONTENT (and totality: `flatten` is a total function on all trees): the flattener emits exactly the
tree's leaves — each once, in document order, under the flattener's name of its path, with its value — except
the leaves whose NAME is the timestamp key.  Nothing else is dropped, nothing is invented. -/
theorem flatten_exact (ts : Bytes) (doc : Members) :
    flatten ts doc = ((leavesMembers doc).map (fun p => (joinPath [] p.1, p.2))).filter (fun q => q.1 ≠ ts) :=
  flatMembers_eq ts [] doc

/-- the same at every depth and behind every prefix (`cur` = the name built so far) -/
theorem flatten_exact_below (ts cur : Bytes) (j : Json) :
    flatVal ts cur j = ((leaves j).map (fun p => (joinPath cur p.1, p.2))).filter (fun q => q.1 ≠ ts) :=
  flatVal_eq ts cur j

/-- COUNT: stored columns + leaves consumed as the time = leaves of the tree -/
theorem flatten_count (ts : Bytes) (doc : Members) :
    (flatten ts doc).length + ((leavesMembers doc).filter (fun p => joinPath [] p.1 = ts)).length
      = (leavesMembers doc).length := by
  rw [flatten_exact, List.filter_map, List.length_map, ← List.countP_eq_length_filter, ← List.countP_eq_length_filter,
    Nat.add_comm, List.length_eq_countP_add_countP (fun p => decide (joinPath [] p.1 = ts))]
  simp only [Function.comp_def, decide_not, decide_eq_true_eq]

/-- LEAF PRESERVATION: every leaf whose name is not the timestamp key is stored under the name of its own path
with its own value -/
theorem leaf_preserved (ts : Bytes) (doc : Members) (x : List Bytes × Atom) (hx : x ∈ leavesMembers doc)
    (hne : joinPath [] x.1 ≠ ts) : (joinPath [] x.1, x.2) ∈ flatten ts doc :=
  (mem_flatMembers ts [] doc _).mpr ⟨x, hx, rfl, hne⟩

/-- … and the name is the documented one — the segments joined with "." — whenever the root key of the path is
not the empty string -/
theorem leaf_preserved_dotted (ts : Bytes) (doc : Members) (k : Bytes) (r : List Bytes) (v : Atom)
    (hx : (k :: r, v) ∈ leavesMembers doc) (hk : k ≠ []) (hne : dotted (k :: r) ≠ ts) :
    (dotted (k :: r), v) ∈ flatten ts doc := by
  rw [← joinPath_root k r hk] at hne ⊢
  exact leaf_preserved ts doc (k :: r, v) hx hne

/-- guard of the nested-leaf theorem: no ROOT member has the empty key (decidable) -/
def NoEmptyRootKey (doc : Members) : Prop := rootKeysNonEmpty doc = true
instance (doc : Members) : Decidable (NoEmptyRootKey doc) := by unfold NoEmptyRootKey; exact inferInstance

/-- FULL STATEMENT for nested leaves: "a leaf below the root level (path of two or more segments) is always
stored, whatever its own key is — the timestamp key included; only the ROOT-level timestamp member is consumed
as the time". -/
def NestedLeavesStored : Prop :=
  ∀ (ts : Bytes), dot ∉ ts → ∀ (doc : Members) (x : List Bytes × Atom), x ∈ leavesMembers doc → 2 ≤ x.1.length →
    ∃ n, (n, x.2) ∈ flatten ts doc

/-- the code violates the full statement: the flattener treats an EMPTY name-so-far as "no prefix", so the
members of a root member with the empty key are named like root members: in `{"": {"t": 5}}` with timestamp key
`t` the nested leaf is consumed (nothing is stored). -/
theorem nested_leaves_stored_counterexample : ¬ NestedLeavesStored := fun h =>
  -- by computation: the leaf is the tree's only leaf, and `flatten` of the tree is `[]`
  (h [116] (by decide) (.cons [] (.obj (.cons [116] (.leaf (.num ['5'] ['5'])) .nil)) .nil)
    ([[], [116]], .num ['5'] ['5']) List.mem_cons_self (Nat.le_refl 2)).elim fun _ hn => List.not_mem_nil hn

/-- the statement holds for every tree without an empty ROOT key: a nested leaf — also one whose own key equals
the timestamp key, at any depth, inside arrays — is stored under its dotted path with its value (the timestamp
key contains no dot: `timestamp`) -/
theorem nested_leaves_stored_partial (ts : Bytes) (hts : dot ∉ ts) (doc : Members) (hg : NoEmptyRootKey doc)
    (x : List Bytes × Atom) (hx : x ∈ leavesMembers doc) (h2 : 2 ≤ x.1.length) :
    (dotted x.1, x.2) ∈ flatten ts doc := by
  obtain ⟨k, r, e, hkn⟩ := mem_leavesMembers_root hg hx
  obtain ⟨p, v⟩ := x
  cases e
  cases r with
  | nil => exact absurd h2 (Nat.not_succ_le_self 1)
  | cons t r' => exact leaf_preserved_dotted ts doc k (t :: r') v hx hkn fun e => hts (e ▸ dot_mem_dotted k t r')

example : NoEmptyRootKey (.cons [97] (.obj (.cons [116] (.leaf .null) .nil)) .nil) := by decide

/-- WHAT IS CONSUMED: without an empty root key and with a dot-free timestamp key, a leaf is consumed as the time
iff it is the root-level member named like the timestamp key -/
theorem only_root_ts_consumed (ts : Bytes) (hts : dot ∉ ts) (doc : Members) (hg : NoEmptyRootKey doc)
    (x : List Bytes × Atom) (hx : x ∈ leavesMembers doc) : joinPath [] x.1 = ts ↔ x.1 = [ts] := by
  obtain ⟨k, r, e, hkn⟩ := mem_leavesMembers_root hg hx
  rw [e, joinPath_root k r hkn]
  cases r with
  | nil => simp [dotted]
  | cons t r' => exact iff_of_false (fun e2 => hts (e2 ▸ dot_mem_dotted k t r')) (by simp)

/-- guard of the no-collision theorem (decidable): in every object of the tree the keys are pairwise distinct
and contain no dot, and no root key is empty -/
def WellKeyed (doc : Members) : Prop := wellKeyedMembers doc = true ∧ rootKeysNonEmpty doc = true
instance (doc : Members) : Decidable (WellKeyed doc) := by unfold WellKeyed; exact inferInstance

/-- FULL STATEMENT "distinct leaves get distinct column names" -/
def NamesDistinct : Prop := ∀ (ts : Bytes) (doc : Members), ((flatten ts doc).map (fun q => q.1)).Nodup

/-- the code violates it: a key that contains a dot collides with a nested path — `{"a.b": 1, "a": {"b": 2}}`
emits the column `a.b` twice (and the record is read back with one of the two values) -/
theorem names_distinct_counterexample : ¬ NamesDistinct := fun h =>
  absurd (h [0] (.cons [97, 46, 98] (.leaf (.num ['1'] ['1'])) (.cons [97] (.obj (.cons [98] (.leaf (.num ['2'] ['2'])) .nil)) .nil)))
    (by decide +kernel)

/-- … and so does the empty root key: `{"": {"a": 1}, "a": 2}` emits `a` twice -/
theorem names_distinct_counterexample_empty_key : ¬ NamesDistinct := fun h =>
  absurd (h [0] (.cons [] (.obj (.cons [97] (.leaf (.num ['1'] ['1'])) .nil)) (.cons [97] (.leaf (.num ['2'] ['2'])) .nil)))
    (by decide +kernel)

/-- INJECTIVITY ON KEY PATHS: for every well-keyed tree distinct leaves are stored under distinct names (array
positions included: decimal rendering is injective) -/
theorem names_distinct_partial (ts : Bytes) (doc : Members) (hg : WellKeyed doc) :
    ((flatten ts doc).map (fun q => q.1)).Nodup := by
  unfold flatten
  rw [flatMembers_eq]
  exact (names_nodup doc hg.1 hg.2).sublist (keep_names_sublist ts _)

example : WellKeyed (.cons [97] (.obj (.cons [98] (.arr (.cons (.leaf .null) .nil)) .nil)) (.cons [99] (.leaf .null) .nil)) := by decide

/-- hence the record that is read back (`lookupLast`: one value per name) shows, for a well-keyed tree, every
stored leaf with exactly its own value -/
theorem stored_value_is_leaf_value (ts : Bytes) (doc : Members) (hg : WellKeyed doc) (x : List Bytes × Atom)
    (hx : x ∈ leavesMembers doc) (hne : joinPath [] x.1 ≠ ts) :
    lookupLast (flatten ts doc) (joinPath [] x.1) = some x.2 :=
  lookupLast_of_nodup _ _ _ (names_distinct_partial ts doc hg) (leaf_preserved ts doc x hx hne)

/-! ## protocol envelopes: the same tree behind a prefix -/

/-- BEHIND A PREFIX (HEC `event`, OTLP `attributes` / `resource.attributes` / `scope.attributes` / `body`): nothing
is consumed as the time, and the stored fields are exactly the leaves of the tree under `prefix` + "." + the name
they have in a root-level document (ES bulk) -/
theorem under_prefix_same_fields (ts cur : Bytes) (hc : cur ≠ []) (hts : dot ∉ ts) (t : Members) (hg : NoEmptyRootKey t) :
    flatMembers ts cur t = (leavesMembers t).map (fun p => (cur ++ dot :: joinPath [] p.1, p.2)) := by
  have e : allCols cur (leavesMembers t) = (leavesMembers t).map (fun p => (cur ++ dot :: joinPath [] p.1, p.2)) :=
    List.map_congr_left fun x hx => by
      obtain ⟨k, r, e, hkn⟩ := mem_leavesMembers_root hg hx
      rw [e, joinPath_prefix cur k r hc hkn]
  rw [flatMembers_eq, e]
  -- every name shows a dot, the timestamp key has none: nothing is consumed
  refine List.filter_eq_self.2 fun q hq => ?_
  obtain ⟨x, -, rfl⟩ := List.mem_map.1 hq
  exact decide_eq_true fun e => hts (e ▸ List.mem_append_right cur List.mem_cons_self)

/-- ES bulk (root level) versus any prefixed protocol: the field sets agree after removing the prefix, except for
the root-level timestamp member, which the root-level document gives up as its event time -/
theorem root_vs_prefix (ts cur : Bytes) (hc : cur ≠ []) (hts : dot ∉ ts) (t : Members) (hg : NoEmptyRootKey t)
    (n : Bytes) (v : Atom) :
    (n, v) ∈ flatten ts t ↔ ((cur ++ dot :: n, v) ∈ flatMembers ts cur t ∧ n ≠ ts) := by
  rw [under_prefix_same_fields ts cur hc hts t hg, flatten_exact, List.mem_filter, decide_eq_true_eq, List.mem_map, List.mem_map]
  -- leaf by leaf: putting `cur.` in front of a name is injective
  refine and_congr_left fun _ => exists_congr fun x => and_congr_right fun _ => ?_
  simp only [Prod.mk.injEq, List.append_cancel_left_eq, List.cons.injEq, true_and]

/-- ES bulk hands the document itself to the flattener -/
theorem es_stores (ts : Bytes) (t : Members) : flatten ts (envEs t) = flatten ts t := rfl

/-- the HEC envelope's own fields, as stored -/
def hecEnvelopeFields (c : Consts) : List (Bytes × Atom) :=
  [(N.time, .num c.hecTime.toList c.hecTime.toList), (N.host, .str (bytesOf c.host)), (N.source, .str (bytesOf c.source)),
   (N.sourcetype, .str (bytesOf c.sourcetype)), (N.index, .str (bytesOf c.hecIndex))]

/-- Splunk HEC, both directions: the stored field set is EXACTLY the envelope's own fields, the leaves of the event
under `event`, and the leaves of `fields` under `fields` — nothing is lost and nothing else appears; hence, after
removing the envelope fields and the prefix, HEC and ES bulk store the same field set (up to the root timestamp
member, `root_vs_prefix`) -/
theorem hec_stored_exactly (c : Consts) (t : Members) (q : Bytes × Atom) :
    q ∈ flatten tsKey (envHec c t) ↔
      (q ∈ hecEnvelopeFields c ∨ (∃ x ∈ leavesMembers t, q = (joinPath N.event x.1, x.2))
        ∨ (∃ x ∈ leavesMembers (stringMembers t), q = (joinPath N.fields x.1, x.2))) := by
  have he : ∀ p, joinPath N.event p ≠ tsKey := fun p => joinPath_ne_of_head N.event tsKey p (by decide) (by decide)
  have hf : ∀ p, joinPath N.fields p ≠ tsKey := fun p => joinPath_ne_of_head N.fields tsKey p (by decide) (by decide)
  rw [envHec, mem_flatten_sort]
  -- the flattener on the envelope as written: its five scalar members, then the two subtrees
  show q ∈ hecEnvelopeFields c ++ (flatMembers tsKey N.event t ++ (flatMembers tsKey N.fields (stringMembers t) ++ [])) ↔ _
  simp only [List.mem_append, List.not_mem_nil, or_false, mem_flatMembers, he, hf, ne_eq, not_false_eq_true, and_true]

/-- Splunk HEC: every leaf of the event is stored under `event.` + its root-level name (the envelope members are
sorted by key on the way: irrelevant for WHAT is stored) -/
theorem hec_stores_event (c : Consts) (t : Members) (x : List Bytes × Atom) (hx : x ∈ leavesMembers t) :
    (joinPath N.event x.1, x.2) ∈ flatten tsKey (envHec c t) :=
  (hec_stored_exactly c t _).mpr (Or.inr (Or.inl ⟨x, hx, rfl⟩))

/-- … i.e. under `event.<dotted path>` when the event has no empty root key -/
theorem hec_stores_event_dotted (c : Consts) (t : Members) (hg : NoEmptyRootKey t) (k : Bytes) (r : List Bytes) (v : Atom)
    (hx : (k :: r, v) ∈ leavesMembers t) : (N.event ++ dot :: dotted (k :: r), v) ∈ flatten tsKey (envHec c t) := by
  obtain ⟨k', r', e, hkn⟩ := mem_leavesMembers_root hg hx
  cases e
  rw [← joinPath_root k r hkn, ← joinPath_prefix N.event k r (by decide) hkn]
  exact hec_stores_event c t (k :: r, v) hx

/-- OTLP logs: every leaf of the attribute tree is stored three times — as record attribute, resource attribute
and scope attribute (the tree is delivered in all three places) — and a fourth time under `body` when the body is
the structured tree -/
theorem otlp_stores_attributes (c : Consts) (bodyTree ids : Bool) (msg : Bytes) (t : Members)
    (x : List Bytes × Atom) (hx : x ∈ leavesMembers t) :
    (joinPath N.attributes x.1, x.2) ∈ flatten tsKey (envOtlp c bodyTree ids msg t)
    ∧ (joinPath (N.resource ++ dot :: N.attributes) x.1, x.2) ∈ flatten tsKey (envOtlp c bodyTree ids msg t)
    ∧ (joinPath (N.scope ++ dot :: N.attributes) x.1, x.2) ∈ flatten tsKey (envOtlp c bodyTree ids msg t)
    ∧ (bodyTree = true → (joinPath N.body x.1, x.2) ∈ flatten tsKey (envOtlp c bodyTree ids msg t)) := by
  have hs : x ∈ leaves (sortJson (.obj t)) := (mem_leaves_sortJson (.obj t) x).mpr hx
  have hs2 : x ∈ leaves (sortJson (.obj (.cons N.siglensIndexName (jstr c.otlpIndex) t))) :=
    (mem_leaves_sortJson (.obj (.cons _ _ t)) x).mpr (List.mem_append_right _ hx)
  have ne : ∀ k : Bytes, k ≠ [] → k.head? ≠ tsKey.head? → joinPath k x.1 ≠ tsKey :=
    fun k => joinPath_ne_of_head k tsKey x.1
  simp only [envOtlp]
  -- by position in the member lists that `envOtlp` writes out: `attributes` is member 7, `body` member 6 of the record
  refine ⟨?_, ?_, ?_, ?_⟩
  · exact mem_flatten_of_member (k := N.attributes) (v := sortJson (.obj t)) (List.mem_of_getElem? (i := 7) rfl) hs
      (ne _ (by decide) (by decide))
  · exact mem_flatten_of_member (k := N.resource) (.head _) (mem_leaves_of_member (k := N.attributes) (.head _) hs2) (ne _ (by decide) (by decide))
  · exact mem_flatten_of_member (k := N.scope) (.tail _ (.head _)) (mem_leaves_of_member (k := N.attributes) (.tail _ (.tail _ (.head _))) hs)
      (ne _ (by decide) (by decide))
  · rintro rfl
    exact mem_flatten_of_member (k := N.body) (v := sortJson (.obj t)) (List.mem_of_getElem? (i := 6) rfl) hs
      (ne _ (by decide) (by decide))

/-- ES single-document API: every leaf outside the root member `_id` (which the handler sets itself) is stored
exactly as ES bulk stores it -/
theorem esdoc_stores (t : Members) (x : List Bytes × Atom) (hx : x ∈ leavesMembers t) (hid : x.1.head? ≠ some N.u_id)
    (hne : joinPath [] x.1 ≠ tsKey) : (joinPath [] x.1, x.2) ∈ flatten tsKey (envEsDoc t) :=
  -- the leaves of the sorted map `{_id} ∪ (t without _id)`
  leaf_preserved tsKey _ x
    ((mem_leavesMembers_sort _ x).2 (List.mem_append_right _ (mem_leavesMembers_erase t N.u_id x hx hid))) hne

/-- a root member `k` of a map is still stored as `k` after the Go map assignments `l` and the sorted marshalling, unless
it is the timestamp or one of the assignments is to `k` (the later one wins): the Loki handler's structured metadata -/
theorem stored_after_assignments (ts : Bytes) (m : Members) (l : List (Bytes × Json)) (k : Bytes) (v : Atom)
    (h : ([k], v) ∈ leavesMembers m) (hts : k ≠ ts) (hl : ∀ kv ∈ l, kv.1 ≠ k) :
    (k, v) ∈ flatten ts (sortMembers (l.foldl (fun m p => setMember m p.1 p.2) m)) :=
  leaf_preserved ts _ ([k], v)
    ((mem_leavesMembers_sort _ _).2 (mem_foldl_setMember _ _ _ h fun kv hkv e => hl kv hkv (Option.some.inj e).symm)) hts

/-- Loki JSON push: a stream label (a root member with a string value) is stored under its own name with its value,
unless it is named like one of the protocol's own fields (`timestamp`, `line`) or a member of the structured
metadata has the same name (Go map assignment: the later one replaces it) -/
theorem loki_stores_labels (c : Consts) (msg : Bytes) (t : Members) (k s : Bytes)
    (h : (k, Json.leaf (.str s)) ∈ t.toList) (h1 : k ≠ N.timestamp) (h2 : k ≠ N.line)
    (h3 : ∀ kv ∈ (otherMembers t).toList, kv.1 ≠ k) :
    (k, Atom.str s) ∈ flatten tsKey (envLoki c msg t) :=
  stored_after_assignments tsKey _ _ k _
    (mem_setMember_other _ _ _ _ (mem_setMember_other _ _ _ _ (mem_stringMembers t k s h) fun e => h1 (Option.some.inj e))
      fun e => h2 (Option.some.inj e)) h1 h3

/-- Loki JSON push: the log line is stored as `line`, unless a member of the structured metadata is called `line` -/
theorem loki_stores_line (c : Consts) (msg : Bytes) (t : Members)
    (h3 : ∀ kv ∈ (otherMembers t).toList, kv.1 ≠ N.line) :
    (N.line, Atom.str msg) ∈ flatten tsKey (envLoki c msg t) :=
  stored_after_assignments tsKey _ _ N.line _ (mem_setMember_new _ N.line (.leaf (.str msg)) ([], .str msg) List.mem_cons_self)
    (by decide) h3

/-! ## numbers and the repaired handlers -/

/-- a number leaf whose token `jsonparser.ParseInt` reads as `i` is stored as the int64 `i`, through every protocol
that hands the token to the flattener as it was sent (that `i` is the token's value: `Lemmas.C16.jpParseInt_dec`, for
the renderings `dec n` below 2^63 only) -/
theorem int64_token_exact (tok jtok : List Char) (i : Int) (h : SigModel.TimeUnit.jpParseInt tok = some i) :
    storedNum .direct tok jtok = some (.int i) ∧ storedNum .otlp tok jtok = some (.int i) := by
  simp [storedNum, readTok, h]

/-- Splunk HEC and Loki JSON push AS REPAIRED (UseNumber): the stored number is what ES bulk stores for the same
token — the float64 re-rendering (`jtok`) plays no part any more.  Together with `hec_stored_exactly` /
`loki_stores_labels`: the same logical event has the same field VALUES through ES bulk, ES doc, HEC and Loki. -/
theorem hec_numbers_as_sent (tok jtok : List Char) : storedNum hecNumMode tok jtok = storedNum .direct tok jtok := rfl

/-- FULL STATEMENT for the old decoding: "HEC stores the number ES bulk stores" -/
def HecNumbersAsSentOld : Prop := ∀ tok jtok : List Char, storedNum hecNumModeOld tok jtok = storedNum .direct tok jtok

/-- before the repair it failed: 9007199254740993 went through float64, came back as the text 9007199254740992
and was stored as that integer (old known finding content/hec-int-beyond-2^53-altered) -/
theorem hec_numbers_old_counterexample : ¬ HecNumbersAsSentOld := fun h =>
  absurd (h ['9','0','0','7','1','9','9','2','5','4','7','4','0','9','9','3'] ['9','0','0','7','1','9','9','2','5','4','7','4','0','9','9','2'])
    (by decide +kernel)

/-- the ES single-document handler, before the repair, panicked after ingesting a document whose root `_type` or
`_index` is not a string (old known finding content/esdoc-panic): the class is not empty … -/
theorem esdoc_panic_old_witness :
    esDocPanicsOld (.cons N.u_type (.leaf (.num ['5'] ['5'])) (.cons [109] (.leaf (.str [111])) .nil)) = true := by
  decide +kernel

/-- … and as repaired the handler answers for EVERY document and stores what ES bulk stores, outside the root member
`_id`: `esdoc_stores` above holds without any guard on `_type` / `_index` (the answer of the specification has no
panic branch: `answer`). -/
theorem esdoc_answers_for_every_document (c : Consts) (k : Case) :
    ∃ es doc hec loki otlp : String, answer c k = s!"es={es} | esdoc={doc} | hec={hec} | loki={loki} | otlp={otlp}"
      ∧ doc = stored .direct (envEsDoc k.tree) :=
  ⟨_, _, _, _, _, rfl, rfl⟩

/-- THE LONGEST STRING VALUE (patch c16-4): a document that GetNewPLE accepts holds no string value of more than
65532 bytes, so the two length bytes of every stored string value say its length exactly and the end index of its
record (3 + length) fits into the uint16 the readers keep it in — for EVERY tree, at every depth, through every
protocol (each hands a tree to the same flattener). -/
theorem accepted_strings_fit (ts : Bytes) (doc : Members) (h : longMembers doc = false)
    (q : Bytes × Atom) (hq : q ∈ flatten ts doc) (s : Bytes) (hs : q.2 = .str s) :
    s.length ≤ maxStringBytes ∧ s.length % 65536 = s.length ∧ (3 + s.length) % 65536 = 3 + s.length := by
  obtain ⟨x, hx, rfl, _⟩ := (mem_flatMembers ts [] doc q).mp hq
  have h1 : (Atom.str s).tooLong = false := hs ▸ longMembers_false doc h x hx
  have h2 : s.length ≤ 65532 := Nat.le_of_not_lt (of_decide_eq_false h1)
  exact ⟨h2, Nat.mod_eq_of_lt (Nat.lt_of_le_of_lt h2 (by decide)),
    Nat.mod_eq_of_lt (Nat.lt_of_le_of_lt (Nat.add_le_add_left h2 3) (by decide))⟩

/-- a document with a longer string value is refused by every protocol (the specification's answer) -/
theorem long_string_refused (m : NumMode) (doc : Members) (h : longMembers doc = true) : stored m doc = "rejected" := by
  simp [stored, h]

/-- BEFORE the repair nothing was refused and a value came back with its length mod 65536: 70000 bytes sent, 4464
returned; 65536 bytes sent, the empty string (= no field) returned. -/
theorem long_string_old_counterexample :
    ¬ (∀ n : Nat, storedLenOld n = n) ∧ storedLenOld 70000 = 4464 ∧ storedLenOld 65536 = 0 := by
  exact ⟨fun h => absurd (h 65536) (by decide), by decide, by decide⟩

example : -- non-vacuous: a 3-byte value is accepted, the guard of accepted_strings_fit is satisfiable
    longMembers (.cons [97] (.leaf (.str [1, 2, 3])) .nil) = false := by decide

end Content

end SigModel.Props.C16
