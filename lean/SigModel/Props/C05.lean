/-
C05 — Result order, limits and pagination are correct (kernel part).

Property theorems only.  Two kernels of /repo are covered:

  * the searcher's block scheduler (SigModel/Model/Sched.lean mirrors pkg/segment/query/processor/searcher.go:
    sortBlocks, getNextBlocks, getValidRRCs, getQSRSToProcess, getFilteredBlocks, Fetch/fetchRRCs) — the
    statements quantify over EVERY list of segment requests with every number of blocks and records, every
    overlap of block and segment time ranges, every maxBlocks, every number of Fetch calls;
  * the `sort` comparator (SigModel/Model/SortCmp.lean mirrors sortcommand.go compareValues / less and
    dtypeutils.AlmostEquals) — the statements quantify over every key list and every value; the float64 rounding
    `rnd` is a parameter (see the model header);
  * plus the page arithmetic and the scroll / head processors over every batching.

Found false of the code as it was and REPAIRED (patch "a search never returned when a block reached past the time
range its segment advertises", fetchRRCs `lastBlocks`): records kept back in unsentRRCs with no round left to
release them — in the OLDEST-first mode (recentLast; selected by no query path in this version) even for
well-formed input.  After the repair EOF is reached for EVERY input in both modes (fetch_always_reaches_eof,
fetch_reaches_eof); the old scheduler is kept as `fetchRRCsOld` for fetch_reaches_eof_counterexample_old and
fetch_recentLast_stuck_forever_old.
Found false and REPAIRED in /repo (fix: commits of C05): `less` was not a strict weak order — compareFloat used
AlmostEquals' tolerance as equality (non-transitive "equal"), NaN was "equal" to every number and ±Inf was not
equal to itself.  With the exact compareFloat the statement is proved at full strength
(less_strict_weak_order); the old comparator is kept as `lessOld` for the three counterexample theorems.
Also repaired: the order among records with EQUAL timestamps depended on map iteration order and goroutine
scheduling, so paging (which re-runs the query for every page) could return an event on two pages and another
on none; sortRRCs now breaks ties by position in the segment (§4: sortRRCs_result_unique, with the
counterexample for the old comparator); the segment-level tie-breaks (segment key) are checked by the harness.
-/
import SigModel.Model.Sched
import SigModel.Model.SortCmp
import SigModel.Lemmas.C05a
import SigModel.Lemmas.C05b
import SigModel.Lemmas.C05c
import SigModel.Lemmas.C05d
import SigModel.Lemmas.C05e
import SigModel.Lemmas.C05f
import SigModel.Lemmas.C05g

namespace SigModel.Props.C05
open SigModel.Sched SigModel.SortCmp

/-! ## 1. the block scheduler -/

/-- Well-formed input (the C01 invariant): every record lies inside its block's [low, high] and every block
inside its segment request's [start, stop].  Nothing is assumed about how blocks or segments overlap. -/
def WellFormed (segs : List Seg) : Prop :=
  ∀ s ∈ segs, ∀ b ∈ s.blocks, s.start ≤ b.low ∧ b.high ≤ s.stop ∧ b.low ≤ b.high ∧
    ∀ r ∈ b.recs, b.low ≤ r.2 ∧ r.2 ≤ b.high

/-- Block ids (segment key + block number) are unique. -/
def UniqueBlockIds (segs : List Seg) : Prop := ((allBlocks segs).map (·.id)).Nodup

instance (segs : List Seg) : Decidable (WellFormed segs) := by unfold WellFormed; infer_instance
instance (segs : List Seg) : Decidable (UniqueBlockIds segs) := by unfold UniqueBlockIds; infer_instance

/-- Timestamps are uint64 in the code (`Nat` in the model): no record lies beyond math.MaxUint64.  Needed in
oldest-first mode only, where the end time of the last round is math.MaxUint64. -/
def TsFit (segs : List Seg) : Prop := ∀ r ∈ allRecs segs, r.2 ≤ maxU64

instance (segs : List Seg) : Decidable (TsFit segs) := by unfold TsFit; infer_instance

/-- all records released by the first `fuel` Fetch calls, in order -/
def released (m : Mode) (maxBlocks fuel : Nat) (segs : List Seg) : List Rec :=
  (runFetch m maxBlocks fuel (init m segs)).1.flatten

/-- EOF was reached within `fuel` Fetch calls -/
def reachedEOF (m : Mode) (maxBlocks fuel : Nat) (segs : List Seg) : Bool :=
  (runFetch m maxBlocks fuel (init m segs)).2

/-- the same two for the scheduler BEFORE the repair (`fetchRRCsOld`), for the counterexample theorems only -/
def releasedOld (m : Mode) (maxBlocks fuel : Nat) (segs : List Seg) : List Rec :=
  (runFetchOld m maxBlocks fuel (init m segs)).1.flatten

def reachedEOFOld (m : Mode) (maxBlocks fuel : Nat) (segs : List Seg) : Bool :=
  (runFetchOld m maxBlocks fuel (init m segs)).2

theorem wf_iff (segs : List Seg) (h : WellFormed segs) : Lemmas.C05.WF segs := h

/-- C05.1 `fetch_released_sorted`: for EVERY well-formed set of segment requests and blocks (overlapping,
nested, identical ranges, ties), every maxBlocks and every number of Fetch calls, the concatenation of the
released batches is sorted by timestamp (non-strictly): newest first in recentFirst mode, oldest first in
recentLast mode — the last round, which hands out everything that was kept back, included.
(`m.before b a = false` reads "b is not strictly before a in the output order".) -/
theorem fetch_released_sorted (m : Mode) (segs : List Seg) (maxBlocks fuel : Nat) (hwf : WellFormed segs) :
    (released m maxBlocks fuel segs).Pairwise (fun a b => m.before b.2 a.2 = false) :=
  (Lemmas.C05.run_sorted m segs (wf_iff segs hwf) maxBlocks fuel (init m segs) (Lemmas.C05.inv_init m segs)
    (Lemmas.C05.invS_init m segs)).1

/-- the same, spelled out for the mode every query uses: newest first -/
theorem fetch_released_newest_first (segs : List Seg) (maxBlocks fuel : Nat) (hwf : WellFormed segs) :
    (released .recentFirst maxBlocks fuel segs).Pairwise (fun a b => b.2 ≤ a.2) :=
  (fetch_released_sorted .recentFirst segs maxBlocks fuel hwf).imp (Lemmas.C05.rf_false _ _).mp

/-- … and for the other mode: oldest first -/
theorem fetch_released_oldest_first (segs : List Seg) (maxBlocks fuel : Nat) (hwf : WellFormed segs) :
    (released .recentLast maxBlocks fuel segs).Pairwise (fun a b => a.2 ≤ b.2) :=
  (fetch_released_sorted .recentLast segs maxBlocks fuel hwf).imp (Lemmas.C05.rl_false _ _).mp

/-- C05.2 `fetch_released_perm`: once EOF is reached, the released records are a permutation of all matching
records: nothing is stuck in unsentRRCs, nothing is released twice (both modes). -/
theorem fetch_released_perm (m : Mode) (segs : List Seg) (maxBlocks fuel : Nat) (hwf : WellFormed segs)
    (hid : UniqueBlockIds segs) (heof : reachedEOF m maxBlocks fuel segs = true) :
    (released m maxBlocks fuel segs).Perm (allRecs segs) :=
  (Lemmas.C05.run_perm m segs (wf_iff segs hwf) hid maxBlocks fuel (init m segs)
    (Lemmas.C05.inv_init m segs) heof).trans (Lemmas.C05.future_init m segs)

/-- C05.2b `fetch_always_reaches_eof` — "a search always ends": for EVERY input — well-formed or not: blocks
that reach past the time range their segment advertises, records outside their block's range, repeated block
ids, empty segments —, both modes and every maxBlocks, the run has reached EOF after
`fuelBound = 2·(#segments + #blocks) + 4` Fetch calls.  Well-formedness is NOT needed; the only condition is the
one the Go types give (timestamps are uint64). -/
theorem fetch_always_reaches_eof (m : Mode) (segs : List Seg) (maxBlocks : Nat) (hfit : TsFit segs) :
    reachedEOF m maxBlocks (fuelBound segs) segs = true :=
  Lemmas.C05.init_eof m segs (fun _ => hfit) maxBlocks

/-- newest first (the mode every query uses) needs no condition at all -/
theorem fetch_always_reaches_eof_newest_first (segs : List Seg) (maxBlocks : Nat) :
    reachedEOF .recentFirst maxBlocks (fuelBound segs) segs = true :=
  Lemmas.C05.init_eof .recentFirst segs nofun maxBlocks

/-- C05.2b the full statement "EOF is always reached" (as stated before the repair, when it was false): for
every mode and every well-formed input, after `fuelBound` Fetch calls the run has reached EOF. -/
def FetchReachesEOF : Prop :=
  ∀ (m : Mode) (segs : List Seg) (maxBlocks : Nat), WellFormed segs → UniqueBlockIds segs → TsFit segs →
    reachedEOF m maxBlocks (fuelBound segs) segs = true

/-- … holds at full strength of the repaired scheduler (a corollary of `fetch_always_reaches_eof`; neither
well-formedness nor unique block ids are used) -/
theorem fetch_reaches_eof : FetchReachesEOF :=
  fun m segs maxBlocks _ _ hfit => fetch_always_reaches_eof m segs maxBlocks hfit

/-- Why `TsFit` appears: the model's timestamps are `Nat`.  A "timestamp" 2^64 — not a uint64, so not an input
of the code — would be kept back by the last round of the oldest-first mode (end time math.MaxUint64). -/
theorem fetch_eof_needs_uint64_timestamps :
    ¬ ∀ (m : Mode) (segs : List Seg) (maxBlocks : Nat), WellFormed segs → UniqueBlockIds segs →
        reachedEOF m maxBlocks (fuelBound segs) segs = true := by
  intro h
  let w : List Seg :=
    [ { start := 0, stop := 5, blocks := [{ id := 0, low := 0, high := 5, recs := [(0, 1), (1, 5)] }] },
      { start := 2, stop := 2 ^ 64, blocks := [{ id := 1, low := 2, high := 2 ^ 64, recs := [(2, 2), (3, 2 ^ 64)] }] } ]
  have h1 := h .recentLast w 2 (by decide +kernel) (by decide +kernel)
  have h2 : reachedEOF .recentLast 2 (fuelBound w) w = false := by decide +kernel
  rw [h1] at h2
  cases h2

/-- the two overlapping segment requests [0,5] {1,5} and [2,9] {2,9} -/
def stuckWitness : List Seg :=
  [ { start := 0, stop := 5, blocks := [{ id := 0, low := 0, high := 5, recs := [(0, 1), (1, 5)] }] },
    { start := 2, stop := 9, blocks := [{ id := 1, low := 2, high := 9, recs := [(2, 2), (3, 9)] }] } ]

/-- the hypotheses are satisfiable, also by overlapping input -/
example : WellFormed stuckWitness ∧ UniqueBlockIds stuckWitness ∧ TsFit stuckWitness := by decide +kernel

/-- the repaired scheduler on `stuckWitness`, oldest first: EOF, all four records, in order -/
example : reachedEOF .recentLast 2 (fuelBound stuckWitness) stuckWitness = true ∧
    released .recentLast 2 (fuelBound stuckWitness) stuckWitness = [(0, 1), (2, 2), (1, 5), (3, 9)] := by
  decide +kernel

/-- HISTORICAL, about the scheduler before the repair (`fetchRRCsOld`): the statement `FetchReachesEOF` read for it -/
def FetchReachesEOFOld : Prop :=
  ∀ (m : Mode) (segs : List Seg) (maxBlocks : Nat), WellFormed segs → UniqueBlockIds segs → TsFit segs →
    reachedEOFOld m maxBlocks (fuelBound segs) segs = true

/-- HISTORICAL: FALSE of the code before the repair, in OLDEST-first mode: with `stuckWitness` and maxBlocks = 2
the record with timestamp 9 stayed in unsentRRCs for ever — after the second request has left the list without
contributing a new block, `getNextBlocks(nil)` returns end time 0 and `min(0, cutOff) = 0` released nothing; EOF
was never reached, for ANY number of Fetch calls.  (Same root cause as the search that never returned when a
block reached past the time range its segment advertises: records kept back with no round left to release
them.) -/
theorem fetch_reaches_eof_counterexample_old : ¬ FetchReachesEOFOld := by
  intro h
  have h1 := h .recentLast stuckWitness 2 (by decide +kernel) (by decide +kernel) (by decide +kernel)
  have h2 : reachedEOFOld .recentLast 2 (fuelBound stuckWitness) stuckWitness = false := by decide +kernel
  rw [h1] at h2
  cases h2

/-- HISTORICAL: … and it was not a matter of the bound: no number of Fetch calls reached EOF or released
record 3 (ts 9). -/
theorem fetch_recentLast_stuck_forever_old (fuel : Nat) :
    reachedEOFOld .recentLast 2 fuel stuckWitness = false ∧ (3, 9) ∉ releasedOld .recentLast 2 fuel stuckWitness := by
  -- after three Fetch calls the state repeats
  let s1 : St := { unproc := [{ start := 2, stop := 9, blocks := [{ id := 1, low := 2, high := 9, recs := [(2, 2), (3, 9)] }] }],
                   processed := [1, 0], remaining := [], unsent := [(3, 9)], cutoff := 5, gotBlocks := false, gotAll := false }
  let s2 : St := { unproc := [], processed := [1, 0], remaining := [], unsent := [(3, 9)], cutoff := 9, gotBlocks := false,
                   gotAll := false }
  let s3 : St := { s2 with gotAll := true }
  have h1 : fetchOld .recentLast 2 (init .recentLast stuckWitness) = some ([(0, 1), (2, 2), (1, 5)], s1) := by decide +kernel
  have h2 : fetchOld .recentLast 2 s1 = some ([], s2) := by decide +kernel
  have h3 : fetchOld .recentLast 2 s2 = some ([], s3) := by decide +kernel
  have h4 : fetchOld .recentLast 2 s3 = some ([], s3) := by decide +kernel
  exact Lemmas.C05.runOld_step h1 (by decide) (Lemmas.C05.runOld_step h2 List.not_mem_nil
    (Lemmas.C05.runOld_step h3 List.not_mem_nil fun fuel =>
      have hs := Lemmas.C05.stuck_forever_old .recentLast 2 s3 h4 fuel
      ⟨hs.1, hs.2 ▸ List.not_mem_nil⟩)) fuel

/-- a segment request that advertises [6,9] although its blocks lie in [1,4] (ill-formed: a block outside the
time range of its segment), behind the request [0,5] {0,5} -/
def illFormedWitness : List Seg :=
  [ { start := 0, stop := 5, blocks := [{ id := 0, low := 0, high := 5, recs := [(0, 0), (1, 5)] }] },
    { start := 6, stop := 9, blocks := [{ id := 1, low := 1, high := 4, recs := [(2, 4)] },
                                        { id := 2, low := 2, high := 2, recs := [] }] } ]

/-- Well-formedness IS needed for the order (it is not needed for EOF): on `illFormedWitness`, oldest first with
maxBlocks = 1, the record with timestamp 4 is released after the one with timestamp 5.  (Before the repair this
run never ended — `releasedOld` stays at [0, 5] and EOF is not reached; a segment whose blocks lie outside the
range it advertises is scheduled too late in either version, the last round only hands out what was kept
back.) -/
theorem fetch_released_sorted_needs_wellformed :
    ¬ ∀ (m : Mode) (segs : List Seg) (maxBlocks fuel : Nat),
        (released m maxBlocks fuel segs).Pairwise (fun a b => m.before b.2 a.2 = false) := by
  intro h
  have h1 := h .recentLast illFormedWitness 1 (fuelBound illFormedWitness)
  have h2 : released .recentLast 1 (fuelBound illFormedWitness) illFormedWitness = [(0, 0), (1, 5), (2, 4)] := by
    decide +kernel
  rw [h2] at h1
  revert h1
  decide

example : reachedEOF .recentLast 1 (fuelBound illFormedWitness) illFormedWitness = true ∧
    reachedEOFOld .recentLast 1 (fuelBound illFormedWitness) illFormedWitness = false ∧
    releasedOld .recentLast 1 (fuelBound illFormedWitness) illFormedWitness = [(0, 0), (1, 5)] := by
  decide +kernel

/-- C05.2c everything together (both modes): after `fuelBound` Fetch calls the run is at EOF and has released
exactly the matching records, in the order of the mode. -/
theorem fetch_complete (m : Mode) (segs : List Seg) (maxBlocks : Nat) (hwf : WellFormed segs)
    (hid : UniqueBlockIds segs) (hfit : TsFit segs) :
    reachedEOF m maxBlocks (fuelBound segs) segs = true ∧
    (released m maxBlocks (fuelBound segs) segs).Perm (allRecs segs) ∧
    (released m maxBlocks (fuelBound segs) segs).Pairwise (fun a b => m.before b.2 a.2 = false) :=
  ⟨fetch_always_reaches_eof m segs maxBlocks hfit,
   fetch_released_perm m segs maxBlocks (fuelBound segs) hwf hid (fetch_always_reaches_eof m segs maxBlocks hfit),
   fetch_released_sorted m segs maxBlocks (fuelBound segs) hwf⟩

/-- C05.2c newest first, everything together: after `fuelBound` Fetch calls the run is at EOF and has released
exactly the matching records, newest first. -/
theorem fetch_newest_first_complete (segs : List Seg) (maxBlocks : Nat) (hwf : WellFormed segs)
    (hid : UniqueBlockIds segs) :
    (released .recentFirst maxBlocks (fuelBound segs) segs).Perm (allRecs segs) ∧
    (released .recentFirst maxBlocks (fuelBound segs) segs).Pairwise (fun a b => b.2 ≤ a.2) :=
  ⟨fetch_released_perm .recentFirst segs maxBlocks (fuelBound segs) hwf hid
      (fetch_always_reaches_eof_newest_first segs maxBlocks),
   fetch_released_newest_first segs maxBlocks (fuelBound segs) hwf⟩

/-- C05.3 `head_n_newest`: the first n released records are n newest ones — each of them is at least as new as
every matching record that is not among them (what a size limit / `head n` keeps), and together with the rest
they are exactly the matching records. -/
theorem head_n_newest (segs : List Seg) (maxBlocks n : Nat) (hwf : WellFormed segs) (hid : UniqueBlockIds segs) :
    let out := released .recentFirst maxBlocks (fuelBound segs) segs
    (∀ a ∈ out.take n, ∀ b ∈ out.drop n, b.2 ≤ a.2) ∧ (out.take n ++ out.drop n).Perm (allRecs segs) := by
  intro out
  have hc := fetch_newest_first_complete segs maxBlocks hwf hid
  refine ⟨?_, ?_⟩
  · have hp : (out.take n ++ out.drop n).Pairwise (fun a b => b.2 ≤ a.2) := by
      rw [List.take_append_drop]; exact hc.2
    exact (List.pairwise_append.mp hp).2.2
  · rw [List.take_append_drop]; exact hc.1

/-! ## 2. the sort comparator -/

/-- a relation given as a Bool function is a strict weak order on the records of the right length -/
def IsStrictWeakOrder (n : Nat) (lt : List Val → List Val → Bool) : Prop :=
  ∀ a b c : List Val, a.length = n → b.length = n → c.length = n →
    lt a a = false ∧
    (lt a b = true → lt b c = true → lt a c = true) ∧
    (lt a b = false → lt b a = false → lt b c = false → lt c b = false → lt a c = false ∧ lt c a = false)

/-- C05.4 `less_strict_weak_order` (full strength): for EVERY key list (numeric, string, auto or any other
option; ascending/descending; any number of keys), every rounding function and ALL values — numbers closer than
any tolerance, integers beyond 2^53, ±Inf, NaN, numeric strings, empty strings, bool, null — `sortProcessor.less`
is a strict weak order on the records that carry one value per key: irreflexive, transitive, and "neither is
less" is transitive.  This is what sort.Slice, the top-N heap and the merge of sorted batches need for their
result to be sorted. -/
theorem less_strict_weak_order (rnd : Rat → Rat) (ks : List (Bool × SortOp)) :
    IsStrictWeakOrder ks.length (less rnd ks) := by
  intro a b c ha hb hc
  have := Lemmas.C05.recCmp_trans rnd ks
  have e := Lemmas.C05.less_eq_recCmp rnd ks
  rw [e a a ha ha, e a b ha hb, e b c hb hc, e a c ha hc, e b a hb ha, e c b hc hb, e c a hc ha]
  exact Lemmas.C05.swo_of_transCmp (Lemmas.C05.recCmp rnd ks) a b c

/-- adjacent results of a sorted output are never out of order: if `less` put a before b it did not also put b
before a (asymmetry, a consequence of the above spelled out) -/
theorem less_asymm (rnd : Rat → Rat) (ks : List (Bool × SortOp)) (a b : List Val)
    (ha : a.length = ks.length) (hb : b.length = ks.length) (h : less rnd ks a b = true) :
    less rnd ks b a = false := by
  cases hba : less rnd ks b a with
  | false => rfl
  | true =>
    have s := less_strict_weak_order rnd ks a b a ha hb ha
    have := s.2.1 h hba
    rw [s.1] at this
    cases this

/-- values closer than the old tolerance are now told apart, NaN comes after every number and equals NaN,
+Inf equals +Inf (the three classes that used to break the order) -/
example : compareValues roundF64 (.float (.fin 1) []) (.float (.fin (1 + 1 / 16384)) []) true .num = .less ∧
    compareValues roundF64 (.int 7) (.str (asciiBytes "nan") (some .nan)) true .num = .less ∧
    compareValues roundF64 (.str (asciiBytes "nan") (some .nan)) (.int 7) true .num = .greater ∧
    compareValues roundF64 (.float .nan []) (.str (asciiBytes "NaN") (some .nan)) false .num = .equal ∧
    compareValues roundF64 (.float .pinf []) (.str (asciiBytes "inf") (some .pinf)) false .num = .equal := by
  decide +kernel

def fl (q : Rat) : Val := .float (.fin q) []

/-- HISTORICAL, about the comparator before the fix (`lessOld`, compareFloat with AlmostEquals): it was NOT a
strict weak order.  Witness (all three values and their differences are exact binary64 numbers):
1 ~ 1 + 2⁻¹⁴ ~ 1 + 2⁻¹³ (neighbours differ by 0.000061 < 0.0001) but 1 < 1 + 2⁻¹³ (difference 0.000122). -/
theorem lessOld_not_strict_weak_order_tolerance :
    ¬ ∀ ks : List (Bool × SortOp), IsStrictWeakOrder ks.length (lessOld roundF64 ks) := by
  intro h
  have := (h [(true, .num)] [fl 1] [fl (1 + 1 / 16384)] [fl (1 + 1 / 8192)] rfl rfl rfl).2.2
    (by decide +kernel) (by decide +kernel) (by decide +kernel) (by decide +kernel)
  have h2 : lessOld roundF64 [(true, .num)] [fl 1] [fl (1 + 1 / 8192)] = true := by decide +kernel
  rw [this.1] at h2
  cases h2

/-- HISTORICAL: the strings "nan"/"NaN" rank as numbers and NaN compared GREATER both ways, so it was "equal"
to everything: 1 ~ NaN ~ 2 but 1 < 2. -/
theorem lessOld_not_strict_weak_order_nan :
    ¬ ∀ ks : List (Bool × SortOp), IsStrictWeakOrder ks.length (lessOld roundF64 ks) := by
  intro h
  have := (h [(true, .num)] [.int 1] [.str (asciiBytes "nan") (some .nan)] [.int 2] rfl rfl rfl).2.2
    (by decide +kernel) (by decide +kernel) (by decide +kernel) (by decide +kernel)
  have h2 : lessOld roundF64 [(true, .num)] [.int 1] [.int 2] = true := by decide +kernel
  rw [this.1] at h2
  cases h2

/-- HISTORICAL: +Inf was not equal to itself; descending, `lessOld a a` was true. -/
theorem lessOld_not_irreflexive_inf :
    lessOld roundF64 [(false, .num)] [.float .pinf []] [.float .pinf []] = true := by decide +kernel

/-! ## 3. pages, scroll, head -/

/-- C05.5 `pages_partition`: for every result list and page size k > 0, the pages `take k (drop (i·k) r)`,
i = 0 … n−1, concatenate to r as soon as n·k covers it — every match on exactly one page, in order. -/
theorem pages_partition {α : Type} (r : List α) (k n : Nat) (hn : r.length ≤ n * k) :
    (List.range n).flatMap (fun i => (r.drop (i * k)).take k) = r := by
  rw [Lemmas.C05.pages_eq_take, List.take_of_length_le hn]

/-- enough pages exist: n = ⌈len / k⌉ -/
theorem pages_partition_ceil {α : Type} (r : List α) (k : Nat) (hk : 0 < k) :
    (List.range ((r.length + k - 1) / k)).flatMap (fun i => (r.drop (i * k)).take k) = r :=
  pages_partition r k _ ((Nat.le_mul_iff_le_left hk).mpr (Nat.le_refl _))

/-- C05.5 `scroll_chunk_invariant`: the scroll processor over ANY batching of its input yields `drop from`
of the whole input. -/
theorem scroll_chunk_invariant {α : Type} (from_ : Nat) (batches : List (List α)) :
    (scrollRun from_ batches).flatten = batches.flatten.drop from_ := by
  induction batches generalizing from_ with
  | nil => exact List.drop_nil.symm
  | cons b bs ih =>
    simp only [scrollRun, Lemmas.C05.scrollStep_eq, List.flatten_cons, List.drop_append, ih]

/-- `head n` (no condition) over ANY batching of its input yields `take n` of the whole input. -/
theorem head_chunk_invariant {α : Type} (limit : Nat) (batches : List (List α)) :
    (headRun limit 0 batches).flatten = batches.flatten.take limit :=
  Lemmas.C05.headRun_flatten limit 0 batches

/-- paging with from/size over the whole pipeline = scroll then head: page i of size k is
`take k (drop (i·k) r)` whatever the batching. -/
theorem page_chunk_invariant {α : Type} (from_ size : Nat) (batches : List (List α)) :
    (headRun size 0 (scrollRun from_ batches)).flatten = (batches.flatten.drop from_).take size := by
  rw [head_chunk_invariant, scroll_chunk_invariant]

/-! ## 4. records with equal timestamps: the order is a function of the data

Paging re-runs the query for every page, so `pages_partition` speaks about the real server only if every
run releases the SAME sequence.  Before the repair the order among records with equal timestamps depended
on map iteration order and goroutine scheduling (sortRRCs compared timestamps only, sort.Slice is not
stable, the segments of a batch were read in map order): an event could appear on two pages and another on
none.  After the repair sortRRCs compares (timestamp, block number, record number). -/

/-- the repaired comparator is a strict order … -/
theorem rrcBefore_irrefl (m : Mode) (a : PosRec) : rrcBefore m a a = false :=
  (Lemmas.C05.rrcBefore_strictTotal m).irrefl a

theorem rrcBefore_trans (m : Mode) (a b c : PosRec)
    (h1 : rrcBefore m a b = true) (h2 : rrcBefore m b c = true) : rrcBefore m a c = true :=
  (Lemmas.C05.rrcBefore_strictTotal m).trans a b c h1 h2

/-- … that is total on records at different positions (two records of a segment never share block AND
record number) -/
theorem rrcBefore_total (m : Mode) (a b : PosRec) (h : a ≠ b) :
    rrcBefore m a b = true ∨ rrcBefore m b a = true :=
  (Lemmas.C05.rrcBefore_strictTotal m).total a b h

/-- C05.6 — whatever order the records of a segment come in (goroutine scheduling of the raw search) and
whatever sorting algorithm is used (sort.Slice is not stable): two results without inversion under the
repaired comparator that hold the same records are THE SAME list.  So the slice `sortRRCs` returns is a
function of the set of matching records. -/
theorem sortRRCs_result_unique (m : Mode) (l₁ l₂ : List PosRec)
    (hnd : l₁.Nodup) (hp : l₁.Perm l₂)
    (h₁ : SortedUnder (rrcBefore m) l₁) (h₂ : SortedUnder (rrcBefore m) l₂) : l₁ = l₂ :=
  -- core's uniqueness of sorted permutations asks for antisymmetry only; `hnd` is not needed
  hp.eq_of_pairwise (le := fun a b => rrcBefore m b a = false) (fun a b _ _ hab hba =>
    Decidable.byContradiction fun hne => (rrcBefore_total m a b hne).elim
      (fun h => nomatch h.symm.trans hba) (fun h => nomatch h.symm.trans hab)) h₁ h₂

/-- … which was false of the comparator before the repair: two records of one block with the same timestamp
may come out in either order. -/
theorem sortRRCs_old_result_not_unique :
    ¬ ∀ (m : Mode) (l₁ l₂ : List PosRec), l₁.Nodup → l₁.Perm l₂ →
        SortedUnder (rrcBeforeOld m) l₁ → SortedUnder (rrcBeforeOld m) l₂ → l₁ = l₂ := by
  intro h
  have := h .recentFirst [⟨5, 0, 0⟩, ⟨5, 0, 1⟩] [⟨5, 0, 1⟩, ⟨5, 0, 0⟩] (by decide)
    (List.Perm.swap _ _ _) (by unfold SortedUnder; decide) (by unfold SortedUnder; decide)
  exact absurd this (by decide)

end SigModel.Props.C05
