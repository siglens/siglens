/-
C01 — Log ingest→query round trip is lossless and exact.  Property theorems only (kernel part).

What is proved here, for ALL inputs, about the model `SigModel/Model/Tlv.lean` (tied to /repo by the
regenerated type tags and by the byte-for-byte correspondence run of suite `tlv`):
  1. one value:      decode (encode v ++ anything) = v                      (guard: string < 65536 bytes)
  2. one column:     any sequence of ReadRecord calls returns exactly the requested records
  3. the consistent-length shortcut agrees with the forward scan whenever the segment metadata may offer it
  4. dictionary:     ReadDictEnc (PackDictEnc d) gives every record number its word
  5. timestamps:     the block decodes to the timestamps written
and the composition 1–3 over the filling of a column with absent / null / late values (`column_roundtrip`);
  6. a SEGMENT OF SEVERAL BLOCKS (`Model/TlvSeg.lean`, suite `tlvseg`): the record length the segment finally
     advertises is sound for every block, for every segment and every sequence of seeks (`segment_roundtrip`);
     counterexample theorem for the writer before fix b7f8683 (`segment_roundtrip_old_counterexample`).
At the end: the block bookkeeping of the flush (`flush_bookkeeping`, with the counterexample for the writer as found).
The unguarded statements are FALSE where the uint16 length wraps; the counterexample theorems record exactly
where, and `wf_of_max_record_size` shows the guard is implied by the ingest limit MAX_RECORD_SIZE.
The end-to-end part of C01 (flattening of the JSON document, the path from the HTTP handler to the segment files) is
decided by the differential suite `e2e_c01`, not here.
-/
import SigModel.Model.Tlv
import SigModel.Lemmas.C01
import SigModel.Lemmas.C01b
import SigModel.Lemmas.C01c
import SigModel.Lemmas.C01d
import SigModel.Model.TlvSeg
import SigModel.Lemmas.C01seg

namespace SigModel.Props.C01
open SigModel.Tlv
open SigModel.Lemmas.C01 (wfDec dictKind EntryOk DictWordOk getB)

-- Several statements below carry a guard (`hwf`, `hc`/`hc2`) that their proofs do not use: the reader's framing is
-- right for every value the writer emits, well-formed or not (`Lemmas.C01.recLen_encTLV`); the guard is what the
-- DECODING of the record needs (`decTLV_encTLV`).

/-! ## 1. one value -/

/-- C01.1 Every well-formed value (string shorter than 65536 bytes, number within its width) is decoded back
exactly from the bytes the writer produced, whatever bytes follow it in the column. -/
theorem decTLV_encTLV (v : Val) (r : Bytes) (h : wf v) : decTLV (encTLV v ++ r) = some (v, r) :=
  Lemmas.C01.decTLV_encTLV v r h

/-- C01.1 without the guard is false: a string of 65536 bytes is written with length field 0 and NO payload
(`uint16(len)` in parseSingleString, `val[:n]` in doLogEventFilling) and reads back as the empty string. -/
theorem decTLV_encTLV_counterexample : ¬ (∀ (v : Val) (r : Bytes), decTLV (encTLV v ++ r) = some (v, r)) := by
  intro h
  have h1 := h (.str (List.replicate 65536 0)) []
  rw [Lemmas.C01.decTLV_encTLV_norm] at h1
  have := congrArg List.length (Val.str.inj (Prod.mk.inj (Option.some.inj h1)).1)
  rw [List.length_take, List.length_replicate] at this
  -- the lengths: 0 bytes read back, 65536 written
  cases this

/-- the ingest limit implies the guard: a value inside a JSON document of at most MAX_RECORD_SIZE (= 63000)
bytes is well-formed. Only the Elasticsearch bulk handler enforces that limit (the single-document handler compares
the number of root keys with it; HEC, Loki and OTLP check nothing); since fix cd879a3 the JSON parser of the writer
(logpacker.go, `maxStringValueLen`) refuses a string value of more than 65532 bytes on every entry point. -/
theorem wf_of_max_record_size (s : Bytes) (h : s.length ≤ maxRecordSize) : wf (.str s) :=
  Nat.lt_of_le_of_lt h (by decide)

/-- C01.1 (query side) `GetCvalFromRec` returns the value's enclosure and the record length. Guard: the
string is at most 65532 bytes (the end index `strlen + 3` is a uint16). -/
theorem getCval_encTLV (v : Val) (r : Bytes) (h : wfDec v) :
    getCval (encTLV v ++ r) = .ok (cvalOf v, (encTLV v).length) := by
  cases v with
  | str s =>
    have h2 : s.length < 65536 := Nat.lt_of_le_of_lt (Nat.le_add_right _ 3) h
    rw [Lemmas.C01.getCval_str s r h2, Nat.mod_eq_of_lt h, if_neg (Nat.not_lt.mpr (Nat.le_add_left 3 _)),
      Lemmas.C01.encTLV_str_length s h2, Nat.add_comm]
    rfl
  | bool b => cases b <;> rfl
  | num k bits =>
    simp [getCval, encTLV, Lemmas.C01.tag_ne k, Lemmas.C01.kindOfTag_tag, cvalOf, Lemmas.C01.leN_length,
      Lemmas.C01.rdN_leN _ _ _ h, Nat.add_comm]
  | backfill => rfl

/-- …and without that guard it is false: a well-formed string of 65533 bytes makes `GetCvalFromRec` panic
(`rec[3:0]`). Such a string cannot be ingested through the size-checked entry points. -/
theorem getCval_wrap_counterexample :
    ¬ (∀ (v : Val) (r : Bytes), wf v → getCval (encTLV v ++ r) = .ok (cvalOf v, (encTLV v).length)) := by
  intro h
  have hlen : (List.replicate 65533 0).length = 65533 := List.length_replicate
  have hlt : (List.replicate 65533 0).length < 65536 := by rw [hlen]; decide
  have h1 := h (.str (List.replicate 65533 0)) [] hlt
  rw [Lemmas.C01.getCval_str _ [] hlt, hlen] at h1
  cases h1

theorem wfDec_of_max_record_size (s : Bytes) (h : s.length ≤ maxRecordSize) : wfDec (.str s) :=
  Nat.lt_of_le_of_lt (Nat.add_le_add_right h 3) (by decide)

/-- the enclosure (dtype + int64/uint64/float bits/string/bool) determines the stored value within its kind:
nothing is lost by the sign extension of the narrow kinds -/
theorem cvalOf_injective (v w : Val) (hv : wf v) (hw : wf w)
    (hk : ∀ k bits k' bits', v = .num k bits → w = .num k' bits' → k = k') (h : cvalOf v = cvalOf w) : v = w := by
  cases v with
  | num k a =>
    obtain ⟨k', b, rfl⟩ := Lemmas.C01.num_of_cvalOf_eq k a w h
    cases hk k a k' b rfl rfl
    rw [Lemmas.C01.cvalOfNum_inj k a b hv hw h]
  | _ =>
    cases w with
    | num k b => obtain ⟨_, _, e⟩ := Lemmas.C01.num_of_cvalOf_eq k b _ h.symm; cases e
    | _ => cases h <;> rfl

/-! ## 2. one column, any seek order -/

/-- C01.2 In a column of well-formed values, the forward scan finds record `i`: exactly the bytes written for
value `i`, for every column and every index. -/
theorem seek_encCol (vs : List Val) (i : Nat) (hi : i < vs.length) (hwf : ∀ v ∈ vs, wf v) :
    seek (encCol vs) i = some (encTLV vs[i]) :=
  Lemmas.C01.seekConst_good (c := 0) rfl (Lemmas.C01.lenOk_zero vs) i hi

/-- C01.2 (state-carrying) ANY sequence of `ReadRecord` calls on one reader — forward, backward, repeated —
returns exactly the requested records: no value migrates to another record. `c` is whatever hint the
reader was given that does not enable the shortcut (0 or INCONSISTENT). -/
theorem readMany_encCol (vs : List Val) (c : Nat) (hc : c = 0 ∨ c = inconsistent) (hwf : ∀ v ∈ vs, wf v)
    (ns : List Nat) (hns : ∀ n ∈ ns, n < vs.length) (hne : vs ≠ []) :
    ∃ st, Rd.init (encCol vs) c = .ok st ∧ st.readMany ns = ns.map (fun n => .ok (encTLV (vs[n]!))) := by
  have hl : Lemmas.C01.LenOk vs c := hc.elim (· ▸ Lemmas.C01.lenOk_zero vs) (· ▸ Lemmas.C01.lenOk_inconsistent vs)
  exact Lemmas.C01.readMany_init hl (List.length_pos_iff.mpr hne) ns hns

/-! ## 3. the consistent-length shortcut -/

/-- C01.3 If every record of the column has the same encoded length `c` (0 < c ≠ INCONSISTENT), the shortcut
(record `i` at offset `i*c`) returns record `i` — parsing no record but the first, which `unpackRawCsg` measures to
check the hint. -/
theorem seekConst_sound (vs : List Val) (c i : Nat) (hc : 0 < c) (hc2 : c ≠ inconsistent)
    (hall : ∀ v ∈ vs, (encTLV v).length = c) (hi : i < vs.length) :
    seekConst c (encCol vs) i = some (encTLV vs[i]) :=
  Lemmas.C01.seekConst_good (Lemmas.C01.checkedLen_ok vs c (Nat.zero_lt_of_lt hi) (Or.inr hall))
    (Lemmas.C01.lenOk_of_forall hall) i hi

/-- hence the shortcut agrees with the forward scan -/
theorem seekConst_eq_seek (vs : List Val) (c i : Nat) (hc : 0 < c) (hc2 : c ≠ inconsistent)
    (hall : ∀ v ∈ vs, (encTLV v).length = c) (hwf : ∀ v ∈ vs, wf v) (hi : i < vs.length) :
    seekConst c (encCol vs) i = seek (encCol vs) i :=
  (seekConst_sound vs c i hc hc2 hall hi).trans (seek_encCol vs i hi hwf).symm

/-- The READER's precondition "every record has length c" is necessary: handed a length that is not the length
of every record, the shortcut returns bytes that are not the record. (Witness: the stored column "abcdef",
"12", "ghijkl" with length 9.) The reader is unchanged by fix 59208af; what the fix establishes is that the
writer never advertises such a length — see `flush_roundtrip` and, for the behaviour before the fix,
`storedHintOld_counterexample`. -/
theorem seekConst_stale_hint_counterexample :
    ¬ (∀ (vs : List Val) (c i : Nat), 0 < c → c ≠ inconsistent → (∀ v ∈ vs, wf v) → i < vs.length →
        seekConst c (encCol vs) i = seek (encCol vs) i) := fun h =>
  absurd (h [.str [97, 98, 99, 100, 101, 102], .str [49, 50], .str [103, 104, 105, 106, 107, 108]] 9 2
    (Nat.zero_lt_succ 8) (by decide) (by decide +kernel) (Nat.lt_succ_self 2)) (by decide +kernel)

/-- C01.3 (fix 42015c5) A WRONG hint whose value differs from the length of the block's FIRST record is harmless:
`unpackRawCsg` measures the first record by its own encoding, drops the hint and reads every record's length from
the record — the shortcut then returns exactly what the forward scan returns, for every column of well-formed
values, every usable `c` and every index.  (What remains is `seekConst_stale_hint_counterexample`: a wrong hint
that happens to be the length of the first record.) -/
theorem seekConst_wrong_hint_detected_at_first_record (vs : List Val) (c i : Nat) (hc : 0 < c) (hc2 : c ≠ inconsistent)
    (hwf : ∀ v ∈ vs, wf v) (hi : i < vs.length) (hne : (encTLV (vs[0]'(by omega))).length ≠ c) :
    seekConst c (encCol vs) i = seek (encCol vs) i ∧ seekConst c (encCol vs) i = some (encTLV vs[i]) := by
  have hck : checkedLen (encCol vs) c = inconsistent := by
    rw [Lemmas.C01.checkedLen_encCol vs c (Nat.zero_lt_of_lt hi), if_pos ⟨hc, hc2⟩, if_neg hne]
  have h2 := Lemmas.C01.seekConst_good hck (Lemmas.C01.lenOk_inconsistent vs) i hi
  exact ⟨h2.trans (seek_encCol vs i hi hwf).symm, h2⟩

/-- before fix 42015c5 such a hint was used as it came: the shortcut of that time returns bytes that are not the
record (hint 5 on two 9-byte numbers) -/
example : seekConstOld 5 (encCol [.num .i64 1, .num .i64 2]) 1 ≠ seek (encCol [.num .i64 1, .num .i64 2]) 1 ∧
    seekConst 5 (encCol [.num .i64 1, .num .i64 2]) 1 = seek (encCol [.num .i64 1, .num .i64 2]) 1 := by decide +kernel

/-- what the writer's per-segment size says: a consistent size `c` is only ever reported when the column
existed from the segment's first record and every record appended had size `c` -/
theorem seenSize_consistent (firstRec : Nat) (sizes : List Nat) (c : Nat) (hc : c ≠ inconsistent)
    (h : seenSize firstRec sizes = some c) : firstRec = 0 ∧ ∀ s ∈ sizes, s = c :=
  Lemmas.C01.seenSize_consistent firstRec sizes c hc h

/-- C01.1–3 composed over the FILLING of a column: events that carry the value, carry null, or lack the column
(also a column that first appears late in the block) — the column bytes are exactly one record per event
(absent = null = back-fill), and reading with the size hint the writer recorded returns, for any sequence
of seeks, the record of the event asked for. -/
theorem column_roundtrip (lim : Nat) (evs : List (Option Val)) (hsome : ∃ v ∈ evs, v.isSome)
    (hwf : ∀ v ∈ evs, ∀ x, v = some x → wf x) (ns : List Nat) (hns : ∀ n ∈ ns, n < evs.length) :
    let st := fillCol lim evs
    let hint := (seenSize st.firstRec st.sizes).getD inconsistent
    st.buf = encCol (evs.map getB) ∧
    ∃ rd, Rd.init st.buf hint = .ok rd ∧
      rd.readMany ns = ns.map (fun n => .ok (encTLV (getB (evs[n]!)))) := by
  intro st hint
  have hany := List.any_eq_true.mpr hsome
  have inv := Lemmas.C01.fillCol_inv lim evs
  have hbuf : st.buf = encCol (evs.map getB) := inv.buf (inv.seen.trans hany)
  have hlen : (evs.map getB).length = evs.length := List.length_map _
  obtain ⟨rd, hinit, hrd⟩ := Lemmas.C01.readMany_init (Lemmas.C01.lenOk_fillCol lim evs hany)
    (hlen ▸ Lemmas.C01.length_pos_of_any hany) ns (hlen ▸ hns)
  refine ⟨hbuf, rd, hbuf ▸ hinit, ?_⟩
  simp only [hrd, Lemmas.C01.getElem!_map_getB]

/-- C01.3 at FLUSH (fix 59208af mirrored): a column that has both a bloom and a range index in the block
(`mixed`) is rewritten by the type consolidation — and is first marked as having inconsistent record
lengths; any other column is stored as filled and keeps the size recorded at ingest. In both cases the
length the segment advertises (`storedHint`) is sound for the STORED records: any sequence of seeks over the
stored block returns exactly the stored record asked for, and the block has one record per event.
(`mixed` is universally quantified: the statement does not depend on how the block decides it.) -/
theorem flush_roundtrip (lim : Nat) (evs : List (Option Val)) (hsome : ∃ v ∈ evs, v.isSome)
    (hwf : ∀ v ∈ evs, ∀ x, v = some x → wf x) (mixed : Bool) (ns : List Nat) (hns : ∀ n ∈ ns, n < evs.length) :
    let st := fillCol lim evs
    let stored := storedVals mixed (evs.map getB)
    stored.length = evs.length ∧
    ∃ rd, Rd.init (encCol stored) (storedHint mixed st) = .ok rd ∧
      rd.readMany ns = ns.map (fun n => .ok (encTLV (stored[n]!))) := by
  intro st stored
  have hany := List.any_eq_true.mpr hsome
  have hlen : stored.length = evs.length := by rw [Lemmas.C01.storedVals_length, List.length_map]
  have hl : Lemmas.C01.LenOk stored (storedHint mixed st) := by
    cases mixed with
    | false => exact Lemmas.C01.lenOk_fillCol lim evs hany
    | true => exact Lemmas.C01.lenOk_inconsistent _
  exact ⟨hlen, Lemmas.C01.readMany_init hl (hlen ▸ Lemmas.C01.length_pos_of_any hany) ns (hlen ▸ hns)⟩

/-- Before fix 59208af the size recorded at ingest was advertised unchanged (`storedHintOld`), and the statement
of `flush_roundtrip` was FALSE: "abcdef", 12, "ghijkl" are 9 bytes each at ingest, the consolidation stores
12 as the text "12" (5 bytes), and with the advertised length 9 record 2 is read from the wrong offset.
On the real code this was: a search clause on a rotated segment returned a different event or none. -/
theorem storedHintOld_counterexample :
    ¬ (∀ (lim : Nat) (evs : List (Option Val)) (mixed : Bool) (ns : List Nat),
        (∃ v ∈ evs, v.isSome) → (∀ v ∈ evs, ∀ x, v = some x → wf x) → (∀ n ∈ ns, n < evs.length) →
        ∃ rd, Rd.init (encCol (storedVals mixed (evs.map getB))) (storedHintOld mixed (fillCol lim evs)) = .ok rd ∧
          rd.readMany ns = ns.map (fun n => .ok (encTLV ((storedVals mixed (evs.map getB))[n]!)))) := by
  intro h
  obtain ⟨rd, h1, h2⟩ := h 501
    [some (.str [97, 98, 99, 100, 101, 102]), some (.num .i64 12), some (.str [103, 104, 105, 106, 107, 108])]
    true [2] ⟨_, List.mem_cons_self, rfl⟩ (by decide +kernel) (by decide +kernel)
  obtain rfl : rd = { buf := [2, 6, 0, 97, 98, 99, 100, 101, 102, 2, 2, 0, 49, 50, 2, 6, 0, 103, 104, 105, 106, 107, 108],
                      constLen := 9, recNum := 0, off := 0, recLen := 9 } :=
    Res.ok.inj (h1.symm.trans (by decide +kernel))
  revert h2
  decide +kernel

/-! ## 4. dictionary block -/

/-- every value kind the dictionary reader knows (string ≤ 65532 bytes, bool, int64, float64, back-fill) is
framed correctly as a dictionary word -/
theorem dictWordOk_encTLV (v : Val) (hk : dictKind v) (hw : wfDec v) : DictWordOk (encTLV v) :=
  Lemmas.C01.dictWordOk_of_wf v hk (Lemmas.C01.wf_of_wfDec v hw)

/-- WITH patch c16-5 (the length of a string word is widened before 3 is added) the dictionary reader frames a string
word of EVERY length the two length bytes can say — also 65533..65535 bytes. -/
theorem dictWordOk_str_every_length (s : Bytes) (h : s.length < 65536) : DictWordOk (encTLV (.str s)) :=
  Lemmas.C01.dictWordOk_of_wf (.str s) trivial h

/-- OLD behaviour (before patch c16-5) REFUTED: the sum `3 + length` was taken in uint16, so a string word of 65533
bytes was stepped over as a word of 0 bytes (the reader went on inside the word: the column came back empty, or the
process died with "slice bounds out of range"). -/
theorem dictWord_wrap_old_counterexample :
    ¬ (∀ (s r : Bytes), s.length < 65536 → dictWordLenOld (encTLV (.str s) ++ r) = .ok (encTLV (.str s)).length) := by
  intro h
  have hlen : (List.replicate 65533 0).length = 65533 := List.length_replicate
  have hlt : (List.replicate 65533 0).length < 65536 := by rw [hlen]; decide
  have h1 := h (List.replicate 65533 0) [] hlt
  rw [(Lemmas.C01.dictWordLen_str _ [] hlt).2, Lemmas.C01.encTLV_str_length _ hlt, hlen] at h1
  exact absurd (Res.ok.inj h1) (by decide)

/-- C01.4 `ReadDictEnc (PackDictEnc d)`: the words come back in order; guards = what the 2-byte fields hold:
fewer than 65536 words, each with fewer than 65536 record numbers below 65536. -/
theorem readDict_packDict (d : Dict) (rc : Nat) (hn : d.length < 65536) (hes : ∀ e ∈ d, EntryOk e) :
    ∃ rd, readDict (packDict d) rc = .ok rd ∧ rd.words = d.map (·.1) ∧ rd.recToWord.length = rc ∧
      (rd.badRec = false ↔ ∀ e ∈ d, ∀ r ∈ e.2, r < rc) := by
  refine ⟨_, Lemmas.C01.readDict_packDict' d rc hn hes, rfl, ?_, ?_⟩
  · rw [Lemmas.C01.tableOf_length, List.length_replicate]
  · exact Lemmas.C01.anyBad_eq_false rc d

/-- C01.4 (records) if no record number is listed under two words, every record number listed under a word
reads back (`deGetRec`) as exactly that word -/
theorem dict_getRec (d : Dict) (rc : Nat) (hn : d.length < 65536) (hes : ∀ e ∈ d, EntryOk e)
    (j : Nat) (hj : j < d.length) (r : Nat) (hr : r ∈ d[j].2) (hrc : r < rc)
    (hdisj : ∀ j', j < j' → (hj' : j' < d.length) → r ∉ d[j'].2) :
    ∃ rd, readDict (packDict d) rc = .ok rd ∧ rd.getRec r = .ok d[j].1 := by
  refine ⟨_, Lemmas.C01.readDict_packDict' d rc hn hes, ?_⟩
  unfold DictRd.getRec
  simp only [Lemmas.C01.tableOf_getElem? rc 0 d _ j hj r hr hrc List.length_replicate hdisj, Nat.zero_add,
    List.getElem?_map, List.getElem?_eq_getElem hj, Option.map_some]

/-- the guard of C01.4 follows from the block limit: record numbers of one word are appended in increasing
order and a block holds at most MAX_RECS_PER_WIP (= 65534) records -/
theorem entry_guard_of_block_limit (rs : List Nat) (rc : Nat) (hrc : rc ≤ maxRecsPerWip)
    (hsorted : rs.Pairwise (· < ·)) (hlt : ∀ r ∈ rs, r < rc) :
    rs.length < 65536 ∧ ∀ r ∈ rs, r < 65536 := by
  have hm : rc < 65536 := Nat.lt_of_le_of_lt hrc (by decide)
  have := Lemmas.C01.length_add_le_of_pairwise_lt rs 0 rc hsorted (Nat.zero_le rc)
    (fun r hr => ⟨Nat.zero_le r, hlt r hr⟩)
  exact ⟨Nat.lt_of_le_of_lt this hm, fun r hr => Nat.lt_trans (hlt r hr) hm⟩

/-- latent asymmetry, recorded: the writer's filling code accepts uint64 values into the dictionary, the
dictionary reader has no uint64 case — such a block would be unreadable. (No ingest path produces uint64
records: JSON numbers become int64 or float64.) -/
theorem dict_uint64_unreadable :
    readDict (packDict [(encTLV (.num .u64 1), [0])]) 1 = .err "bad-encoding" := by
  -- not `decide`: deciding the equation decodes both strings character by character
  rfl

/-! ## 5. timestamp column -/

/-- C01.5 A block whose timestamps all lie between the summary's low and high decodes to exactly the
timestamps written, with the width chosen as the code chooses it. -/
theorem decTs_encTs (low high : Nat) (tss : List Nat) (hlh : low ≤ high) (hh : high < u64)
    (hn : tss.length < 65536) (hb : ∀ t ∈ tss, low ≤ t ∧ t ≤ high) :
    decTs (tsBlock low high tss) tss.length = .ok tss := by
  obtain ⟨w, hw, hpos, hd⟩ := Lemmas.C01.tsWidth_tsType low high hlh hh
  unfold tsBlock encTs
  simp only [hw, Option.getD_some]
  rw [Lemmas.C01.decTs_frame _ w low _ _ hw hpos (Nat.lt_of_le_of_lt hlh hh)
      (Lemmas.C01.flatMap_length_const _ w tss fun a => Lemmas.C01.leN_length w _) hn,
    Lemmas.C01.rdMany_enc w low tss fun t ht =>
      ⟨(hb t ht).1, Nat.lt_of_le_of_lt (hb t ht).2 hh, Nat.lt_of_le_of_lt (Nat.sub_le_sub_right (hb t ht).2 low) hd⟩]

/-- C01.5 composed: the timestamps of any block of positive uint64 timestamps (at most 65535 records) come back
exactly, in order -/
theorem ts_roundtrip (tss : List Nat) (hne : tss ≠ []) (hpos : ∀ t ∈ tss, 0 < t) (hB : ∀ t ∈ tss, t < u64)
    (hn : tss.length < 65536) :
    decTs (tsBlock (blockLowHigh tss).1 (blockLowHigh tss).2 tss) tss.length = .ok tss := by
  obtain ⟨_, a, b, c⟩ := Lemmas.C01.blockLowHigh_bounds tss hne hpos u64 hB
  exact decTs_encTs _ _ tss a b hn c

/-- without "positive" it is false: 0 means "not set" in the summary, so the history 5, 0, 3 ends with low = 3
although 0 is in the block. (Unreachable from ingest: `GetNewPLE` replaces a zero timestamp by "now".) -/
theorem ts_zero_counterexample :
    ¬ (∀ (tss : List Nat), tss ≠ [] → (∀ t ∈ tss, t < u64) → tss.length < 65536 →
        decTs (tsBlock (blockLowHigh tss).1 (blockLowHigh tss).2 tss) tss.length = .ok tss) := fun h =>
  absurd (h [5, 0, 3] (List.cons_ne_nil 5 _) (by decide +kernel) (by decide +kernel)) (by decide +kernel)

/-! ## non-vacuity -/

example : wf (.str [104, 105]) ∧ wf (.num .i8 255) ∧ ¬ wf (.num .i8 256) ∧ wf .backfill := by decide +kernel

example : decTLV (encTLV (.num .i64 18446744073709551615) ++ [7]) = some (.num .i64 18446744073709551615, [7]) ∧
    cvalOf (.num .i64 18446744073709551615) = .signed (-1) := by decide +kernel

example : seek (encCol [.str [97], .backfill, .bool true, .num .f64 0]) 2 = some [1, 1] := by decide +kernel

example : seekConst 9 (encCol [.num .i64 1, .num .f64 2, .str [97, 98, 99, 100, 101, 102]]) 2
    = some (encTLV (.str [97, 98, 99, 100, 101, 102])) := by decide +kernel

example : (fillCol 501 [none, some (.num .i64 5), none]).buf = [19, 16, 5, 0, 0, 0, 0, 0, 0, 0, 19] ∧
    seenSize (fillCol 501 [none, some (.num .i64 5), none]).firstRec (fillCol 501 [none, some (.num .i64 5), none]).sizes
      = some inconsistent := by decide +kernel

example : consolidate [.str [97, 98, 99, 100, 101, 102], .num .i64 12, .backfill]
      = [.str [97, 98, 99, 100, 101, 102], .str [49, 50], .backfill] ∧
    consolidate [.str [45, 55], .num .i64 12] = [.num .i64 18446744073709551609, .num .i64 12] ∧
    isMixed [some (.str [97]), none, some (.num .i64 1)] = true ∧ isMixed [some (.str [97]), none] = false := by decide +kernel

example : storedHint true (fillCol 501 [some (.str [97, 98, 99, 100, 101, 102]), some (.num .i64 12)]) = inconsistent ∧
    storedHintOld true (fillCol 501 [some (.str [97, 98, 99, 100, 101, 102]), some (.num .i64 12)]) = 9 := by decide +kernel

example : EntryOk ([19], [0, 2]) ∧ EntryOk (encTLV (.bool true), [1]) := by
  refine ⟨⟨dictWordOk_encTLV .backfill trivial trivial, by decide, by decide⟩,
          ⟨dictWordOk_encTLV (.bool true) trivial trivial, by decide, by decide⟩⟩

example : readDict (packDict [([19], [0, 2]), ([1, 1], [1])]) 3
    = .ok { words := [[19], [1, 1]], recToWord := [0, 1, 0], badRec := false } := by decide +kernel

example : blockLowHigh [1000, 900, 1300] = (900, 1300) ∧
    decTs (tsBlock 900 1300 [1000, 900, 1300]) 3 = .ok [1000, 900, 1300] := by decide +kernel

/-! ## 6. a segment of several blocks

`Model/TlvSeg.lean`: a segment is a list of blocks, a block the list of the column's values, one per event
(`none` = the event lacks the column).  The record length the segment advertises (`SegSt.hint`, i.e.
`AllSeenColumnSizes[col]` → `SegMeta.ColumnNames[col].ConsistentCvalSize`) and the segment's `RecordCount` live
across the blocks; the column buffer, its dictionary, `columnsInBlock` and the block's record number are per block. -/

/-- The statement of C01.6 for a given writer `w` (the fixed one, `writeSeg`, or the one before fix b7f8683,
`writeSegOld`): for EVERY cardinality limit and EVERY segment of well-formed values — any number of blocks, the
column present, null, absent from single events, appearing late in a block, absent from whole blocks, with
records of equal or different lengths — EVERY block `j` in which the column occurs was handed to the block
writer as exactly one record per event of that block (`stored`: the values as filled, or their type consolidation
when the block was rewritten at its flush), and the raw reader, given that block and the record length the segment
FINALLY advertises, answers ANY sequence of record seeks with exactly the record of the event asked for. -/
def SegmentRoundtripWith (init : Bytes → Nat → Res Rd) (w : Nat → List (List (Option Val)) → SegSt) : Prop :=
  ∀ (lim : Nat) (seg : List (List (Option Val))), (∀ evs ∈ seg, ∀ v ∈ evs, ∀ x, v = some x → wf x) →
    ∀ (j : Nat) (hj : j < seg.length), (∃ v ∈ seg[j], v.isSome) →
    ∀ (ns : List Nat), (∀ n ∈ ns, n < seg[j].length) →
      ∃ blk, (w lim seg).blocks[j]? = some blk ∧
        (storedVals blk.mixed (seg[j].map getB)).length = seg[j].length ∧
        blk.buf = encCol (storedVals blk.mixed (seg[j].map getB)) ∧
        ∃ rd, init blk.buf (w lim seg).hint = .ok rd ∧
          rd.readMany ns = ns.map (fun n => .ok (encTLV ((storedVals blk.mixed (seg[j].map getB))[n]!)))

/-- … with the block reader as it is (`Rd.init` = `unpackRawCsg` since fix 42015c5) -/
def SegmentRoundtrip (w : Nat → List (List (Option Val)) → SegSt) : Prop := SegmentRoundtripWith Rd.init w

/-- C01.6 Multi-block round trip of a column (writer as it is after fix b7f8683): see `SegmentRoundtrip`.
Composition of C01.1–3 (`readMany`/`seekConst` lemmas) with an invariant over ALL events and flushes of the
segment: whenever the advertised length is a genuine size `c`, every record of every block that has the column
is `c` bytes long and no block was rewritten by the consolidation. -/
theorem segment_roundtrip (lim : Nat) (seg : List (List (Option Val)))
    (hwf : ∀ evs ∈ seg, ∀ v ∈ evs, ∀ x, v = some x → wf x)
    (j : Nat) (hj : j < seg.length) (hsome : ∃ v ∈ seg[j], v.isSome)
    (ns : List Nat) (hns : ∀ n ∈ ns, n < seg[j].length) :
    ∃ blk, (writeSeg lim seg).blocks[j]? = some blk ∧
      (storedVals blk.mixed (seg[j].map getB)).length = seg[j].length ∧
      blk.buf = encCol (storedVals blk.mixed (seg[j].map getB)) ∧
      ∃ rd, Rd.init blk.buf (writeSeg lim seg).hint = .ok rd ∧
        rd.readMany ns = ns.map (fun n => .ok (encTLV ((storedVals blk.mixed (seg[j].map getB))[n]!))) :=
  Lemmas.C01.segInv_read (Lemmas.C01.writeSeg_inv lim seg) (List.getElem?_eq_getElem hj) (List.any_eq_true.mpr hsome) ns hns

/-- `segment_roundtrip` is the statement `SegmentRoundtrip` for the fixed writer -/
theorem segment_roundtrip_stmt : SegmentRoundtrip writeSeg :=
  fun lim seg hwf j hj hsome ns hns => segment_roundtrip lim seg hwf j hj hsome ns hns

/-- For a block that was not rewritten at its flush the record returned is the encoding of the event's own value
(absent = null = the back-fill record). -/
theorem segment_roundtrip_plain (lim : Nat) (seg : List (List (Option Val)))
    (hwf : ∀ evs ∈ seg, ∀ v ∈ evs, ∀ x, v = some x → wf x)
    (j : Nat) (hj : j < seg.length) (hsome : ∃ v ∈ seg[j], v.isSome)
    (ns : List Nat) (hns : ∀ n ∈ ns, n < seg[j].length) :
    ∃ blk, (writeSeg lim seg).blocks[j]? = some blk ∧ (blk.mixed = false →
      ∃ rd, Rd.init blk.buf (writeSeg lim seg).hint = .ok rd ∧
        rd.readMany ns = ns.map (fun n => .ok (encTLV (getB (seg[j][n]!))))) := by
  obtain ⟨blk, h1, _, _, rd, h4, h5⟩ := segment_roundtrip lim seg hwf j hj hsome ns hns
  refine ⟨blk, h1, fun hm => ⟨rd, h4, ?_⟩⟩
  rw [h5, hm]
  simp only [storedVals, Bool.false_eq_true, if_false, Lemmas.C01.getElem!_map_getB]

/-- The same holds WHILE a further block is being filled (events `tail` after the last flush): the length
advertised at that moment is sound for every block flushed so far. -/
theorem segment_roundtrip_open (lim : Nat) (seg : List (List (Option Val))) (tail : List (Option Val))
    (hwf : ∀ evs ∈ seg, ∀ v ∈ evs, ∀ x, v = some x → wf x)
    (j : Nat) (hj : j < seg.length) (hsome : ∃ v ∈ seg[j], v.isSome)
    (ns : List Nat) (hns : ∀ n ∈ ns, n < seg[j].length) :
    ∃ blk, ((writeSeg lim seg).fillOpen lim tail).blocks[j]? = some blk ∧
      blk.buf = encCol (storedVals blk.mixed (seg[j].map getB)) ∧
      ∃ rd, Rd.init blk.buf ((writeSeg lim seg).fillOpen lim tail).hint = .ok rd ∧
        rd.readMany ns = ns.map (fun n => .ok (encTLV ((storedVals blk.mixed (seg[j].map getB))[n]!))) := by
  obtain ⟨blk, h1, _, h3, h4⟩ :=
    Lemmas.C01.segInv_read (Lemmas.C01.writeSeg_open_inv lim seg tail) (List.getElem?_eq_getElem hj)
      (List.any_eq_true.mpr hsome) ns hns
  exact ⟨blk, h1, h3, h4⟩

/-- what a genuine advertised size means for the whole segment: every record of every block in which the column
occurs has that length, and none of these blocks was rewritten by the type consolidation -/
theorem segment_hint_consistent (lim : Nat) (seg : List (List (Option Val))) (c : Nat)
    (h : (writeSeg lim seg).size = some c) (hc : c ≠ inconsistent) :
    (∀ evs ∈ seg, (∃ v ∈ evs, v.isSome) → ∀ v ∈ evs, (encTLV (getB v)).length = c) ∧
    ∀ b ∈ (writeSeg lim seg).blocks, b.mixed = false := by
  obtain ⟨hmix, _, hlen⟩ := (Lemmas.C01.writeSeg_inv lim seg).sized c hc (congrArg (·.getD c) h)
  exact ⟨fun evs he hsome => hlen evs he (List.any_eq_true.mpr hsome), hmix⟩

/-- a block in which no event carries the column has no bytes for it (AppendWipToSegfile does not write the
column for that block), and there is one entry per block -/
theorem segment_absent_block (lim : Nat) (seg : List (List (Option Val))) :
    (writeSeg lim seg).blocks.length = seg.length ∧
    ∀ (j : Nat) (hj : j < seg.length), (¬ ∃ v ∈ seg[j], v.isSome) →
      ∃ blk, (writeSeg lim seg).blocks[j]? = some blk ∧ blk.buf = [] := by
  have inv := Lemmas.C01.writeSeg_inv lim seg
  refine ⟨inv.nblocks, fun j hj hno => ?_⟩
  obtain ⟨blk, hblk, hbuf⟩ := Lemmas.C01.segInv_block inv (List.getElem?_eq_getElem hj)
  exact ⟨blk, hblk, by rw [hbuf, if_neg (mt List.any_eq_true.mp hno)]⟩

/-- Before fix b7f8683 the statement was FALSE (`writeSegOld`: backFillPastRecords did not report the 1-byte
back-fill records to AllSeenColumnSizes). Witness: cardinality limit 2 (so that block 2 is not dictionary
encoded), block 1 = [{x:2}], block 2 = [{}, {x:0}]. Block 1 gives x the record length 9; in block 2 x is new to
the BLOCK at block record 1, one back-fill byte is written for record 0 without telling the segment, the 9-byte
number agrees with the advertised 9 — the segment advertises 9, and record 1 of block 2 is sought at offset 9 of
a 10-byte block. On the real code: `x<3` on the rotated segment missed the event with x=0.
(Stated for the block reader of that time, `Rd.initOld`. The reader as it is since fix 42015c5 checks the advertised
length against the block's first record — here the 1-byte back-fill record — drops it and finds the record: see
the example below. A block that the old writer mis-advertised always STARTS with such a back-fill record.) -/
theorem segment_roundtrip_old_counterexample : ¬ SegmentRoundtripWith Rd.initOld writeSegOld := by
  intro h
  obtain ⟨blk, h1, _, _, rd, h2, h3⟩ := h 2 [[some (.num .i64 2)], [none, some (.num .i64 0)]]
    (by decide +kernel) 1 (by decide +kernel) ⟨some (.num .i64 0), by decide +kernel, rfl⟩ [1] (by decide +kernel)
  obtain rfl : blk = { mixed := false, buf := [19, 16, 0, 0, 0, 0, 0, 0, 0, 0], de := 2 } :=
    Option.some.inj (h1.symm.trans (by decide +kernel))
  obtain rfl : rd = { buf := [19, 16, 0, 0, 0, 0, 0, 0, 0, 0], constLen := 9, recNum := 0, off := 0, recLen := 9 } :=
    Res.ok.inj (h2.symm.trans (by decide +kernel))
  revert h3
  decide +kernel

/-- the same witness with the reader as it is now: the stale length 9 of the old writer is dropped at the first
record (1 byte) and record 1 of block 2 is found -/
example : seekConst 9 [19, 16, 0, 0, 0, 0, 0, 0, 0, 0] 1 = some (encTLV (.num .i64 0)) ∧
    seekConstOld 9 [19, 16, 0, 0, 0, 0, 0, 0, 0, 0] 1 ≠ some (encTLV (.num .i64 0)) := by decide +kernel

/-- the fixed writer on the same witness: the segment advertises INCONSISTENT and record 1 of block 2 is found -/
example : (writeSeg 2 [[some (.num .i64 2)], [none, some (.num .i64 0)]]).hint = inconsistent ∧
    (writeSeg 2 [[some (.num .i64 2)], [none, some (.num .i64 0)]]).blocks.map (·.buf)
      = [[16, 2, 0, 0, 0, 0, 0, 0, 0], [19, 16, 0, 0, 0, 0, 0, 0, 0, 0]] ∧
    seekConst inconsistent [19, 16, 0, 0, 0, 0, 0, 0, 0, 0] 1 = some (encTLV (.num .i64 0)) := by decide +kernel

/-- non-vacuity, genuine consistent size over three blocks (numbers, then a block WITHOUT the column, then
6-byte strings: all records 9 bytes; the column starts every block it occurs in at record 0): the segment
advertises 9 and the shortcut finds record 1 of block 3 -/
example : (writeSeg 501 [[some (.num .i64 1), some (.num .i64 2)], [none, none],
        [some (.str [97, 98, 99, 100, 101, 102]), some (.str [103, 104, 105, 106, 107, 108])]]).hint = 9 ∧
    (writeSeg 501 [[some (.num .i64 1), some (.num .i64 2)], [none, none],
        [some (.str [97, 98, 99, 100, 101, 102]), some (.str [103, 104, 105, 106, 107, 108])]]).blocks.map (·.buf)
      = [[16, 1, 0, 0, 0, 0, 0, 0, 0, 16, 2, 0, 0, 0, 0, 0, 0, 0], [],
         [2, 6, 0, 97, 98, 99, 100, 101, 102, 2, 6, 0, 103, 104, 105, 106, 107, 108]] ∧
    seekConst 9 [2, 6, 0, 97, 98, 99, 100, 101, 102, 2, 6, 0, 103, 104, 105, 106, 107, 108] 1
      = some (encTLV (.str [103, 104, 105, 106, 107, 108])) := by decide +kernel

/-- non-vacuity, inconsistent size over two blocks: (a) the column disappears from the events of block 2 after its
first record, (b) a block with a string and a number is rewritten at its flush and marked — in both cases the
segment advertises INCONSISTENT -/
example : (writeSeg 501 [[some (.num .i64 1)], [some (.num .i64 2), none]]).hint = inconsistent ∧
    (writeSeg 501 [[some (.num .i64 1)], [some (.num .i64 2), none]]).blocks.map (·.buf)
      = [[16, 1, 0, 0, 0, 0, 0, 0, 0], [16, 2, 0, 0, 0, 0, 0, 0, 0, 19]] ∧
    (writeSeg 501 [[some (.num .i64 1)], [some (.str [97, 98, 99, 100, 101, 102]), some (.num .i64 12)]]).hint
      = inconsistent ∧
    (writeSeg 501 [[some (.num .i64 1)], [some (.str [97, 98, 99, 100, 101, 102]), some (.num .i64 12)]]).blocks.map
        (fun b => (b.mixed, b.buf))
      = [(false, [16, 1, 0, 0, 0, 0, 0, 0, 0]), (true, [2, 6, 0, 97, 98, 99, 100, 101, 102, 2, 2, 0, 49, 50])] := by
  decide +kernel

/-- the bloom of a column outlives the block (resetWipBlock keeps columnBlooms): a block of numbers after a block of
strings is treated as mixed at its flush (rewritten to itself, marked INCONSISTENT, bloom dropped); a third block
of numbers is not -/
example : (writeSeg 501 [[some (.str [97])], [some (.num .i64 5)], [some (.num .i64 6)]]).blocks.map (·.mixed)
      = [false, true, false] ∧
    (writeSeg 501 [[some (.str [97])], [some (.num .i64 5)], [some (.num .i64 6)]]).hint = inconsistent := by decide +kernel

/-! ### the block bookkeeping of the flush (every flush resets the block) -/

/-- The statement for a given step function `run` (fixed: `runBlk`, before the fix of FlushSegStats: `runBlkOld`):
for EVERY history of events (carrying nothing but a timestamp, only nulls, or values) and flushes, the entries of
the .bsu file are exactly the non-empty blocks cut by the flushes — block `b` at position `b`, under the number
`b`, with its record count, each once — `numBlocks` is their number and the open block holds the events since the
last effective flush. In particular the record count the searchers use for block `b` is that of block `b`. -/
def FlushBookkeeping (run : List BlkOp → BlkSt) : Prop :=
  ∀ ops : List BlkOp,
    (run ops).bsu = Lemmas.C01.enumBlocks (cutBlocks ops).1 ∧
    (run ops).numBlocks = (cutBlocks ops).1.length ∧
    (run ops).blkRec = (cutBlocks ops).2 ∧
    ∀ b, b < (cutBlocks ops).1.length → (run ops).readerRecCount b = (cutBlocks ops).1[b]?

/-- C01.6b No block is flushed twice and no flush is lost: `FlushBookkeeping` holds for AppendWipToSegfile as it
is now (step order: block summary, statistics, reset, `numBlocks += 1`; FlushSegStats has no "nothing to write"
error). -/
theorem flush_bookkeeping : FlushBookkeeping runBlk := by
  intro ops
  have inv := Lemmas.C01.runBlk_inv ops
  refine ⟨inv.bsu, inv.nb, inv.recs, fun b hb => ?_⟩
  unfold BlkSt.readerRecCount
  rw [inv.bsu, Lemmas.C01.enumBlocks_getElem?]
  cases (cutBlocks ops).1[b]? <;> simp

/-- Before the fix it was FALSE: FlushSegStats returned "no segstats to flush" while every event of the segment so
far carried only a timestamp, AppendWipToSegfile returned after writing the block summary but before
resetWipBlock / `numBlocks += 1`, and the same block was flushed again under the same number. Witness (replayed
end to end): two timestamp-only events, flush, two events with x, flush, one event with x, flush: the .bsu file
reads (0,2),(0,4),(1,1); the searchers take 2 records for block 0 (it has 4) and 4 for block 1 (it has 1): `*`
returned 2 of 5 events, `x=3` none, `stats count` 5. -/
theorem flush_bookkeeping_old_counterexample : ¬ FlushBookkeeping runBlkOld := fun h =>
  absurd (h [.ev .bare, .ev .bare, .flush, .ev .vals, .ev .vals, .flush, .ev .vals, .flush]).1 (by decide +kernel)

example : (runBlkOld [.ev .bare, .ev .bare, .flush, .ev .vals, .ev .vals, .flush, .ev .vals, .flush]).bsu
      = [(0, 2), (0, 4), (1, 1)] ∧
    (runBlk [.ev .bare, .ev .bare, .flush, .ev .vals, .ev .vals, .flush, .ev .vals, .flush]).bsu
      = [(0, 2), (1, 2), (2, 1)] ∧
    cutBlocks [.ev .bare, .ev .bare, .flush, .flush, .ev .vals, .ev .vals, .flush, .ev .vals] = ([2, 2], 1) := by
  decide +kernel

end SigModel.Props.C01
