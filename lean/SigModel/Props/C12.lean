/-
C12 — Trace views agree with the ingested spans.
Property theorems only.
§1–4 (kernels) are about the Lean model `SigModel.Trace` (Model/Trace.lean), which mirrors `BuildSpanTree`,
`FindPercentileData`/`quickSelect`, the fold of `MakeTracesDependancyGraph` and the fold of
`ProcessRedTracesIngest`; tied to /repo by the correspondence suite `trace`.
§5–8 (end to end) are about `SigModel.TraceE2E` (Model/TraceE2E.lean): the loop of `ProcessTraceIngest` with
`spanToJson`, the three result-paging loops (records decoded one by one), the pages of the trace listing with its
distinct span counts, the dependency graph and the RED collector; tied to /repo by the suite `tracee2e`, which
drives the real ingest and the four real views.

NOT covered here (see `partial` in lib/props.py): the engine's evaluation of the SPL queries the handlers
generate.

Vocabulary (Lemmas/C12c.lean, C12d.lean, C12b.lean, C12f.lean, C12h.lean):
  `wellFormed spans`    unique non-empty ids, every span has a parent entry, exactly one span without parent,
                        every parent chain reaches it (decidable, `Bool`)
  `par m x`             the parent link BuildSpanTree follows for span id `x` in the map `m`
  `up m k x`            k-th ancestor of `x` along `par`
  `crossPairs spans a b` number of (parent span, child span) pairs with services `a`, `b`
  `entryDurs spans svc` durations (ms) of the entry spans of service `svc`, in span order
  `lerp s k`            the interpolation formula of FindPercentileData on the sorted array `s` at index `k`
  `pctIndex p n`        the float64 index `p·(n−1)/100` of FindPercentileData
  `complete r`          the record passes every check of the loop body of ProcessGanttChartRequest
-/
import SigModel.Model.Trace
import SigModel.Lemmas.C12b
import SigModel.Lemmas.C12d
import SigModel.Lemmas.C12f
import SigModel.Lemmas.C12g
import SigModel.Lemmas.C12h
import SigModel.Lemmas.C12i
import SigModel.Lemmas.C05g

namespace SigModel.Props.C12
open SigModel.Trace SigModel.TraceE2E SigModel.Lemmas.C12 List

/-! ## 1. span tree -/

/-- C12.1 For every well-formed trace (any order of the spans, any start times — clock skew included) the
view is produced, contains every span exactly once (the rendered ids are a permutation of the span ids)
and every span other than the root is listed directly beneath its own parent (that the root pair is first is part
of C12.1b). -/
theorem tree_each_span_once (spans : List Span) (pick : Nat) (h : wellFormed spans = true) :
    ∃ view, treeView spans pick = some view ∧
      (view.map Prod.snd) ~ (spans.map (·.id)) ∧
      (∀ e ∈ view, ∃ s ∈ spans, s.id = e.2 ∧ s.parent = e.1) := by
  obtain ⟨view, r, hv, v, hall⟩ := wellFormed_view h pick
  have hnd := (wellFormed_parts h).1
  have hm := toMap_of_nodup hnd
  refine ⟨view, hv, (perm_ext_iff_of_nodup v.nodup hnd).2 fun x => ⟨fun hx => hm ▸ v.mem_ids hx, fun hx => ?_⟩,
    fun e he => ?_⟩
  · obtain ⟨s, hs, rfl⟩ := mem_map.1 hx
    exact hall s hs
  · rcases v.edge e he with rfl | ⟨s, hs, hid, hpar, _⟩
    · exact ⟨r, hm ▸ v.root_mem, rfl, v.root_parent⟩
    · exact ⟨s, hm ▸ hs, hid, hpar⟩

/-- C12.1b (every input, malformed included) Whatever view is returned: no span is rendered twice, every
rendered span is a span of this trace, and every rendered parent/child pair is a real parent link of this
trace (nothing is attributed to a span it does not belong to).  In particular the part of the pointer graph
reachable from the returned root is a finite tree, so marshalling it terminates. -/
theorem tree_view_sound (spans : List Span) (pick : Nat) (view : List (Nat × Nat))
    (h : treeView spans pick = some view) :
    (view.map Prod.snd).Nodup ∧
    (∀ x ∈ view.map Prod.snd, x ∈ (toMap spans).map (·.id)) ∧
    (∃ r ∈ toMap spans, r.parent = 0 ∧ r.noEntry = false ∧ view.head? = some (0, r.id) ∧
      ∀ e ∈ view, e = (0, r.id) ∨
        ∃ s ∈ toMap spans, s.id = e.2 ∧ s.parent = e.1 ∧ e.1 ≠ 0 ∧ ∃ q ∈ toMap spans, q.id = e.1) := by
  obtain ⟨r, v⟩ := view_facts h
  exact ⟨v.nodup, fun _ => v.mem_ids, r, v.root_mem, v.root_parent, v.root_entry, v.head, v.edge⟩

/-- C12.4a exact content of the view for EVERY input: a span is rendered iff its chain of parent links
(entry present, parent id non-empty, parent in the map) reaches the chosen root. -/
theorem tree_view_reachable_iff (spans : List Span) (pick : Nat) (view : List (Nat × Nat))
    (h : treeView spans pick = some view) :
    ∃ r, pickRoot (toMap spans) pick = some r ∧
      ∀ x, x ∈ view.map Prod.snd ↔ ∃ k, k ≤ (toMap spans).length ∧ up (toMap spans) k x = some r.id := by
  obtain ⟨r, v⟩ := view_facts h
  exact ⟨r, v.picked, v.mem_iff⟩

/-- C12.4b parent cycles (2-cycle, self-parent, long cycle): a span that is its own proper ancestor is
never rendered — the view is partial, it is not cyclic. -/
theorem tree_cycle_dropped (spans : List Span) (pick : Nat) (view : List (Nat × Nat))
    (h : treeView spans pick = some view) (x j : Nat) (hc : up (toMap spans) (j + 1) x = some x) :
    x ∉ view.map Prod.snd := by
  obtain ⟨r, v⟩ := view_facts h
  intro hx
  obtain ⟨k, _, hu⟩ := (v.mem_iff x).1 hx
  exact cycle_never_reaches hc (par_eq_none (toMap_nodup spans) v.root_mem (.inr (.inl v.root_parent))) hu

/-- C12.4c missing parent: a span whose parent id is not in the trace (and that is not the chosen root) is
not rendered. -/
theorem tree_missing_parent_dropped (spans : List Span) (pick : Nat) (view : List (Nat × Nat))
    (h : treeView spans pick = some view) (s : Span) (hs : s ∈ toMap spans) (hp : s.parent ≠ 0)
    (hmiss : ∀ q ∈ toMap spans, q.id ≠ s.parent) : s.id ∉ view.map Prod.snd := by
  obtain ⟨r, v⟩ := view_facts h
  exact v.not_mem hs (par_eq_none (toMap_nodup spans) hs (.inr (.inr hmiss))) fun e => hp (e ▸ v.root_parent)

/-- C12.4d several roots: exactly one span with empty parent becomes the root (which one depends on Go's
map iteration order = `pick`); every other span with empty parent — hence its whole subtree, by C12.4a —
is not rendered. -/
theorem tree_other_roots_dropped (spans : List Span) (pick : Nat) (view : List (Nat × Nat))
    (h : treeView spans pick = some view) :
    ∃ r, pickRoot (toMap spans) pick = some r ∧ r.parent = 0 ∧
      ∀ r' ∈ toMap spans, r'.parent = 0 → r' ≠ r → r'.id ∉ view.map Prod.snd := by
  obtain ⟨r, v⟩ := view_facts h
  exact ⟨r, v.picked, v.root_parent, fun r' hr' h0 =>
    v.not_mem hr' (par_eq_none (toMap_nodup spans) hr' (.inr (.inl h0)))⟩

/-- C12.4e no root: if no span has an (entry with an) empty parent — e.g. the root's parent is missing or the
root is part of a cycle — the result is the error "can not find a root span", for every map order. -/
theorem tree_no_root_error (spans : List Span) (pick : Nat)
    (h : ∀ s ∈ toMap spans, s.noEntry = true ∨ s.parent ≠ 0) : treeView spans pick = none := by
  match hv : treeView spans pick with
  | none => rfl
  | some view =>
    obtain ⟨r, v⟩ := view_facts hv
    rcases h r v.root_mem with h1 | h1
    · exact absurd (v.root_entry.symm.trans h1) Bool.false_ne_true
    · exact absurd v.root_parent h1

/-- C12.4f the statement "every span of the trace is rendered" does NOT hold for malformed traces:
with a 2-cycle next to the root the view is partial (spans 2 and 3 are lost) … -/
theorem tree_complete_counterexample :
    ¬ ∀ (spans : List Span) (pick : Nat) (view : List (Nat × Nat)),
        treeView spans pick = some view → view.length = (toMap spans).length := by
  intro h
  have := h [⟨1, 0, false, 1, 10, 20, false⟩, ⟨2, 3, false, 1, 11, 12, false⟩, ⟨3, 2, false, 1, 11, 12, false⟩] 0
    [(0, 1)] (by decide +kernel)
  exact absurd this (by decide +kernel)

/-- … and it DOES hold under the guard `wellFormed` (which excludes exactly the malformed classes). -/
theorem tree_complete_partial (spans : List Span) (pick : Nat) (h : wellFormed spans = true) :
    ∃ view, treeView spans pick = some view ∧ view.length = (toMap spans).length := by
  obtain ⟨view, hv, hperm, _⟩ := tree_each_span_once spans pick h
  refine ⟨view, hv, ?_⟩
  have := hperm.length_eq
  simp only [length_map] at this
  rw [this, toMap_of_nodup (wellFormed_parts h).1]

/-- the children of a span do not depend on which root was taken (map order affects the root only) -/
theorem children_independent_of_root (spans : List Span) (p1 p2 : Nat) (r1 r2 : Nat) (n1 n2 : List Node)
    (h1 : buildTree spans p1 = some (r1, n1)) (h2 : buildTree spans p2 = some (r2, n2)) :
    n1.map (fun n => (n.id, n.kids)) = n2.map (fun n => (n.id, n.kids)) := by
  obtain ⟨s1, rfl⟩ := buildTree_nodes h1
  obtain ⟨s2, rfl⟩ := buildTree_nodes h2
  rw [map_map, map_map]
  rfl

/-! ## 2. quick-select and percentiles -/

/-- `sortN` is THE sorted permutation (so `(sortN l)[k]` is the k-th smallest element) -/
theorem sortN_is_sorted_perm (l : List Nat) : (sortN l).Pairwise (· ≤ ·) ∧ sortN l ~ l :=
  ⟨sortN_sorted l, sortN_perm l⟩

/-- C12.2 quick-select exactly as coded (median-of-medians pivot, in-place chunk sorts, averaged pivot that
need not be an element) terminates — fuel = length suffices — and returns the k-th smallest element, for
every non-empty array and every valid k. -/
theorem quickSelect_eq_sorted_get (arr : List Nat) (k : Nat) (hk : k < arr.length) :
    quickSelect arr k = some ((sortN arr)[k]'(by rw [sortN_length]; exact hk)) := by
  rw [quickSelect_spec arr k hk, getElem?_eq_getElem]

/-- the caller's slice is permuted, never changed as a multiset (the RED fold reuses it four times) -/
theorem select_keeps_elements (arr : List Nat) : afterSelect arr ~ arr := afterSelect_perm arr

/-- C12.2b the index formula exactly as coded: `k = float64(p·(n−1)) / float64(100)` (IEEE-754 division),
`floorK = ⌊k⌋`, `ceilK = ⌈k⌉`: for every p ≤ 100 and every array of n < 2^52/100 elements both indices are
valid (float rounding never pushes ⌈k⌉ beyond n−1), so the selection never indexes out of range. -/
theorem percentile_index_in_range (p n : Nat) (hp : p ≤ 100) (hn : 0 < n) (hbig : 100 * n < 2 ^ 52) :
    (pctIndex p n).floor ≤ (pctIndex p n).ceil ∧ (pctIndex p n).ceil < n :=
  ⟨Dy.floor_le_ceil _, pctIndex_ceil_lt p n hp hn hbig⟩

/-- C12.2c the percentile exactly as coded: the result is the interpolation
`lower + (upper − lower)·(k − ⌊k⌋)` (each operation rounded to float64) between the ⌊k⌋-th and ⌈k⌉-th
smallest elements, or the ⌊k⌋-th smallest element itself when k is integral; the caller's slice keeps its
elements. -/
theorem percentile_as_coded (arr : List Nat) (p : Nat) (hne : arr ≠ []) (hp : p ≤ 100)
    (hbig : 100 * arr.length < 2 ^ 52) :
    (pct arr p).1 = lerp (sortN arr) (pctIndex p arr.length) ∧ (pct arr p).2 ~ arr :=
  pct_of_perm (Perm.refl _) hne hp hbig

/-- out-of-range percentiles and empty arrays give 0 -/
theorem percentile_degenerate (arr : List Nat) (p : Nat) (h : arr = [] ∨ p > 100) :
    pct arr p = (some Dy.zero, arr) := by
  unfold pct
  rcases h with rfl | h
  · rfl
  · rw [if_pos h, ite_self]

/-! ## 3. dependency graph -/

/-- C12.3 For spans with unique ids the dependency matrix has an entry exactly for the service pairs
`a ≠ b` joined by at least one parent→child span pair, and the entry is the number of such pairs. -/
theorem depGraph_counts (spans : List Span) (hnd : (spans.map (·.id)).Nodup) (a b n : Nat) :
    ((a, b), n) ∈ depGraph spans ↔ a ≠ b ∧ n = crossPairs spans a b ∧ 0 < n := by
  rw [mem_depGraph]
  constructor
  · rintro ⟨hm, rfl⟩
    have hab := mem_depPairs_ne hm
    exact ⟨hab, depPairs_count hnd a b hab, count_pos_iff.2 hm⟩
  · rintro ⟨hab, rfl, hpos⟩
    rw [← depPairs_count hnd a b hab] at hpos ⊢
    exact ⟨count_pos_iff.1 hpos, rfl⟩

/-- C12.3 at FULL STRENGTH since the repair c12-11 (`dropRedeliveredSpans`): for EVERY list of collected spans —
re-delivered ones included — MakeTracesDependancyGraph (`depGraphOf` = drop the re-delivered spans, then fold) has an
entry exactly for the service pairs `a ≠ b` joined by at least one parent→child pair of DISTINCT spans, and the entry
is the number of such pairs: a span that was delivered several times counts once. -/
theorem depGraphOf_counts (spans : List Span) (a b n : Nat) :
    ((a, b), n) ∈ depGraphOf spans ↔ a ≠ b ∧ n = crossPairs (dedupIds spans) a b ∧ 0 < n :=
  depGraph_counts (dedupIds spans) (dedupIds_nodup spans) a b n

/-- … the spans that are counted have pairwise different ids, and nothing is dropped when no span was delivered twice -/
theorem dedupIds_spec (spans : List Span) :
    ((dedupIds spans).map (·.id)).Nodup ∧ (∀ s ∈ dedupIds spans, s ∈ spans) ∧
    ((spans.map (·.id)).Nodup → dedupIds spans = spans ∧ depGraphOf spans = depGraph spans ∧ redOfSpans spans = red spans) := by
  refine ⟨dedupIds_nodup spans, fun s hs => (dedupBy_mem _ spans [] s (dedupIds_eq spans ▸ hs)).1, fun h => ?_⟩
  have e := (dedupIds_eq spans).trans (dedupBy_of_nodup _ spans [] h fun _ _ => not_mem_nil)
  exact ⟨e, by unfold depGraphOf; rw [e], by unfold redOfSpans; rw [e]⟩

/-- OLD behaviour (before c12-11) REFUTED: the fold over the stored RECORDS counted a child span that was delivered
twice as two parent→child pairs (root in service 1, child in service 2, the child stored twice: 1>2 = 2). -/
theorem depGraph_redelivered_old_counterexample :
    depGraph [⟨2, 1, false, 2, 0, 5, false⟩, ⟨2, 1, false, 2, 0, 5, false⟩, ⟨1, 0, false, 1, 0, 9, false⟩] = [((1, 2), 2)] ∧
    depGraphOf [⟨2, 1, false, 2, 0, 5, false⟩, ⟨2, 1, false, 2, 0, 5, false⟩, ⟨1, 0, false, 1, 0, 9, false⟩] = [((1, 2), 1)] := by
  decide +kernel

/-- one entry per service pair, in sorted order (the canonical form the Oracle prints) -/
theorem depGraph_keys (spans : List Span) :
    ((depGraph spans).map Prod.fst).Nodup ∧ ((depGraph spans).map Prod.fst).Pairwise (fun x y => pairLe x y) :=
  depGraph_keys_eq spans ▸
    ⟨((isort_perm pairLe _).nodup_iff).2 (uniq_nodup _), isort_pairwise pairLe pairLe_trans pairLe_total _⟩

/-! ## 4. RED -/

/-- C12.5 the RED rows: one row per service that has an entry span; its count / error count are those of
the service's entry spans (entry = no parent, parent unknown, or parent in another service). -/
theorem red_rows (spans : List Span) :
    ((red spans).map (·.service)).Nodup ∧
    (∀ v, v ∈ (red spans).map (·.service) ↔ ∃ s ∈ spans, isEntry spans s = true ∧ s.service = v) ∧
    (∀ row ∈ red spans,
      row.cnt = ((spans.filter (isEntry spans)).filter (fun s => s.service == row.service)).length ∧
      row.err = (((spans.filter (isEntry spans)).filter (fun s => s.service == row.service)).filter (·.error)).length ∧
      row.rate = Dy.div (Dy.ofNat row.cnt) (Dy.ofNat redWindowSecs) ∧
      row.errRate = Dy.mul (Dy.div (Dy.ofNat row.err) (Dy.ofNat row.cnt)) (Dy.ofNat 100)) := by
  have hsvc : (red spans).map (·.service) = sortN (uniq ((spans.filter (isEntry spans)).map (·.service))) :=
    (map_map ..).trans (map_id _)
  refine ⟨?_, ?_, ?_⟩
  · rw [hsvc]
    exact ((sortN_perm _).nodup_iff).2 (uniq_nodup _)
  · intro v
    rw [hsvc, mem_sortN, mem_uniq, mem_map]
    constructor
    · rintro ⟨s, hs, rfl⟩
      obtain ⟨h1, h2⟩ := mem_filter.1 hs
      exact ⟨s, h1, h2, rfl⟩
    · rintro ⟨s, h1, h2, rfl⟩
      exact ⟨s, mem_filter.2 ⟨h1, h2⟩, rfl⟩
  · intro row hrow
    obtain ⟨v, _, rfl⟩ := mem_map.1 hrow
    simp only [redRow, and_self]

/-- C12.5a' the rate is a rate PER SECOND over the 5-minute window the spans are collected from: 300 entry spans
in the window — one per second — give the rate 1; BEFORE the repair c12-8 the count of the 5-minute window was divided by
60 and the same service was shown with 5 requests per second -/
theorem red_rate_is_per_second :
    redWindowSecs = 5 * 60 ∧
    Dy.div (Dy.ofNat 300) (Dy.ofNat redWindowSecs) = Dy.ofNat 1 ∧
    Dy.div (Dy.ofNat 300) (Dy.ofNat redDivisorOld) = Dy.ofNat 5 := by
  decide +kernel

/-- C12.5b the four latencies of a row are the percentiles (formula of C12.2c) of the service's entry-span
durations in ms — although the code reuses one slice that every selection reorders in place. -/
theorem red_percentiles (spans : List Span) (svc : Nat) (hne : entryDurs spans svc ≠ [])
    (hbig : 100 * (entryDurs spans svc).length < 2 ^ 52) :
    (redRow spans svc).p50 = lerp (sortN (entryDurs spans svc)) (pctIndex 50 (entryDurs spans svc).length) ∧
    (redRow spans svc).p90 = lerp (sortN (entryDurs spans svc)) (pctIndex 90 (entryDurs spans svc).length) ∧
    (redRow spans svc).p95 = lerp (sortN (entryDurs spans svc)) (pctIndex 95 (entryDurs spans svc).length) ∧
    (redRow spans svc).p99 = lerp (sortN (entryDurs spans svc)) (pctIndex 99 (entryDurs spans svc).length) :=
  have ⟨a1, e1⟩ := pct_of_perm (Perm.refl _) hne (by decide : 50 ≤ 100) hbig
  have ⟨a2, e2⟩ := pct_of_perm e1 hne (by decide : 90 ≤ 100) hbig
  have ⟨a3, e3⟩ := pct_of_perm e2 hne (by decide : 95 ≤ 100) hbig
  have ⟨a4, _⟩ := pct_of_perm e3 hne (by decide : 99 ≤ 100) hbig
  have ⟨h1, h2, h3, h4⟩ := redRow_pcts spans svc
  ⟨h1.trans a1, h2.trans a2, h3.trans a3, h4.trans a4⟩

/-! ## 5. OTLP ingest boundary (Model/TraceE2E.lean, tied by the suite `tracee2e`) -/

/-- C12.6 FRAME property of ProcessTraceIngest: the documents handed to the segment writer are the
concatenation, in request order, of what each ResourceSpans contributes BY ITSELF (`docsOfRes r`, a function of
`r` alone: its spans converted with the service found in ITS resource attributes).  Nothing a resource
contributes depends on the resources before it — in particular not on the value the loop variable `service`
was left with (`ingestRes_adv` holds for every incoming state). -/
theorem ingest_frame (rs : List ResSpans) : (ingest rs).docs = rs.flatMap docsOfRes :=
  (foldl_ingestRes rs {}).docs

/-- C12.6b the same for one resource in the middle of a request, with an arbitrary prefix and suffix -/
theorem ingest_frame_middle (pre post : List ResSpans) (r : ResSpans) :
    (ingest (pre ++ r :: post)).docs = (ingest pre).docs ++ docsOfRes r ++ (ingest post).docs := by
  rw [ingest_frame, ingest_frame, ingest_frame, flatMap_append, flatMap_cons, append_assoc]

/-- C12.6e (full strength since the repair of spanToJson) the stored document has the span's OWN fixed fields —
trace id, span id, parent id, service, name, times, duration, status — whatever attributes the span carries:
an attribute named like a fixed field cannot replace it. -/
theorem stored_fields (sp : OSpan) (service k : String) (d : List (String × JVal))
    (hd : spanToJson sp service = some d) (hk : k ∈ fixedKeys) :
    getKV d k = getKV (baseDoc sp service) k := by
  obtain ⟨m, rfl⟩ := spanToJson_eq hd
  exact getKV_setAll (baseDoc sp service) m k fixedKeys_nodup hk

/-- C12.6c the stored service of EVERY stored span is the service named by ITS resource (the last `service.name`
string attribute; "" when the resource is nil or names none) -/
theorem ingest_service_of_own_resource (rs : List ResSpans) (r : ResSpans) (sp : OSpan) (d : List (String × JVal))
    (hr : r ∈ rs) (hsp : sp ∈ r.scopes.flatMap id) (hd : spanToJson sp (serviceOfRes r) = some d) :
    d ∈ (ingest rs).docs ∧ getKV d "service" = some (.str (serviceOfRes r)) := by
  refine ⟨?_, ?_⟩
  · rw [ingest_frame, mem_flatMap]
    refine ⟨r, hr, ?_⟩
    unfold docsOfRes
    rw [mem_filterMap]
    exact ⟨sp, hsp, hd⟩
  · exact stored_field hd 3 (by decide)

/-- C12.6d the counters behind the response: every span of the request is counted, and every span is either
stored or counted as failed (the partial-success message reports exactly the spans that were not stored) -/
theorem ingest_counts (rs : List ResSpans) :
    (ingest rs).numSpans = (rs.flatMap (fun r => r.scopes.flatMap id)).length ∧
    (ingest rs).numFailed + (ingest rs).docs.length = (ingest rs).numSpans := by
  have h := foldl_ingestRes rs {}
  have e2 : (ingest rs).numSpans = (rs.flatMap (fun r => r.scopes.flatMap id)).length :=
    h.numSpans.trans (Nat.zero_add _)
  exact ⟨e2, (h.settled.trans (Nat.zero_add _)).trans e2.symm⟩

/-- C12.6d' (full strength since the repair c12-10 of extractAnyValue) EVERY span of a request is stored, whatever
kinds of attribute values it carries — string, int, double, bool, array, kvlist, bytes, the empty AnyValue, no
AnyValue at all: no span is refused, the response never reports rejected spans. -/
theorem every_span_is_stored (rs : List ResSpans) :
    (∀ (sp : OSpan) (service : String), ∃ d, spanToJson sp service = some d) ∧
    (ingest rs).numFailed = 0 ∧
    (ingest rs).docs.length = (rs.flatMap (fun r => r.scopes.flatMap id)).length ∧
    ack (ingest rs) = (200, 0) := by
  have hlen : (ingest rs).docs.length = (rs.flatMap (fun r => r.scopes.flatMap id)).length := by
    rw [ingest_frame, length_flatMap_docsOfRes]
  obtain ⟨c1, c2⟩ := ingest_counts rs
  have h0 : (ingest rs).numFailed = 0 := Nat.add_eq_right.mp (c2.trans (c1.trans hlen.symm))
  refine ⟨spanToJson_isSome, h0, hlen, ?_⟩
  rw [ack, h0]
  rfl

/-- BEFORE the repair c12-10 a bytes value or an empty AnyValue (both legal OTLP) refused the WHOLE span: a trace
whose root carries such an attribute lost its root — the listing did not show the trace, the span tree answered
"no root" -/
theorem bytes_or_empty_attribute_old_refused_the_span :
    attrValOld .bytes = none ∧ attrValOld .empty = none ∧
    spanRejectedOld { trace := "ab", sid := "01", pid := "", name := "op", start := 5, end_ := 9, status := none, attrs := [("k", .empty)] } = true ∧
    (spanToJson { trace := "ab", sid := "01", pid := "", name := "op", start := 5, end_ := 9, status := none, attrs := [("k", .empty), ("b", .bytes)] } "s")
      = some [("k", .null), ("b", .str "+//+AQ=="), ("trace_id", .str "ab"), ("span_id", .str "01"), ("parent_span_id", .str ""), ("service", .str "s"),
              ("name", .str "op"), ("start_time", .num 5), ("end_time", .num 9), ("duration", .num 4), ("status", .str "Unknown")] := by
  decide +kernel

/-- C12.6f the stored duration of an OTLP span never exceeds its end time: a span that ends before it starts is
stored with duration 0, so for times below 2^63 the stored record always fits the uint64 fields the views
unmarshal into (`poison` = false) -/
theorem otlp_record_never_poison (sp : OSpan) (service : String) (d : List (String × JVal))
    (hd : spanToJson sp service = some d) (hend : sp.end_ < 2 ^ 63) : poison (docToRec d) = false := by
  have h : getKV d "duration" = some (.num (durationOf sp)) := stored_field hd 7 (by decide)
  have hlt : durationOf sp < 2 ^ 63 := Nat.lt_of_le_of_lt (durationOf_le sp) hend
  have hdur : (docToRec d).dur = durationOf sp := by
    show numField d "duration" = _
    simp only [numField, h, storedNum, Int.toNat_natCast, if_pos hlt]
  show (decide ((docToRec d).dur ≥ 2 ^ 64) || false) = false
  rw [hdur, Bool.or_false, decide_eq_false_iff_not, Nat.not_le]
  exact Nat.lt_trans hlt (by decide)

/-- BEFORE the repairs (`spanToJsonOld`): an attribute whose key equals a fixed field replaced that field … -/
theorem stored_fields_old_counterexample :
    ¬ ∀ (sp : OSpan) (service : String) (d : List (String × JVal)), spanToJsonOld sp service = some d →
        getKV d "service" = some (.str service) ∧ getKV d "status" = some (.str (statusName sp.status)) := by
  intro h
  -- `d` is whatever the old conversion returns for this span: its "service" column holds "billing"
  have := h { trace := "ab", sid := "01", pid := "", name := "op", start := 5, end_ := 9, status := some 2, attrs := [("status", .str "paid"), ("service", .str "billing")] } "checkout"
    _ rfl
  exact absurd this.1 (by decide +kernel)

/-- … the old code kept only the fields that no attribute was named after … -/
theorem stored_fields_old_partial (sp : OSpan) (service k : String) (d : List (String × JVal))
    (hd : spanToJsonOld sp service = some d) (hguard : ∀ kv ∈ sp.attrs, kv.1 ≠ k) :
    getKV d k = getKV (baseDocOld sp service) k :=
  foldlM_setKV_keeps k sp.attrs _ d hguard hd

/-- … the old unsigned difference wrapped for a span that ends before it starts (2^64 − 10 here; stored as
float64 it comes back as 2^64, which no uint64 field can take) … -/
theorem duration_old_wraps :
    getKV (baseDocOld { trace := "ab", sid := "01", pid := "", name := "op", start := 1000, end_ := 990, status := none, attrs := [] } "s")
      "duration" = some (.num (2 ^ 64 - 10)) := by decide +kernel

/-- … and a KeyValue without AnyValue made the old conversion panic, while it is now an attribute without value
and the span is stored -/
theorem no_value_attribute_is_stored :
    spanPanicsOld { trace := "ab", sid := "01", pid := "", name := "op", start := 5, end_ := 9, status := none, attrs := [("k", .noValue)] } = true ∧
    (spanToJson { trace := "ab", sid := "01", pid := "", name := "op", start := 5, end_ := 9, status := none, attrs := [("k", .noValue)] } "s").isSome = true := by
  decide +kernel

/-! ## 6. result paging -/

/-- C12.7 the paging loop of ProcessGanttChartRequest (pages of `P` records, next page `P` further, stop at
an empty page or after a page shorter than `P`) folds the loop body over EVERY record of the result list,
for every page size P > 0, every number of records and every pattern of duplicate / skipped records. -/
theorem gantt_collects_all (P : Nat) (hP : 0 < P) (recs : List Rec) :
    ganttCollect P recs = recs.foldl gStep {} :=
  pageLoop_all gStep P hP true recs {}

/-- C12.7b hence the page size is irrelevant: the span tree of a trace of any size is the tree of all its
records (what the Oracle of the suite `tracee2e` relies on when the harness shrinks the page) -/
theorem gantt_page_size_irrelevant (P Q : Nat) (hP : 0 < P) (hQ : 0 < Q) (pick : Nat) (recs : List Rec) (t : String) :
    gantt P pick recs t = gantt Q pick recs t := by
  unfold gantt
  rw [gantt_collects_all P hP, gantt_collects_all Q hQ]

/-- C12.7c every stored span of the trace is in the span map exactly once: the keys of `idToSpanMap` are
distinct, and a span id is a key iff some record with that id passed the checks of the loop body (`complete`:
duration fits uint64, service / name / parent_span_id / status present) — on whatever page that record was. -/
theorem gantt_every_span_once (P : Nat) (hP : 0 < P) (recs : List Rec) :
    ((ganttCollect P recs).spans.map (·.1)).Nodup ∧
    ∀ x, x ∈ (ganttCollect P recs).spans.map (·.1) ↔ ∃ r ∈ recs, complete r = true ∧ r.sid = x := by
  rw [gantt_collects_all P hP]
  refine ⟨foldl_gStep_nodup recs {} nodup_nil, fun x => ?_⟩
  refine (foldl_gStep_keys recs {} x).trans ((or_iff_right not_mem_nil).trans ?_)
  simp only [mem_map, mem_filter, and_assoc]

/-- C12.7c' the rank encoding that hands the collected map to the kernel `BuildSpanTree` keeps the spans apart:
the kernel span list has one span per distinct span id string (the encoding is injective, `decode` undoes it) -/
theorem gantt_kernel_ids_distinct (P : Nat) (hP : 0 < P) (recs : List Rec) :
    ((gSpans (ganttCollect P recs)).map (·.id)).Nodup ∧
    ((gSpans (ganttCollect P recs)).map (·.id)).length = ((ganttCollect P recs).spans.map (·.1)).length :=
  ⟨gSpans_ids_nodup _ (gantt_every_span_once P hP recs).1, by simp [gSpans]⟩

/-- C12.7d composition with C12.1: if the collected spans form a well-formed trace, the response contains
every one of them exactly once beneath its parent — for every page size. -/
theorem gantt_tree_each_span_once (P : Nat) (hP : 0 < P) (pick : Nat) (recs : List Rec)
    (h : wellFormed (gSpans (recs.foldl gStep {})) = true) :
    ∃ view, treeView (gSpans (ganttCollect P recs)) pick = some view ∧
      (view.map Prod.snd) ~ ((gSpans (ganttCollect P recs)).map (·.id)) ∧
      (∀ e ∈ view, ∃ s ∈ gSpans (ganttCollect P recs), s.id = e.2 ∧ s.parent = e.1) := by
  rw [gantt_collects_all P hP]
  exact tree_each_span_once _ pick h

/-- C12.7e the loops are only correct because stride and page size are the same number: with a stride larger
than the page records are lost, with a smaller one they are seen twice -/
theorem paging_stride_counterexample :
    pageLoop (fun acc r => acc ++ [r]) 2 3 false [1, 2, 3, 4, 5] 6 0 ([] : List Nat) ≠ [1, 2, 3, 4, 5] ∧
    pageLoop (fun acc r => acc ++ [r]) 2 1 false [1, 2, 3] 4 0 ([] : List Nat) ≠ [1, 2, 3] := by
  decide +kernel

/-- C12.7f (full strength since the repair c12-7) ProcessRedTracesIngest (stops at the first page without records
only) collects every record of the window that IS a span — one that does not unmarshal into `structs.Span` is
skipped, every other one is kept — for every page size, every number of records and every position of the
unreadable records; without unreadable records: every record -/
theorem red_collects_all (P : Nat) (hP : 0 < P) (recs : List Rec) :
    redCollect P recs = dedupRecs (readable recs) ∧ (recs.any poison = false → redCollect P recs = dedupRecs recs) :=
  have h : redCollect P recs = dedupRecs (readable recs) := congrArg dedupRecs (collectSpans_eq P hP recs)
  ⟨h, fun hp => h.trans (congrArg dedupRecs (readable_of_no_poison recs hp))⟩

/-- BEFORE the repair c12-7 a page was unmarshalled at once: ONE document posted to index `traces` by another
protocol with a duration that is not a uint64 (here −5) made the function return without writing a single row, for
every service of the window -/
theorem red_old_one_unreadable_record_blanked_the_window :
    redCollectOld 1000
      [{ trace := "ab", sid := "dd", pid := some "01", svc := some "b", name := some "doc", start := 1, end_ := 2, dur := 0, status := some "ok", durBad := some "-5" },
       { trace := "ab", sid := "01", pid := some "", svc := some "a", name := some "y", start := 0, end_ := 3, dur := 3, status := some "ok" }] = none ∧
    (redCollect 1000
      [{ trace := "ab", sid := "dd", pid := some "01", svc := some "b", name := some "doc", start := 1, end_ := 2, dur := 0, status := some "ok", durBad := some "-5" },
       { trace := "ab", sid := "01", pid := some "", svc := some "a", name := some "y", start := 0, end_ := 3, dur := 3, status := some "ok" }]).map (·.sid) = ["01"] := by
  decide +kernel

/-! ## 7. trace listing -/

/-- C12.8 (full strength since GetUniqueTraceIds orders the group-by buckets) the pages PARTITION the listing:
pages 1 … k, each the rows of the next 50 trace ids, put one after the other are exactly the whole listing, as
soon as 50·k reaches the number of trace ids — for every number of traces. -/
theorem search_pages_partition (recs : List Rec) (k : Nat) (hk : (traceIds recs).length ≤ tracePageLimit * k) :
    (List.range k).flatMap (fun i => searchPage recs (i + 1)) = searchAll recs := by
  unfold searchPage pageIds searchAll
  -- the pages of trace ids, put one after the other, are all trace ids
  have := (Lemmas.C05.pages_eq_take (traceIds recs) tracePageLimit k).trans
    (take_of_length_le (Nat.mul_comm _ k ▸ hk))
  conv => rhs; rw [← this]
  rw [filterMap_flatMap]
  simp

/-- C12.8b in the whole listing no trace is listed twice, every listed trace has records, and every row is what
`searchRow` computes for that trace; no trace that has a row is left out -/
theorem search_lists_each_trace_once (recs : List Rec) :
    ((searchAll recs).map (·.trace)).Nodup ∧
    (∀ row ∈ searchAll recs, (∃ r ∈ recs, r.trace = row.trace) ∧ searchRow recs row.trace = some row) ∧
    (∀ r ∈ recs, ∀ row, searchRow recs r.trace = some row → row ∈ searchAll recs) := by
  obtain ⟨h1, h2⟩ := filterMap_searchRow_sound recs (traceIds recs)
  refine ⟨h1.nodup (uniq_nodup _), ?_, ?_⟩
  · intro row hrow
    refine ⟨?_, h2 row hrow⟩
    have : row.trace ∈ traceIds recs := h1.subset (mem_map.2 ⟨row, hrow, rfl⟩)
    exact mem_traceIds.1 this
  · intro r hr row hrow
    unfold searchAll
    rw [mem_filterMap]
    exact ⟨r.trace, mem_traceIds.2 ⟨r, hr, rfl⟩, hrow⟩

/-- C12.8c the row of a trace with exactly one root record (parent id present and empty) whose times lie in
the window: root service, root operation, number of distinct (status, span id) pairs of its records, number of
distinct span ids with status ERROR -/
theorem searchRow_single_root (recs : List Rec) (t : String) (root : Rec) (sv nm : String)
    (hroots : (ofTrace recs t).filter (fun r => r.pid == some "") = [root])
    (hsv : root.svc = some sv) (hnm : root.name = some nm)
    (hw1 : winStart * 1000000 ≤ f64 root.start) (hw2 : f64 root.end_ ≤ winEnd * 1000000) :
    searchRow recs t = some { trace := t, svc := sv, op := nm, count := spanCount (ofTrace recs t), errs := errCount (ofTrace recs t), start := f64 root.start, end_ := f64 root.end_ } := by
  have hwin : (decide (winStart * 1000000 > f64 root.start) || decide (winEnd * 1000000 < f64 root.end_)) = false :=
    Bool.or_eq_false_iff.mpr ⟨decide_eq_false (Nat.not_lt.mpr hw1), decide_eq_false (Nat.not_lt.mpr hw2)⟩
  unfold searchRow searchRowOld
  -- the row is evaluated on the one root record
  simp only [hroots, isEmpty_cons, Bool.false_eq_true, ↓reduceIte, distinctNat, map_cons, map_nil, uniq,
    contains_eq_mem, not_mem_nil, decide_false, gt_iff_lt, hwin, distinctStr, hsv, Option.some.injEq,
    filterMap_cons_some, filterMap_nil, hnm]

/-- C12.8e (full strength since the repair c12-9: `dc(span_id)` instead of `count`) the span count and the error-span
count of a trace do not change when spans are delivered AGAIN (a retried export stores the same record twice):
records that are already among the stored records add nothing. -/
theorem span_count_ignores_redelivery (rs extra : List Rec) (h : ∀ r ∈ extra, r ∈ rs) :
    spanCount (extra ++ rs) = spanCount rs ∧ errCount (extra ++ rs) = errCount rs := by
  have h : extra ⊆ rs := fun _ hr => h _ hr
  unfold spanCount errCount
  rw [map_append, uniq_append_of_subset (map_subset _ h), filter_append, map_append,
    uniq_append_of_subset (map_subset _ (filter_subset _ h))]
  exact ⟨rfl, rfl⟩

/-- C12.8f hence the whole ROW of every trace — root service, operation, times, span count, error-span count, and
whether it is listed at all — is the same after any re-delivery of stored records: the listing shows the spans
of the trace, like its span tree (whose map is keyed by span id), not the deliveries. -/
theorem search_row_ignores_redelivery (recs extra : List Rec) (h : ∀ r ∈ extra, r ∈ recs) (t : String) :
    searchRow (extra ++ recs) t = searchRow recs t := by
  have hT : ofTrace extra t ⊆ ofTrace recs t := filter_subset _ fun _ hr => h _ hr
  have hR := filter_subset (fun r : Rec => r.pid == some "") hT
  obtain ⟨c1, c2⟩ := span_count_ignores_redelivery (ofTrace recs t) (ofTrace extra t) fun _ hr => hT hr
  have e0 : ofTrace (extra ++ recs) t = ofTrace extra t ++ ofTrace recs t := filter_append ..
  unfold searchRow searchRowOld
  simp only [e0, filter_append, map_append, filterMap_append, c1, c2, isEmpty_append_of_subset hR, distinctNat, distinctStr,
    uniq_append_of_subset (map_subset (·.start) hR), uniq_append_of_subset (map_subset (·.end_) hR),
    uniq_append_of_subset (filterMap_subset (·.svc) hR), uniq_append_of_subset (filterMap_subset (·.name) hR)]

/-- C12.8g the two views of one trace AGREE on its number of spans: when every record of the trace passes the
checks of the span-tree loop (`complete`) and no span id was delivered with two different statuses, the span count of
the listing is the number of spans in `idToSpanMap` of ProcessGanttChartRequest — for every page size, every number
of records and every pattern of re-delivery. (Before c12-9 this failed as soon as one span was delivered twice.) -/
theorem listing_span_count_eq_tree_spans (P : Nat) (hP : 0 < P) (rs : List Rec)
    (hc : ∀ r ∈ rs, complete r = true)
    (h1 : ∀ r ∈ rs, ∀ q ∈ rs, r.sid = q.sid → r.status = q.status) :
    spanCount rs = ((ganttCollect P rs).spans.map (·.1)).length := by
  obtain ⟨hnd, hmem⟩ := gantt_every_span_once P hP rs
  unfold spanCount
  rw [← length_map (f := Prod.snd)]
  -- the distinct (status, span id) pairs are told apart by their span id alone
  have hpairs := nodup_map_inj_on Prod.snd _ (uniq_nodup (rs.map fun r => (r.status, r.sid))) fun a ha b hb e => by
    obtain ⟨r, hr, rfl⟩ := mem_map.1 (mem_uniq.1 ha)
    obtain ⟨q, hq, rfl⟩ := mem_map.1 (mem_uniq.1 hb)
    exact Prod.ext (h1 r hr q hq e) e
  refine ((perm_ext_iff_of_nodup hpairs hnd).2 fun x => ?_).length_eq
  rw [hmem, mem_map]
  constructor
  · rintro ⟨p, hp, rfl⟩
    obtain ⟨r, hr, rfl⟩ := mem_map.1 (mem_uniq.1 hp)
    exact ⟨r, hr, hc r hr, rfl⟩
  · rintro ⟨r, hr, _, rfl⟩
    exact ⟨(r.status, r.sid), mem_uniq.2 (mem_map.2 ⟨r, hr, rfl⟩), rfl⟩

/-- BEFORE the repair c12-9 the stored RECORDS were counted: a two-span trace (one of them with status ERROR)
delivered twice was listed with 4 spans, 2 of them errors, while its span tree shows 2 spans -/
theorem span_count_old_counted_redelivery :
    (searchRowCountOld
      [{ trace := "ab", sid := "02", pid := some "01", svc := some "a", name := some "x", start := 1700000000000000000, end_ := 1700000000000000000, dur := 0, status := some errStatus },
       { trace := "ab", sid := "01", pid := some "", svc := some "a", name := some "y", start := 1700000000000000000, end_ := 1700000000000000000, dur := 0, status := some "ok" },
       { trace := "ab", sid := "02", pid := some "01", svc := some "a", name := some "x", start := 1700000000000000000, end_ := 1700000000000000000, dur := 0, status := some errStatus },
       { trace := "ab", sid := "01", pid := some "", svc := some "a", name := some "y", start := 1700000000000000000, end_ := 1700000000000000000, dur := 0, status := some "ok" }] "ab").map (fun r => (r.count, r.errs)) = some (4, 2) ∧
    (searchRow
      [{ trace := "ab", sid := "02", pid := some "01", svc := some "a", name := some "x", start := 1700000000000000000, end_ := 1700000000000000000, dur := 0, status := some errStatus },
       { trace := "ab", sid := "01", pid := some "", svc := some "a", name := some "y", start := 1700000000000000000, end_ := 1700000000000000000, dur := 0, status := some "ok" },
       { trace := "ab", sid := "02", pid := some "01", svc := some "a", name := some "x", start := 1700000000000000000, end_ := 1700000000000000000, dur := 0, status := some errStatus },
       { trace := "ab", sid := "01", pid := some "", svc := some "a", name := some "y", start := 1700000000000000000, end_ := 1700000000000000000, dur := 0, status := some "ok" }] "ab").map (fun r => (r.count, r.errs)) = some (2, 1) := by
  decide +kernel

/-- C12.8d BEFORE the repair one trace whose two root spans start at different times made the whole page answer
500 (`none`), hiding the well-formed trace next to it; now that trace alone is left out -/
theorem search_old_one_trace_failed_the_page :
    searchPageOld
      [{ trace := "ab01", sid := "01", pid := some "", svc := some "a", name := some "x", start := 1700000000000000000, end_ := 1700000000000000000, dur := 0, status := some "ok" },
       { trace := "ab02", sid := "02", pid := some "", svc := some "a", name := some "y", start := 1700000000000000000, end_ := 1700000000000000000, dur := 0, status := some "ok" },
       { trace := "ab02", sid := "03", pid := some "", svc := some "a", name := some "y", start := 1700000000000001024, end_ := 1700000000000000000, dur := 0, status := some "ok" }] 1 = none ∧
    ((searchPage
      [{ trace := "ab01", sid := "01", pid := some "", svc := some "a", name := some "x", start := 1700000000000000000, end_ := 1700000000000000000, dur := 0, status := some "ok" },
       { trace := "ab02", sid := "02", pid := some "", svc := some "a", name := some "y", start := 1700000000000000000, end_ := 1700000000000000000, dur := 0, status := some "ok" },
       { trace := "ab02", sid := "03", pid := some "", svc := some "a", name := some "y", start := 1700000000000001024, end_ := 1700000000000000000, dur := 0, status := some "ok" }] 1).map (·.trace)) = ["ab01"] := by
  decide +kernel

/-! ## 8. dependency graph -/

/-- C12.9 (full strength since MakeTracesDependancyGraph pages through the result, c12-2, and decodes the records one
by one, c12-7) the graph is the fold over EVERY record of the window that is a span, for every page size, every
number of records and every position of records that do not unmarshal into `structs.Span` (those are skipped,
nothing else is); without such records: the fold over every record -/
theorem dep_collects_all (P : Nat) (hP : 0 < P) (recs : List Rec) :
    dep P recs = depOf recs ∧ (recs.any poison = false → dep P recs = depFold (dedupRecs recs)) :=
  have h : dep P recs = depOf recs := congrArg (fun l => depFold (dedupRecs l)) (collectSpans_eq P hP recs)
  ⟨h, fun hp => h.trans (congrArg (fun l => depFold (dedupRecs l)) (readable_of_no_poison recs hp))⟩

/-- C12.9b (repair c12-11) A RE-DELIVERED SPAN COUNTS ONCE, in the dependency graph and in the RED rows, for EVERY
window: a stored record whose (trace id, span id) is that of a span met EARLIER in the result (the search returns the
newest record first: the record is an earlier delivery of that span) changes nothing — the window with it and the
window without it give the same graph and the same RED rows, whatever the other records are and wherever it stands. -/
theorem redelivered_span_counts_once (P : Nat) (hP : 0 < P) (a b : List Rec) (x r : Rec) (hx : x ∈ a)
    (hxr : poison x = false) (hk : (x.trace, x.sid) = (r.trace, r.sid)) :
    dep P (a ++ r :: b) = dep P (a ++ b) ∧ redE2E P (a ++ r :: b) = redE2E P (a ++ b) := by
  have key : dedupRecs (collectSpans P (a ++ r :: b)) = dedupRecs (collectSpans P (a ++ b)) := by
    rw [collectSpans_eq P hP, collectSpans_eq P hP, readable_append, readable_append]
    cases hr : poison r with
    | true => rw [show readable (r :: b) = readable b from filter_cons_of_neg (by rw [hr]; exact Bool.false_ne_true)]
    | false =>
      rw [show readable (r :: b) = r :: readable b from filter_cons_of_pos (by rw [hr]; rfl), dedupRecs_eq, dedupRecs_eq]
      exact dedupBy_drop_later _ (readable a) [] r (readable b)
        (mem_append_left _ (mem_map.2 ⟨x, mem_filter.2 ⟨hx, by rw [hxr]; rfl⟩, hk⟩))
  exact ⟨congrArg depFold key, congrArg redOf key⟩

/-- C12.9c (repair c12-12) ONE DOCUMENT WITH A STRING AS ITS `duration` NO LONGER HIDES THE OTHER SPANS OF ITS BLOCK:
the segment writer rewrites the duration column of such a block as strings (`consolidate`), and the views read the
decimal text of a number like the number — for EVERY block, the records the views see are the records as stored
(only the flag that says "returned as text" differs) and exactly the same records are skipped as unreadable. -/
theorem consolidated_block_keeps_its_spans (recs : List Rec) :
    (consolidate recs).map (fun r => { r with durAsText := false }) = recs.map (fun r => { r with durAsText := false }) ∧
    (consolidate recs).map poison = recs.map poison := by
  rw [consolidate]
  cases recs.any isStrDur with
  | false => exact ⟨rfl, rfl⟩
  | true =>
    -- record by record: the rewrite touches `durAsText` only, and `poison` does not read it
    refine ⟨map_map.trans (map_congr_left fun r _ => ?_), map_map.trans (map_congr_left fun r _ => ?_)⟩
    all_goals
      dsimp only [Function.comp]
      cases r.durBad.isSome <;> rfl

/-- OLD behaviour (before c12-12) REFUTED: with the span structs that took numbers only, NO record of a block that
holds a document with a string duration could be read by any view (span tree: 400 "can not find a root span";
dependency graph and RED rows of the block: empty). -/
theorem consolidated_block_old_hid_every_span (recs : List Rec) (h : recs.any isStrDur = true) :
    ∀ r ∈ consolidate recs, poisonOld r = true := by
  intro r hr
  unfold consolidate at hr
  rw [if_pos h] at hr
  obtain ⟨x, _, rfl⟩ := List.mem_map.1 hr
  by_cases hx : x.durBad.isSome = true
  · simp [hx, poisonOld, poison]
  · simp [hx, poisonOld]

example : -- non-vacuous: a consolidated block — the document with the duration "soon" is skipped, the two spans whose
    -- durations come back as text are read (and were not before the repair)
    (readable
      [{ trace := "ab", sid := "dd", pid := some "01", svc := some "b", name := some "doc", start := 1, end_ := 2, dur := 0, status := some "ok", durBad := some "soon" },
       { trace := "ab", sid := "02", pid := some "01", svc := some "b", name := some "x", start := 1, end_ := 2, dur := 1, status := some "ok", durAsText := true },
       { trace := "ab", sid := "01", pid := some "", svc := some "a", name := some "y", start := 0, end_ := 3, dur := 3, status := some "ok", durAsText := true }]).map (·.sid)
      = ["02", "01"] ∧
    ([{ trace := "ab", sid := "02", pid := some "01", svc := some "b", name := some "x", start := 1, end_ := 2, dur := 1, status := some "ok", durAsText := true }].filter
      (fun r : Rec => !poisonOld r)) = [] := by decide +kernel

/-- to C12.9b: the spans that are folded have pairwise different (trace id, span id), and when no span of the window was
delivered twice every readable record is folded, as before the repair c12-11 -/
theorem dedupRecs_spec (recs : List Rec) :
    ((dedupRecs recs).map (fun r => (r.trace, r.sid))).Nodup ∧
    ((recs.map (fun r => (r.trace, r.sid))).Nodup → dedupRecs recs = recs) :=
  ⟨dedupRecs_eq recs ▸ dedupBy_nodup _ recs [], fun h =>
    (dedupRecs_eq recs).trans (dedupBy_of_nodup _ recs [] h fun _ _ => not_mem_nil)⟩

/-- OLD behaviour (before c12-11) REFUTED: the fold over the stored records counted the pair s1 → s2 twice when the
child span had been delivered twice (witness corpus/tracee2e.ops) -/
theorem dep_records_old_counterexample :
    ¬ ∀ (a b : List Rec) (x r : Rec), x ∈ a → poison x = false → (x.trace, x.sid) = (r.trace, r.sid) →
        depOfRecordsOld (a ++ r :: b) = depOfRecordsOld (a ++ b) := by
  intro h
  have := h
    [{ trace := "ab", sid := "02", pid := some "01", svc := some "s2", name := some "x", start := 1, end_ := 2, dur := 1, status := some "ok" }]
    [{ trace := "ab", sid := "01", pid := some "", svc := some "s1", name := some "y", start := 0, end_ := 3, dur := 3, status := some "ok" }]
    { trace := "ab", sid := "02", pid := some "01", svc := some "s2", name := some "x", start := 1, end_ := 2, dur := 1, status := some "ok" }
    { trace := "ab", sid := "02", pid := some "01", svc := some "s2", name := some "x", start := 1, end_ := 2, dur := 1, status := some "ok" }
    (.head _) (by decide +kernel) rfl
  exact absurd this (by decide +kernel)

/-- BEFORE the repair c12-7 the statement was false: a page was unmarshalled at once, and ONE document posted to index
`traces` by another protocol with a duration that is not a uint64 (here the string "soon") left the WHOLE window
without dependency graph … -/
theorem dep_old_one_unreadable_record_blanked_the_window :
    ¬ ∀ (page : Nat) (recs : List Rec), 0 < page → depOld page recs = depOf recs := by
  intro h
  have := h 1000
    [{ trace := "ab", sid := "dd", pid := some "01", svc := some "b", name := some "doc", start := 1, end_ := 2, dur := 0, status := some "ok", durBad := some "soon" },
     { trace := "ab", sid := "02", pid := some "01", svc := some "b", name := some "x", start := 1, end_ := 2, dur := 1, status := some "ok" },
     { trace := "ab", sid := "01", pid := some "", svc := some "a", name := some "y", start := 0, end_ := 3, dur := 3, status := some "ok" }]
    (by decide +kernel)
  exact absurd this (by decide +kernel)

/-- … and true only for windows all of whose records are spans -/
theorem dep_old_partial (page : Nat) (recs : List Rec) (h : recs.any poison = false) : depOld page recs = depOf recs := by
  unfold depOld depOf
  rw [h, readable_of_no_poison recs h]
  rfl

/-- the model answers: the unreadable record is skipped, the pair a → b of the other two spans is counted -/
example : dep 2
    [{ trace := "ab", sid := "dd", pid := some "01", svc := some "b", name := some "doc", start := 1, end_ := 2, dur := 0, status := some "ok", durBad := some "soon" },
     { trace := "ab", sid := "02", pid := some "01", svc := some "b", name := some "x", start := 1, end_ := 2, dur := 1, status := some "ok" },
     { trace := "ab", sid := "01", pid := some "", svc := some "a", name := some "y", start := 0, end_ := 3, dur := 3, status := some "ok" }]
    = .ok [(("a", "b"), 1)] := by decide +kernel

/-- BEFORE the repair c12-2 (ONE request, ONE page of 100 records) the statement was false … -/
theorem dep_first_page_old_counterexample :
    ¬ ∀ (page : Nat) (recs : List Rec), 0 < page → depFirstPageOld page recs = depOf recs := by
  intro h
  have := h 1
    [{ trace := "ab", sid := "02", pid := some "01", svc := some "b", name := some "x", start := 1, end_ := 2, dur := 1, status := some "ok" },
     { trace := "ab", sid := "01", pid := some "", svc := some "a", name := some "y", start := 0, end_ := 3, dur := 3, status := some "ok" }]
    (by decide +kernel)
  exact absurd this (by decide +kernel)

/-- … and true only when the window held at most one page of records (all of them spans) -/
theorem dep_first_page_old_partial (page : Nat) (recs : List Rec) (h : recs.length ≤ page) (hp : recs.any poison = false) :
    depFirstPageOld page recs = depOf recs := by
  unfold depFirstPageOld depOf
  rw [take_of_length_le h, hp, readable_of_no_poison recs hp]
  rfl

/-- the model answers -/
example : dep 1 [{ trace := "ab", sid := "02", pid := some "01", svc := some "b", name := some "x", start := 1, end_ := 2, dur := 1, status := some "ok" },
     { trace := "ab", sid := "01", pid := some "", svc := some "a", name := some "y", start := 0, end_ := 3, dur := 3, status := some "ok" }]
    = .ok [(("a", "b"), 1)] := by decide +kernel

/-! ## non-vacuity -/

def exTrace : List Span :=
  [⟨3, 1, false, 2, 105, 300, true⟩, ⟨1, 0, false, 1, 100, 200, false⟩, ⟨4, 3, false, 2, 90, 95, false⟩,
   ⟨2, 1, false, 1, 110, 150, false⟩]

/-- the guards of C12.8g are satisfiable: a complete record (twice — a re-delivery — which is where the theorem says
something) -/
example : complete { trace := "ab", sid := "01", pid := some "", svc := some "a", name := some "y", start := 0, end_ := 3, dur := 3, status := some "ok" } = true := by decide +kernel
example : spanCount [{ trace := "ab", sid := "01", pid := some "", svc := some "a", name := some "y", start := 0, end_ := 3, dur := 3, status := some "ok" },
                     { trace := "ab", sid := "01", pid := some "", svc := some "a", name := some "y", start := 0, end_ := 3, dur := 3, status := some "ok" }] = 1 := by decide +kernel
/-- the guard is satisfiable (a trace with clock skew: span 4 starts before the root) … -/
example : wellFormed exTrace = true := by decide +kernel
/-- … and the view of that trace is what one expects -/
example : treeView exTrace 0 = some [(0, 1), (1, 3), (3, 4), (1, 2)] := by decide +kernel
/-- malformed classes are really excluded by the guard -/
example : wellFormed [⟨1, 0, false, 1, 0, 1, false⟩, ⟨2, 2, false, 1, 0, 1, false⟩] = false := by decide +kernel
example : wellFormed [⟨1, 0, false, 1, 0, 1, false⟩, ⟨2, 0, false, 1, 0, 1, false⟩] = false := by decide +kernel
example : wellFormed [⟨1, 0, false, 1, 0, 1, false⟩, ⟨2, 9, false, 1, 0, 1, false⟩] = false := by decide +kernel
/-- a cycle hypothesis as in C12.4b is satisfiable: self-parent -/
example : up [⟨1, 0, false, 1, 0, 1, false⟩, ⟨2, 2, false, 1, 0, 1, false⟩] 1 2 = some 2 := by decide +kernel
/-- two roots: the map order decides; the other root's subtree is dropped -/
example : treeView [⟨1, 0, false, 1, 5, 9, false⟩, ⟨2, 0, false, 1, 6, 9, false⟩, ⟨3, 2, false, 1, 7, 8, false⟩] 0
    = some [(0, 1)] := by decide +kernel
example : treeView [⟨1, 0, false, 1, 5, 9, false⟩, ⟨2, 0, false, 1, 6, 9, false⟩, ⟨3, 2, false, 1, 7, 8, false⟩] 1
    = some [(0, 2), (2, 3)] := by decide +kernel
/-- quick-select on an array long enough for the median-of-medians path -/
example : quickSelect [9, 1, 8, 2, 7, 3, 6, 4, 5, 0, 11] 4 = some 4 := by decide +kernel
set_option maxRecDepth 100000 in
/-- a percentile that interpolates: p90 of [1,2,4,5] = 4.7 = 0x4012cccccccccccd -/
example : ((pct [5, 1, 4, 2] 90).1.map Dy.bits) = some 0x4012cccccccccccd := by decide +kernel
/-- dependency graph: two calls 1→2, one call 2→1, same-service links not counted -/
example : depGraph [⟨1, 0, false, 1, 0, 5, false⟩, ⟨2, 1, false, 2, 0, 5, false⟩, ⟨3, 1, false, 2, 0, 5, false⟩,
    ⟨4, 2, false, 1, 0, 1, false⟩, ⟨5, 4, false, 1, 0, 1, false⟩] = [((1, 2), 2), ((2, 1), 1)] := by decide +kernel

end SigModel.Props.C12
