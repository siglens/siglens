/-
C04 — Aggregations equal the mathematical aggregate of the matching events.  Property theorems, behind the general fact `bucket_inside` from which the time-cell theorems follow.

Decided by proof here (kernel REGENERATED from /repo on every run, SigModel/Gen/TimeBucket.lean):
time buckets partition the range — every timestamp inside [start, end) lands in exactly the bucket
whose span contains it, buckets lie on the grid start + k·step.  The clamped branches (timestamp
before start / at or after end) are characterised exactly.
The aggregates themselves (count/sum/min/max/avg by group) are decided by the end-to-end differential
against the specification (SigModel/Spec/Logs.lean); spec-level algebra is proved below.

Kernel slice "running statistics and their merge" (model SigModel/Model/Stats.lean, tied to the Go code by the
correspondence suite `stats`): second half of this file.  The model mirrors the code with the repairs listed at the
head of Model/Stats.lean; the behaviour as found is kept under `…Old` definitions.  Decided by proof there, for ALL
value lists, under exact arithmetic (`rnd = exact`: the rounding latitude the statement grants to floating sums): the
folded per-column statistics equal the mathematical count / sum / min / max of the numeric values (an int64 sum that
leaves its range is continued as a float64 of the same value; as found it wrapped, `stats_fold_int_sum_wraps_old`);
merging the statistics of any split, in any association and order, gives the statistics of the whole list (as found:
false when a merged part was text-only, `merge_hom_old_counterexample`); avg of the no-group path and of the group-by
bucket divide by the number of NUMERIC values (as found the bucket divided by the number of RECORDS,
`rb_avg_old_counterexample`); ingest-time and query-time statistics coincide on every list (as found: not on
digit-less strings such as "-", `ingest_stats_old_counterexample`); the group-by min/max `Reduce` agrees with
`ReduceMinMax` (as found: order dependent, `rb_minmax_order_old_counterexample`).
Also here: `bin span=… aligntime=T` (regenerated kernel = the floor model, the cells partition the time line) and the
distinct-value key of the .sst path and of the record path (C04.H).
-/
import SigModel.Gen.TimeBucket
import SigModel.Gen.BinAlign
import SigModel.Model.BinAlign
import SigModel.Lemmas.C04B
import SigModel.Spec.Logs
import SigModel.Lemmas.C04Sd
import SigModel.Lemmas.C04Se
import SigModel.Lemmas.C04Tc
import SigModel.Model.HllKey

namespace SigModel.Props.C04
open SigModel.Gen SigModel.MachInt

/-- inside the range no uint64 operation wraps: the bucket is the grid cell of the timestamp, the same `gridPoint` the
`bin` command's model is made of -/
theorem bucket_inside (start end_ step ts : Int) (h0 : 0 ≤ start) (hs : 0 < step) (h1 : start ≤ ts) (h2 : ts < end_)
    (hmax : end_ < 18446744073709551616) :
    FindTimeRangeBucket end_ start step ts = BinAlign.gridPoint step start ts := by
  have hnl : ¬ ts < start := Int.not_lt.mpr h1
  have hng : ¬ ts ≥ end_ := Int.not_le.mpr h2
  simp only [FindTimeRangeBucket, hnl, hng, decide_false, Bool.false_eq_true, ↓reduceIte]
  exact Lemmas.C04B.cell_noWrap start step ts h0 hs h1 (Int.lt_trans h2 hmax)

/-- C04.5 inside the range the bucket contains the timestamp and lies on the grid (that no other cell of the grid contains
it is `spec_bucket_unique`, tied to the kernel by `kernel_bucket_eq_spec`).
`start, end, step, ts` are uint64 values (no wrap occurs: stated as the explicit guard). -/
theorem bucket_partition (start end_ step ts : Int)
    (h0 : 0 ≤ start) (hs : 0 < step) (h1 : start ≤ ts) (h2 : ts < end_) (hmax : end_ < 18446744073709551616) :
    let b := FindTimeRangeBucket end_ start step ts
    b ≤ ts ∧ ts < b + step ∧ (b - start) % step = 0 := by
  intro b
  rw [show b = BinAlign.gridPoint step start ts from bucket_inside start end_ step ts h0 hs h1 h2 hmax]
  exact ⟨(Lemmas.C04B.gridPoint_le step start ts hs).1, (Lemmas.C04B.gridPoint_le step start ts hs).2,
    Lemmas.C04B.gridPoint_on_grid step start ts⟩

/-- the clamped branches, exactly as coded -/
theorem bucket_before_start (start end_ step ts : Int) (h : ts < start) :
    FindTimeRangeBucket end_ start step ts = start := by
  simp [FindTimeRangeBucket, h]

theorem bucket_at_or_after_end (start end_ step ts : Int) (h1 : start ≤ ts) (h : end_ ≤ ts) :
    FindTimeRangeBucket end_ start step ts =
      if end_ ≤ start then start
      else wrapU64 (start + wrapU64 (wrapU64 (Int.tdiv (wrapU64 (wrapU64 (end_ - 1) - start)) step) * step)) := by
  simp only [FindTimeRangeBucket, Int.not_lt.mpr h1, h, decide_true, decide_false, Bool.false_eq_true,
    ↓reduceIte, decide_eq_true_eq]

example : FindTimeRangeBucket 100 10 20 55 = 50 := by decide +kernel

/-! the cells of the SPECIFICATION's timechart (Spec/Logs.lean `bucketOf`, `tcBucket`) and their tie to the kernel -/
section SpecCells
open SigModel.Spec

/-- C04.5 (specification side) the cell `bucketOf` of the layout-free specification (Spec/Logs.lean, what the end-to-end
differential compares timecharts with) contains the timestamp and lies on the grid `start + k·span` -/
theorem spec_bucket_partition (start span ts : Nat) (hs : 0 < span) (h1 : start ≤ ts) :
    bucketOf start span ts ≤ ts ∧ ts < bucketOf start span ts + span ∧ (bucketOf start span ts - start) % span = 0 := by
  unfold bucketOf
  have a := Nat.div_mul_le_self (ts - start) span
  have b := Nat.lt_div_mul_add (a := ts - start) hs
  refine ⟨Nat.add_le_of_le_sub' h1 a, ?_, ?_⟩
  · rw [Nat.add_assoc]; exact (Nat.sub_lt_iff_lt_add' h1).mp b
  · rw [Nat.add_sub_cancel_left]; exact Nat.mul_mod_left _ _

/-- … and it is the ONLY cell of the grid that contains the timestamp: every event is counted in exactly one cell -/
theorem spec_bucket_unique (start span ts k : Nat) (h1 : start + k * span ≤ ts) (h2 : ts < start + k * span + span) :
    start + k * span = bucketOf start span ts := by
  unfold bucketOf
  have : (ts - start) / span = k := by
    apply Nat.div_eq_of_lt_le (Nat.le_sub_of_add_le' h1)
    rw [Nat.add_mul, Nat.one_mul]
    exact Nat.sub_lt_left_of_lt_add (Nat.le_trans (Nat.le_add_right _ _) h1) (Nat.add_assoc _ _ _ ▸ h2)
  rw [this]

/-- the specification's cell is the grid point of `bin … aligntime=start` (Model/BinAlign.lean) -/
theorem bucketOf_cast (start span ts : Nat) (h1 : start ≤ ts) :
    ((bucketOf start span ts : Nat) : Int) = BinAlign.gridPoint span start ts := by
  simp only [bucketOf, BinAlign.gridPoint, Int.natCast_add, Int.natCast_mul, Int.natCast_ediv, Int.natCast_sub h1]

/-- tie, inside the range: the regenerated kernel FindTimeRangeBucket computes exactly the specification's grid cell -/
theorem kernel_bucket_eq_spec_inside (start end_ step ts : Nat) (hs : 0 < step) (h1 : start ≤ ts) (h2 : ts < end_)
    (hmax : end_ < 18446744073709551616) :
    FindTimeRangeBucket end_ start step ts = ((bucketOf start step ts : Nat) : Int) := by
  rw [bucketOf_cast _ _ _ h1]
  exact bucket_inside start end_ step ts (Int.natCast_nonneg _) (Int.ofNat_lt.mpr hs) (Int.ofNat_le.mpr h1)
    (Int.ofNat_lt.mpr h2) (Int.ofNat_lt.mpr hmax)

/-- a timestamp exactly ON the end bound (the search stage matches `ts ≤ end`) is answered like `end − 1`: it lands in the
last cell of the grid (repair c04-8) -/
theorem kernel_end_eq_last (start end_ step : Nat) (h1 : start < end_) (hmax : end_ < 18446744073709551616) :
    FindTimeRangeBucket end_ start step end_ = FindTimeRangeBucket end_ start step ((end_ - 1 : Nat) : Int) := by
  have hse := Int.ofNat_lt.mpr h1
  have c : ((end_ - 1 : Nat) : Int) = (end_ : Int) - 1 := Int.natCast_sub (Nat.zero_lt_of_lt h1)
  have hlt := Int.sub_one_lt_of_le (Int.le_refl (end_ : Int))
  have hle := Int.le_sub_one_of_lt hse
  -- left: the clamped branch with `wrapU64 (end − 1) = end − 1`; right: the inner branch at `end − 1`
  rw [c, bucket_at_or_after_end _ _ _ _ (Int.le_of_lt hse) (Int.le_refl _), if_neg (Int.not_le.mpr hse),
    wrapU64_id (Int.le_trans (Int.natCast_nonneg _) hle) (Int.lt_trans hlt (Int.ofNat_lt.mpr hmax))]
  simp only [FindTimeRangeBucket, Int.not_lt.mpr hle, Int.not_le.mpr hlt, decide_false, Bool.false_eq_true, ↓reduceIte]

/-- C04.5 tie on the CLOSED range (full statement, holds since the repair c04-8): for every timestamp the search stage can
hand over, `start ≤ ts ≤ end`, the regenerated kernel computes exactly the specification's cell `tcBucket` — the grid cell
of `ts`, and for `ts = end` the last cell of the grid -/
theorem kernel_bucket_eq_spec (start end_ step ts : Nat) (hs : 0 < step) (h1 : start ≤ ts) (h2 : ts ≤ end_)
    (hmax : end_ < 18446744073709551616) :
    FindTimeRangeBucket end_ start step ts = ((tcBucket start end_ step ts : Nat) : Int) := by
  by_cases hlt : ts < end_
  · simp only [tcBucket, beq_false_of_ne (Nat.ne_of_lt hlt), Bool.false_and, Bool.false_eq_true, ↓reduceIte]
    exact kernel_bucket_eq_spec_inside start end_ step ts hs h1 hlt hmax
  · have he : ts = end_ := Nat.le_antisymm h2 (Nat.not_lt.mp hlt)
    subst he
    by_cases hse : start < ts
    · rw [Lemmas.C04B.tcBucket_end _ _ _ hse, kernel_end_eq_last start ts step hse hmax]
      exact kernel_bucket_eq_spec_inside start ts step (ts - 1) hs (Nat.le_sub_one_of_lt hse)
        (Nat.sub_one_lt (Nat.ne_of_gt (Nat.zero_lt_of_lt hse))) hmax
    · -- start = ts = end: the kernel answers `start`, and the grid from `ts` has `ts` in its first cell
      rw [Nat.le_antisymm h1 (Nat.not_lt.mp hse), tcBucket, decide_eq_false (Nat.lt_irrefl ts), Bool.and_false,
        if_neg Bool.false_ne_true, bucket_at_or_after_end _ _ _ _ (Int.le_refl _) (Int.le_refl _), if_pos (Int.le_refl _),
        bucketOf, Nat.sub_self, Nat.zero_div, Nat.zero_mul, Nat.add_zero]

/-- every matched event is therefore counted by the kernel in a cell of the grid that contains it or, for the end bound,
in the last cell of the grid: the kernel's answer is on the grid for the whole closed range -/
theorem kernel_bucket_on_grid (start end_ step ts : Nat) (hs : 0 < step) (h1 : start ≤ ts) (h2 : ts ≤ end_)
    (hmax : end_ < 18446744073709551616) :
    ∃ k : Nat, FindTimeRangeBucket end_ start step ts = ((start + k * step : Nat) : Int) := by
  -- the specification's cell is `bucketOf` of a timestamp: of `end − 1` or of `ts`
  rw [kernel_bucket_eq_spec start end_ step ts hs h1 h2 hmax, tcBucket, ← apply_ite (bucketOf start step)]
  exact ⟨_, rfl⟩

/-- an end bound ON the grid: the last cell is `[end − step, end]` (the end point does not open a cell of its own) -/
theorem kernel_end_on_grid (start end_ step : Nat) (hs : 0 < step) (h1 : start < end_) (hg : (end_ - start) % step = 0)
    (hmax : end_ < 18446744073709551616) :
    FindTimeRangeBucket end_ start step end_ = ((end_ - step : Nat) : Int) := by
  rw [kernel_bucket_eq_spec start end_ step end_ hs (Nat.le_of_lt h1) (Nat.le_refl _) hmax,
    Lemmas.C04B.tcBucket_end _ _ _ h1, bucketOf, Nat.sub_right_comm,
    Lemmas.C04B.pred_div_mul _ step (Nat.sub_pos_of_lt h1) hg,
    ← Nat.add_sub_assoc (Nat.le_of_dvd (Nat.sub_pos_of_lt h1) (Nat.dvd_of_mod_eq_zero hg)),
    Nat.add_sub_cancel' (Nat.le_of_lt h1)]

/-- AS FOUND (before the repair c04-8) the clamped branch answered `end − step` whatever the grid: when the end bound does
not lie on the grid that is no cell of the grid, and its span `[end − step, end)` does not contain the timestamp: witness
range [1, 11], step 3 → 8 (cells 1, 4, 7, 10).  Was replayed end to end as e2e/timechart/event-at-end-bound-off-grid. -/
theorem kernel_end_off_grid_old_counterexample :
    ¬ (∀ start end_ step : Nat, 0 < step → start < end_ → end_ < 18446744073709551616 →
        (FindTimeRangeBucketOld end_ start step end_ - start) % step = 0 ∧
        FindTimeRangeBucketOld end_ start step end_ ≤ end_ ∧ (end_ : Int) < FindTimeRangeBucketOld end_ start step end_ + step) :=
  fun h => absurd (h 1 11 3 (by decide) (by decide) (by decide)).1 (by decide +kernel)

/-- the same witness on the repaired kernel -/
example : FindTimeRangeBucket 11 1 3 11 = 10 ∧ FindTimeRangeBucket 10 1 3 10 = 7 ∧ FindTimeRangeBucket 5 5 3 5 = 5 := by decide +kernel

example : tcBucket 1 10 3 10 = 7 ∧ bucketOf 1 3 10 = 10 ∧ tcBucket 1 11 3 11 = 10 ∧ tcBucket 5 5 3 5 = 5 := by decide +kernel

end SpecCells

/-! spec-level algebra: count is additive over any split of the matched events
(so segmentation / parallel chains cannot change it in the specification) -/
open SigModel.Spec in
theorem spec_count_additive (xs ys : List Event) :
    evalAgg (xs ++ ys) .count = .num ((xs.length + ys.length : Nat)) :=
  congrArg (fun n : Nat => AggVal.num n) List.length_append

/-! ## bin span=<n><unit> aligntime=T on the timestamp field (new pipeline)

Kernel REGENERATED on every run from pkg/segment/query/processor/bincommand.go `getTimeBucketWithAlign`
(SigModel/Gen/BinAlign.lean; float64 steps read as exact rationals, time.Time as nanoseconds — SigModel/Model/TimePrims.lean);
specification SigModel/Model/BinAlign.lean (`bucket`: floor semantics on the grid T + k·span); the real function and
performBinWithSpanTime are compared with it by suite `binalign` (timestamps below / at / above the align time). -/
section BinAlign
open SigModel.BinAlign SigModel.TimePrims SigModel.Lemmas.C04B

theorem bin_align_kernel_eq_model (ts T n m : Int)
    (hn : 0 < n) (hm : 0 < m) (hspan : n * m * 1000000 < 9223372036854775808)
    (hT0 : 0 ≤ T) (hT : T < 4611686018427387904) (hts0 : -4611686018427387904 < ts) (hts : ts < 4611686018427387904) :
    getTimeBucketWithAlign (timeOfUnixMilli ts) (m * 1000000) ((n : Int) : Rat) false T = bucket (n * m) T ts := by
  have hnm : 0 < n * m := Int.mul_pos hn hm
  have hc := gridPoint_le (n * m) T ts hnm
  unfold getTimeBucketWithAlign
  -- factorInMillisecond is the span n·m: rewritten while it still stands once, under its `let`
  rw [if_neg Bool.false_ne_true, spanNs n m hn hm hspan, timeUnixMilli_ofMilli, Int.mul_tdiv_cancel _ (by decide),
    wrapS64_id (n * m) (Int.le_trans (by decide) (Int.le_of_lt hnm))
      (Int.lt_of_mul_lt_mul_right (Int.lt_of_lt_of_le hspan (by decide)) (by decide : (0 : Int) ≤ 1000000))]
  dsimp only
  rw [gridPoint_cast _ _ _ hnm, ratTrunc_intCast, wrapS64_cell (n * m) _ ts hspan hts0 hts hc.1 hc.2]
  simp only [decide_eq_true_eq, bucket]

/-- the model bucket: containment, grid alignment (unless clamped to 0), and uniqueness of the cell -/
theorem bin_align_model_partition (span T ts : Int) (hs : 0 < span) (hts : 0 ≤ ts) :
    let b := bucket span T ts
    b ≤ ts ∧ ts < b + span ∧ ((b - T) % span = 0 ∨ (b = 0 ∧ gridPoint span T ts < 0)) ∧
    (∀ g : Int, (g - T) % span = 0 → g ≤ ts → ts < g + span → b = if g < 0 then 0 else g) := by
  obtain ⟨hle, hub⟩ := gridPoint_le span T ts hs
  refine ⟨?_, ?_, ?_, fun g h1 h2 h3 => by rw [gridPoint_unique span T ts g h1 h2 h3]; rfl⟩
  -- each of the first three claims twice: for the clamped cell (grid point below 0, bucket 0) and for the grid point
  all_goals
    unfold bucket
    split
  · exact hts
  · exact hle
  · exact Int.lt_trans hub (Int.add_lt_add_right ‹_› span)
  · exact hub
  · exact Or.inr ⟨rfl, ‹_›⟩
  · exact Or.inl (gridPoint_on_grid span T ts)

/-- C04 (bin with align time; kernel REGENERATED from bincommand.go getTimeBucketWithAlign on every run): for a span of n units
of m milliseconds (time scales ms … h of performBinWithSpanTime: durationScale = m·10⁶ ns), every align time T and every
timestamp ts — BEFORE, AT or AFTER the align time — the bucket b the code computes satisfies b ≤ ts < b + span, lies on the grid
T + k·span (k any integer: floor semantics below T; the one cell whose left edge would be negative is reported as 0), and is the
only such cell: the buckets partition the time line, each event is counted in the bucket whose span contains its timestamp.
Guards: magnitudes below 2^62 (so that the int64 casts do not wrap; float64 steps are read exactly, see trusted base). -/
theorem bin_align_partition (ts T n m : Int)
    (hn : 0 < n) (hm : 0 < m) (hspan : n * m * 1000000 < 9223372036854775808)
    (hT0 : 0 ≤ T) (hT : T < 4611686018427387904) (hts0 : 0 ≤ ts) (hts : ts < 4611686018427387904) :
    let span := n * m
    let b := getTimeBucketWithAlign (timeOfUnixMilli ts) (m * 1000000) ((n : Int) : Rat) false T
    b ≤ ts ∧ ts < b + span ∧ ((b - T) % span = 0 ∨ (b = 0 ∧ gridPoint span T ts < 0)) ∧
    (∀ g : Int, (g - T) % span = 0 → g ≤ ts → ts < g + span → b = if g < 0 then 0 else g) := by
  rw [bin_align_kernel_eq_model ts T n m hn hm hspan hT0 hT (Int.lt_of_lt_of_le (by decide) hts0) hts]
  exact bin_align_model_partition (n * m) T ts (Int.mul_pos hn hm) hts0

/-- two timestamps that get the same bucket are less than one span apart (not conversely: a grid point may lie between them) -/
theorem bin_align_same_bucket_close (span T t1 t2 : Int) (hs : 0 < span) (h1 : 0 ≤ t1) (h2 : 0 ≤ t2)
    (he : bucket span T t1 = bucket span T t2) : t1 - t2 < span ∧ t2 - t1 < span := by
  obtain ⟨a1, a2, -⟩ := bin_align_model_partition span T t1 hs h1
  obtain ⟨b1, b2, -⟩ := bin_align_model_partition span T t2 hs h2
  rw [he] at a1 a2
  exact ⟨Int.sub_left_lt_of_lt_add (Int.lt_of_lt_of_le a2 (Int.add_le_add_right b1 span)),
    Int.sub_left_lt_of_lt_add (Int.lt_of_lt_of_le b2 (Int.add_le_add_right a1 span))⟩

/-- the integer-division variant (Go's `/` on int64 rounds toward zero) does NOT satisfy the partition: a timestamp before
the align time is put into the NEXT cell, whose span does not contain it -/
theorem bin_align_trunc_counterexample :
    ¬ (∀ span T ts : Int, 0 < span → 0 ≤ ts → bucketTrunc span T ts ≤ ts) :=
  fun h => absurd (h 10 100 95 (by decide) (by decide)) (by decide +kernel)

/-- the guards of bin_align_partition are satisfiable with a timestamp before the align time, and the kernel floors there -/
example : getTimeBucketWithAlign (timeOfUnixMilli 1720311600000) (3600000 * 1000000) ((1 : Int) : Rat) false 1720312800000 = 1720309200000 :=
  (bin_align_kernel_eq_model _ _ 1 3600000 (by decide) (by decide) (by decide) (by decide) (by decide) (by decide)
    (by decide)).trans (by decide +kernel)

/-- without an align time the regenerated kernel (time.Truncate: multiples of the span counted from Go's zero time) equals the
model `bucketNoAlign`, and the bucket contains the timestamp: b ≤ ts < b + span -/
theorem bin_noalign_kernel_eq_model (ts T n m : Int)
    (hn : 0 < n) (hm : 0 < m) (hspan : n * m * 1000000 < 9223372036854775808)
    (hts0 : 0 ≤ ts) (hts : ts < 4611686018427387904) :
    let b := getTimeBucketWithAlign (timeOfUnixMilli ts) (m * 1000000) ((n : Int) : Rat) true T
    b = bucketNoAlign (n * m) ts ∧ b ≤ ts ∧ ts < b + n * m := by
  have hnm : 0 < n * m := Int.mul_pos hn hm
  have hc := bucketNoAlign_le (n * m) ts hnm
  intro b
  have hb : b = bucketNoAlign (n * m) ts := by
    unfold b getTimeBucketWithAlign
    rw [if_pos rfl, spanNs n m hn hm hspan, timeTruncate_ofMilli _ ts hnm, timeUnixMilli_ofMilli,
      wrapS64_cell (n * m) _ ts hspan (Int.lt_of_lt_of_le (by decide) hts0) hts hc.1 hc.2]
  exact ⟨hb, hb ▸ hc⟩

end BinAlign

end SigModel.Props.C04

/-! ## Kernel slice: running statistics of a measure field and their merge

Model: SigModel/Model/Stats.lean (query-time adders `foldQ`, ingest-time adders `foldI`, `mergeO` = MergeSegStats on one
column, `derive` = the answers GetSegCount/Sum/Avg/Min/Max give, group-by bucket `foldRB` / `resultRB`).  All theorems
are for `rnd = exact` (exact float arithmetic) and for EVERY list of values: absent fields, ints, floats, strings.
Vocabulary (SigModel/Lemmas/C04Se.lean): `numbers vs` = the numeric values as exact rationals (numeric strings included),
`total` = their mathematical sum, `present vs` = number of events having the field,
`NoInt64Overflow vs` = Σ|int values| < 2^63, `IsMinOf c xs` = cell `c` holds the least element of `xs` (no number when
`xs = []`). -/
namespace SigModel.Props.C04
open SigModel.Stats SigModel.MachInt

/-- C04.1 `stats_fold_eq_spec`: for every list of values the folded statistics hold exactly the mathematical
aggregates of the numeric values — count of events having the field, number of numeric values, their sum, least and
greatest.  No guard: since patch c04-15 an integer sum that leaves int64 is continued as a float64 (for the code as found
the statement needed `NoInt64Overflow`, see `stats_fold_int_sum_wraps_old` / `stats_fold_eq_spec_counterexample_old`). -/
theorem stats_fold_eq_spec (vs : List Val) :
    match foldQ exact vs with
    | none => present vs = 0
    | some st =>
      st.count = present vs ∧
      st.isNumeric = !(numbers vs).isEmpty ∧
      (match st.num with
        | none => numbers vs = []
        | some ns => ns.ncount = (numbers vs).length ∧ ns.sum.toRat = total (numbers vs) ∧ numbers vs ≠ []) ∧
      IsMinOf st.min (numbers vs) ∧ IsMaxOf st.max (numbers vs) :=
  (statsOf_foldQ vs).spec

/-- the code AS FOUND (`addSumOld` / `sumCellOld`, the running sum before patch c04-15): as long as no float (or numeric
string) had arrived the sum cell was ALWAYS the mathematical sum wrapped to int64 — every list of numeric values -/
theorem stats_fold_int_sum_wraps_old (ns : List Num) (h : anyFlt ns = false) :
    sumCellOld ns = .int (wrapS64 (intSum ns)) :=
  Int.zero_add (intSum ns) ▸ foldl_addSumOld_ints ns h 0

/-- … so 2^62 + 2^62 was reported as −2^63 (recorded as stats/int64-sum-overflow, repaired by patch c04-15: the sum cell
of the fixed code holds 2^63 as a float64) -/
theorem stats_fold_eq_spec_counterexample_old :
    sumCellOld [.int 4611686018427387904, .int 4611686018427387904] = .int (-9223372036854775808) ∧
    (sumCellOld [.int 4611686018427387904, .int 4611686018427387904]).toRat
      ≠ ratSum [.int 4611686018427387904, .int 4611686018427387904] ∧
    (sumCell [.int 4611686018427387904, .int 4611686018427387904]).toRat
      = ratSum [.int 4611686018427387904, .int 4611686018427387904] :=
  ⟨by decide +kernel, by decide +kernel, sumCell_toRat _⟩

/-- range (getRange as fixed by patch c04-15): for int64 max ≥ min the answer is max − min as a number, an int64 when it
fits and the float64 otherwise; before, 2^62 − (−2^62) was answered −2^63 (stats/int64-range-overflow) -/
theorem range_eq_max_minus_min (a b : Int) (hab : b ≤ a)
    (ha : a ≤ 9223372036854775807) (hb : -9223372036854775808 ≤ b) :
    ∃ c, rangeOf exact (.int a) (.int b) = some c ∧ c.rat? = some ((a : Rat) - (b : Rat)) := by
  by_cases hd : wrapS64 (a - b) < 0
  · exact ⟨_, if_pos hd, rfl⟩
  · refine ⟨_, if_neg hd, ?_⟩
    rw [wrapS64_of_not_neg (Int.sub_nonneg_of_le hab) (Int.lt_of_le_of_lt (Int.sub_le_sub ha hb) (by decide)) hd]
    exact congrArg some (Rat.intCast_sub a b)

theorem range_old_counterexample :
    rangeOfOld exact (.int 4611686018427387904) (.int (-4611686018427387904)) = some (.int (-9223372036854775808)) := by
  decide +kernel

example : NoInt64Overflow [.int 5, .absent, .flt 3, .str [49, 50], .str [97]] := by decide +kernel

/-- C04.3a `avg_eq_sum_div_numeric_count` (no group-by path: GetSegAvg → getAverage(Sum, NumericCount)): the average
answered is the mathematical sum of the numeric values divided by THEIR number — events lacking the field and text
values do not enter the denominator; without a numeric value there is no answer. -/
theorem avg_eq_sum_div_numeric_count (vs : List Val) :
    (derive exact (foldQ exact vs)).avg =
      if numbers vs = [] then none else some (.flt (total (numbers vs) / ((numbers vs).length : Rat))) :=
  (statsOf_foldQ vs).avg

/-- count(x) of the no-group path is the number of events that have the field -/
theorem count_eq_present (vs : List Val) :
    (derive exact (foldQ exact vs)).count = if present vs = 0 then none else some (.int (present vs)) :=
  (statsOf_foldQ vs).count

/-- C04.2 `merge_hom`: the statistics of a concatenation are the merge of the statistics of its two halves, for every
split of every list, NO guard (patches c04-1 and c04-15).  `oview` reads the sum cell as the number it denotes: a sum
that left int64 on one way of computing it and not on the other is the float64 4.611686018427388e18 here and the int64
4611686018427387904 there — the same number; everything else (IsNumeric, counts, min, max) is equal as it stands.
(`merge_hom_exact`: while no int64 sum can leave its range the two sides are identical, cell types included.) -/
theorem merge_hom (xs ys : List Val) :
    oview (mergeO exact (foldQ exact xs) (foldQ exact ys)) = oview (foldQ exact (xs ++ ys)) :=
  ((statsOf_foldQ xs).merge (statsOf_foldQ ys)).oview_eq (statsOf_foldQ _)

theorem merge_hom_exact (xs ys : List Val) (hov : NoInt64Overflow (xs ++ ys)) :
    mergeO exact (foldQ exact xs) (foldQ exact ys) = foldQ exact (xs ++ ys) :=
  ((statsOf_foldQ xs).merge (statsOf_foldQ ys)).eq (statsOf_foldQ _) hov

/-- why `oview`: the TYPE of the sum cell may depend on the split once a partial sum leaves int64 — the value does not -/
theorem merge_cell_type_example :
    (foldQ exact [.int 4611686018427387904, .int 4611686018427387904, .int (-4611686018427387904)]).map
        (fun s => s.num.map (fun n => n.sum.isFlt)) = some (some true) ∧
    (mergeO exact (foldQ exact [.int 4611686018427387904])
        (foldQ exact [.int 4611686018427387904, .int (-4611686018427387904)])).map
        (fun s => s.num.map (fun n => n.sum.isFlt)) = some (some false) := by
  decide +kernel

/-- the code AS FOUND (`mergeOOld`): `SegStats.Merge` kept the IsNumeric flag of its receiver, so a first part holding
only text made the merged statistics non-numeric although the second part has the number 5; GetSegSum / GetSegAvg
then refused to answer (structs/segstructs.go Merge, segstatsreader.go:437, 625).  Recorded as
stats/MergeSegStats/first-part-text-only, repaired by patch c04-1. -/
theorem merge_hom_old_counterexample :
    ¬ (∀ xs ys : List Val, NoInt64Overflow (xs ++ ys) →
        mergeOOld exact (foldQ exact xs) (foldQ exact ys) = foldQ exact (xs ++ ys)) :=
  -- the two sides differ in their IsNumeric flag: false after the old merge, true on the unsplit list
  fun hall => absurd (congrArg (Option.map (·.isNumeric)) (hall [.str [97]] [.int 5] (by decide +kernel)))
    (by decide +kernel)

/-- … with the visible consequence: the old merge lost sum (and avg) that the unsplit list reports; the fixed one keeps it -/
theorem merge_old_loses_sum_example :
    (derive exact (mergeOOld exact (foldQ exact [.str [97]]) (foldQ exact [.int 5]))).sum = none ∧
    (derive exact (mergeO exact (foldQ exact [.str [97]]) (foldQ exact [.int 5]))).sum = some (.int 5) ∧
    (derive exact (foldQ exact [.str [97], .int 5])).sum = some (.int 5) := by
  decide +kernel

/-- merge is commutative on reachable statistics (no guard) -/
theorem merge_comm (xs ys : List Val) :
    oview (mergeO exact (foldQ exact xs) (foldQ exact ys)) = oview (mergeO exact (foldQ exact ys) (foldQ exact xs)) :=
  ((statsOf_foldQ xs).merge (statsOf_foldQ ys)).oview_eq ((statsOf_foldQ ys).merge (statsOf_foldQ xs)).comm

/-- merge is associative on reachable statistics (no guard) -/
theorem merge_assoc (xs ys zs : List Val) :
    oview (mergeO exact (mergeO exact (foldQ exact xs) (foldQ exact ys)) (foldQ exact zs)) =
      oview (mergeO exact (foldQ exact xs) (mergeO exact (foldQ exact ys) (foldQ exact zs))) :=
  (((statsOf_foldQ xs).merge (statsOf_foldQ ys)).merge (statsOf_foldQ zs)).oview_eq
    (List.append_assoc xs ys zs ▸ (statsOf_foldQ xs).merge ((statsOf_foldQ ys).merge (statsOf_foldQ zs)))

/-- any segmentation: merging the statistics of the parts of ANY split of the events, batch after batch, gives the
statistics of the unsplit list (with `merge_comm` / `merge_assoc`: in any order and association, i.e. for any
parallel schedule) — no guard -/
theorem merge_segmentation (ps : List (List Val)) : oview (mergeAll ps) = oview (foldQ exact ps.flatten) :=
  (statsOf_mergeAll ps).oview_eq (statsOf_foldQ _)

/-- C04.4 `ingest_stats_eq_query_stats`: the ingest-time adders (what the .sst fast path and unrotated segments serve)
and the query-time adders leave the SAME statistics on the same values, for EVERY list — numeric strings included.
(Code as FIXED by patches c04-2 and c04-4: both paths use FastParseFloat, which now wants a mantissa digit.) -/
theorem ingest_stats_eq_query_stats (vs : List Val) : foldI exact vs = foldQ exact vs :=
  foldIWith_eq_foldQWith _ _ vs

/-- the code AS FOUND: the paths agreed only when no string was a digit-less FastParseFloat form … -/
theorem ingest_stats_old_partial (vs : List Val) (h : NoDigitlessForm vs) : foldIOld exact vs = foldQOld exact vs :=
  (foldIWith_eq_foldQWith _ _ vs).trans (foldQWith_congr _ _ _ vs (fun s hs => parseFastOld_eq_parseStd s (h s hs)))

/-- … and the excluded class was real: the single value "-" (45) was a NUMBER (0) for the ingest-time statistics and text
for the query-time statistics (utils/numutils.go FastParseFloat accepted an empty digit string; packer.go:1635).
Recorded as stats/addSegStatsStrIngestion/no-digit-string, repaired by patch c04-2. -/
theorem ingest_stats_old_counterexample : ¬ (∀ vs : List Val, foldIOld exact vs = foldQOld exact vs) :=
  -- the IsNumeric flags differ: true at ingest time, false at query time
  fun hall => absurd (congrArg (Option.map (·.isNumeric)) (hall [.str [45]])) (by decide +kernel)

/-- the string rules: the fixed FastParseFloat is strconv.ParseFloat on the decimal alphabet (same strings, same value);
the old one computed the same VALUE on everything it scanned but also accepted the digit-less forms -/
theorem numeric_string_rules (s : Str) :
    parseFast exact s = parseStd exact s ∧
    (HasMantissaDigit s → parseFastOld exact s = parseStd exact s) ∧
    (∀ d, scanDec s = some d → d.ip = [] ∧ d.fp = [] →
      (parseFastOld exact s).isSome = true ∧ parseStd exact s = none ∧ parseFast exact s = none) :=
  ⟨parseFast_eq_parseStd s, parseFastOld_eq_parseStd s, fun d hs h0 => parse_differ_of_no_digit s d hs h0⟩

example : NoDigitlessForm [.str [49, 50], .str [51, 46, 53], .str [97, 98], .int 3, .absent] := by
  intro s hs d hd
  simp only [List.mem_cons, Val.str.injEq, reduceCtorEq, List.not_mem_nil, or_false] at hs
  rcases hs with rfl | rfl | rfl <;> cases hd <;> decide

/-- C04.3b `rb_avg_eq_sum_div_numeric_count`, the group-by bucket (`stats avg(x), count(x) by g`), code as FIXED by the
patches c04-7, c04-11 and c04-13: for every list of records the bucket's Sum cell is the mathematical sum of the values
that are numbers — int, float and, like in the statistics without a by clause, strings that FastParseFloat reads as
numbers — the average it answers is that sum divided by the number of records that HAVE such a value (events lacking x and
text values do not enter the denominator), and count(x) is the number of records that have a value for x. -/
theorem rb_avg_eq_sum_div_numeric_count (vs : List Val) (hne : nums (parseFast exact) vs ≠ []) :
    ∃ b, foldRB exact vs = some b ∧
      (resultRB exact b).avg = .flt (ratSum (nums (parseFast exact) vs) / ((nums (parseFast exact) vs).length : Rat)) ∧
      (resultRB exact b).count = present vs := by
  obtain ⟨mn, mx, s, hs, hb⟩ := (bucketOf_foldRBWith (parseFast exact) vs).of_ne_nil (fun h => hne (h ▸ rfl))
  refine ⟨_, hb, ?_, rfl⟩
  have ht := hs.toRat
  generalize nums (parseFast exact) vs = ns at ht hne ⊢
  cases ns with
  | nil => exact absurd rfl hne
  -- `eq_refl`, here and below: `rfl` tries further ways of closing the goal first and is slow to check
  | cons a r => rw [← ht]; cases s <;> eq_refl

/-- C04.3c `rb_count_eq_present` (patch c04-11), full strength — no guard at all: count(x) of a group is the number of its
records that have a value for x (a number, numeric text or text), whatever the values are; same number as the statistics
without a by clause report (`count_eq_present`) -/
theorem rb_count_eq_present (vs : List Val) (hne : vs ≠ []) :
    ∃ b, foldRB exact vs = some b ∧ (resultRB exact b).count = present vs ∧ b.n = vs.length := by
  obtain ⟨_, _, _, _, hb⟩ := (bucketOf_foldRBWith (parseFast exact) vs).of_ne_nil hne
  exact ⟨_, hb, rfl, rfl⟩

/-- the code AS FOUND (`resultRBOld`): the average was the sum divided by the number of RECORDS of the group
(blockresult.go `sumRawVal / float64(bucket.count)`), exact characterisation … -/
theorem rb_avg_old_divides_by_record_count (vs : List Val) (hne : nums (parseFast exact) vs ≠ []) :
    ∃ b, foldRB exact vs = some b ∧
      (resultRBOld exact b).avg = .flt (ratSum (nums (parseFast exact) vs) / (vs.length : Rat)) := by
  have hvne : vs ≠ [] := fun h => hne (h ▸ rfl)
  obtain ⟨mn, mx, s, hs, hb⟩ := (bucketOf_foldRBWith (parseFast exact) vs).of_ne_nil hvne
  refine ⟨_, hb, ?_⟩
  have hlen : vs.length ≠ 0 := fun hl => hvne (List.length_eq_zero_iff.mp hl)
  simp only [resultRBOld, CV.float?_exact, sumCellWith_rat? _ hs, if_neg hne, if_neg hlen, exact_apply]

/-- … so over the two events `x = 5` and `x absent` it answered 5/2, the fixed code answers 5; count(x) was 2 — the records
of the group (`resultRBCountOld`) — and is 1 since patch c04-11 (recorded as stats/groupby-avg-count/record-count; the avg
part repaired by patch c04-7, the count part by c04-11) -/
theorem rb_avg_old_counterexample :
    ∃ b, foldRB exact [.int 5, .absent] = some b ∧ (resultRBOld exact b).avg = .flt (5 / 2) ∧
      (resultRB exact b).avg = .flt 5 ∧ (resultRB exact b).count = 1 ∧ (resultRBCountOld exact b).count = 2 ∧
      (5 : Rat) / 2 ≠ total (numbers [.int 5, .absent]) / ((numbers [.int 5, .absent]).length : Rat) :=
  ⟨_, rfl, by decide +kernel⟩

/-- C04.3d (patch c04-13) the group-by bucket and the statistics without a by clause take the SAME values for numbers:
the Sum cell of a group is the sum over `nums (parseFast exact)`, the very list `stats_fold_eq_spec` is about — numeric
text included.  BEFORE the patch (`foldRBStrOld`) the bucket summed over `nums noParse`: no string counted, so
`stats sum(x) by g` and `stats sum(x)` disagreed on a group that holds numeric text … -/
theorem rb_sum_same_numbers_as_no_group (vs : List Val) (h : absIntSum (nums (parseFast exact) vs) < 9223372036854775808)
    (hne : vs ≠ []) :
    ∃ b, foldRB exact vs = some b ∧ b.sum = rbSum (nums (parseFast exact) vs) ∧ b.nc = (nums (parseFast exact) vs).length := by
  obtain ⟨_, _, s, hs, hb⟩ := (bucketOf_foldRBWith (parseFast exact) vs).of_ne_nil hne
  exact ⟨_, hb, congrArg (sumCellWith _) (hs.spec h), rfl⟩

theorem rb_sum_old_ignores_strings (vs : List Val) (h : absIntSum (nums noParse vs) < 9223372036854775808) (hne : vs ≠ []) :
    ∃ b, foldRBStrOld exact vs = some b ∧ b.sum = rbSum (nums noParse vs) := by
  obtain ⟨_, _, s, hs, hb⟩ := (bucketOf_foldRBWith noParse vs).of_ne_nil hne
  exact ⟨_, hb, congrArg (sumCellWith _) (hs.spec h)⟩

/-- … witness: the records `x = "5"` (text that is a number) and `x = 7`: the old bucket reports the sum 7 (and the
average 7), the fixed one 12 (and 6), which is what `stats sum(x), avg(x)` without by reports -/
theorem rb_numeric_string_old_counterexample :
    (foldRBStrOld exact [.str [53], .int 7]).map (·.sum) = some (.int 7) ∧
    (foldRB exact [.str [53], .int 7]).map (·.sum) = some (.flt 12) ∧
    (foldRB exact [.str [53], .int 7]).map (·.nc) = some 2 ∧
    (foldRBStrOld exact [.str [53], .int 7]).map (·.nc) = some 1 := by
  decide +kernel

/-- merge of group-by buckets (`MergeRunningBuckets`, what joins the per-segment / per-batch buckets of one group): the
record count, the Sum cell read as a number, its numeric count and the Count cell of the merged bucket are those of the
unsplit list, for every split of every list, no guard (patch c04-15: an int64 sum that leaves its range becomes a float64,
so only the TYPE of the Sum cell may depend on the split) — sum, count(x) and average of a group do not depend on the
segmentation -/
theorem rb_merge_hom_count_sum (xs ys : List Val) :
    (mergeRB exact (foldRB exact xs) (foldRB exact ys)).map (fun b => (b.n, b.sum.rat?, b.nc, b.cx)) =
      (foldRB exact (xs ++ ys)).map (fun b => (b.n, b.sum.rat?, b.nc, b.cx)) :=
  ((bucketOf_foldRBWith _ xs).merge (bucketOf_foldRBWith _ ys)).map_eq (bucketOf_foldRBWith _ _) CV.rat?
    (fun _ _ hs ht => (sumCellWith_rat? _ hs).trans (sumCellWith_rat? _ ht).symm)

/-- … identical, cell types included, while no int64 sum can leave its range -/
theorem rb_merge_hom_count_sum_exact (xs ys : List Val) (h : absIntSum (nums (parseFast exact) (xs ++ ys)) < 9223372036854775808) :
    (mergeRB exact (foldRB exact xs) (foldRB exact ys)).map (fun b => (b.n, b.sum, b.nc, b.cx)) =
      (foldRB exact (xs ++ ys)).map (fun b => (b.n, b.sum, b.nc, b.cx)) :=
  ((bucketOf_foldRBWith _ xs).merge (bucketOf_foldRBWith _ ys)).map_eq (bucketOf_foldRBWith _ _) id
    (fun _ _ hs ht => by rw [hs.spec h, ht.spec h])

/-- the code AS FOUND (`foldRBOld` / `mergeRBOld`): the group-by bucket's min / max over a measure field of mixed type
depended on the ORDER of the events: once the cell held a string, `sutils.Reduce` rejected every number
(aggutils.go returned an error for a string e1, ProcessReduce kept the cell), while a number that came first beat every
later string.  Recorded as stats/groupby-minmax/text-before-number, repaired by patch c04-3. -/
theorem rb_minmax_order_old_counterexample :
    (foldRBOld exact [.str [97], .int 5]).map (·.min) = some (.str [97]) ∧
    (foldRBOld exact [.int 5, .str [97]]).map (·.min) = some (.int 5) ∧
    (mergeRBOld exact (foldRBOld exact [.str [97]]) (foldRBOld exact [.int 5])).map (·.max) = some (.str [97]) ∧
    (mergeRBOld exact (foldRBOld exact [.int 5]) (foldRBOld exact [.str [97]])).map (·.max) = some (.int 5) := by
  decide +kernel

/-- the fixed `Reduce` never fails on these cells and agrees with `ReduceMinMax` (the rule of the no-group path) on every
pair of cells a bucket can hold — so the number wins whichever comes first -/
theorem rb_reduce_fixed (isMin : Bool) (a b : CV) (hb : b ≠ .invalid) :
    reduceMM exact isMin a b = some (reduceMinMax exact isMin a b) := by
  cases b with
  | invalid => exact absurd rfl hb
  | _ => cases a <;> eq_refl

example :
    (foldRB exact [.str [97], .int 5]).map (·.min) = some (.int 5) ∧
    (foldRB exact [.int 5, .str [97]]).map (·.min) = some (.int 5) ∧
    (mergeRB exact (foldRB exact [.str [97]]) (foldRB exact [.int 5])).map (·.max) = some (.int 5) := by
  decide +kernel

end SigModel.Props.C04

/-! ## C04.H the distinct-value key: a segment answered from its .sst file and a segment recomputed from its records count
a value ONCE (Model/HllKey.lean; suite hllkey; end to end: e2e_c03 / e2e_c04 tag sst-and-raw-in-one-query).  Code as FIXED
by patch c04-16; the former query-time key is `hllKeyQueryOld`. -/
namespace SigModel.Props.C04
open SigModel.Stats SigModel.HllKey SigModel.MachInt

/-- C04.H1 `hll_key_ingest_eq_query`: for EVERY value — every integer, every float, every string (numeric text included),
an absent field — the ingest-time statistics (.sst) and the query-time statistics feed the sketch the SAME bytes. -/
theorem hll_key_ingest_eq_query (v : Val) : hllKeyIngest v = hllKeyQuery v := by
  cases v <;> eq_refl

/-- C04.H2 the keys of two int64 are equal only if the integers are: the sketch separates distinct integers and, with H1,
counts an integer that occurs in an .sst-answered and in a recomputed segment once. -/
theorem i64Key_injective (a b : Int) (ha : fitsI64 a) (hb : fitsI64 b) (h : i64Key a = i64Key b) : a = b := by
  -- the keys determine `wrapU64`, hence `wrapS64`, which is the identity on the int64 range
  have h2 := congrArg ofLe h
  dsimp only [i64Key] at h2
  rw [ofLe_leBytes, ofLe_leBytes, Nat.mod_eq_of_lt (wrapU64_toNat_lt a), Nat.mod_eq_of_lt (wrapU64_toNat_lt b)] at h2
  have hw : wrapU64 a = wrapU64 b := by
    rw [← Int.toNat_of_nonneg (wrapU64_range a).1, h2, Int.toNat_of_nonneg (wrapU64_range b).1]
  have hs : wrapS64 a = wrapS64 b :=
    congrArg (· - 9223372036854775808) (Int.add_emod_eq_add_emod_right 9223372036854775808 hw)
  have id : ∀ x, fitsI64 x = true → wrapS64 x = x := fun x hx =>
    wrapS64_id x (of_decide_eq_true hx).1 (Int.lt_of_le_of_lt (of_decide_eq_true hx).2 (by decide))
  rwa [id a ha, id b hb] at hs

/-- C04.H3 `merged_sketch_same_keys` (full strength, every value list): the union of the sketch of a segment answered from
its .sst file (`keysI vs`) with the sketch of ANY segment recomputed from records (`keysQ ws`) is the list of keys of the
one-path computation over all the values: nothing is counted twice, whatever the split. -/
theorem merged_sketch_same_keys (vs ws : List Val) : keysI vs ++ keysQ ws = keysI (vs ++ ws) := by
  -- by H1 both sketches are `filterMap` of the same key function
  rw [keysQ, ← funext hll_key_ingest_eq_query]
  exact List.filterMap_append.symm

/-- the code AS FOUND agreed on every value that is not numeric text … -/
theorem hll_key_old_partial (rnd : Rat → Rat) (v : Val) (h : ¬ NumericText rnd v) :
    hllKeyIngest v = hllKeyQueryOld rnd v := by
  cases v with
  | str s =>
    dsimp only [hllKeyIngest, hllKeyQueryOld]
    rw [Option.not_isSome_iff_eq_none.mp h]
  | _ => eq_refl

/-- … and the excluded class was real: a numeric text whose length is not 8 bytes ("7", "007", "2.50") entered the sketch as
its text at ingest time and as the 8 bytes of the number at query time, so `dc` of a column holding such strings counted
the value twice when one segment was answered from .sst and another from records (recorded as
stats/hll-key/numeric-text-counted-twice, e2e/stats/dc-over-numeric-text; repaired by patch c04-16). -/
theorem hll_key_old_numeric_text_differs (rnd : Rat → Rat) (s : Str) (q : Rat) (hp : parseFast rnd s = some q) (hl : s.length ≠ 8) :
    hllKeyIngest (.str s) ≠ hllKeyQueryOld rnd (.str s) := by
  dsimp only [hllKeyIngest, hllKeyQueryOld]
  rw [hp]
  exact fun h => hl ((congrArg List.length (Option.some.inj h)).trans (leBytes_length 8 _))

/-- the guard of `hll_key_old_partial` is satisfiable and its complement is inhabited: "abc" is no numeric text (exact
arithmetic) -/
example : ¬ NumericText exact (.str [97, 98, 99]) := by decide

end SigModel.Props.C04
