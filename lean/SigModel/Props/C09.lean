/-
C09 — Metric queries compute PromQL-consistent answers (results layer).
Property theorems only.  Model: SigModel/Model/Promql.lean (series-id strings, group keys cut out of the id
string, downsampling buckets, aggregation folds — as coded).  Helper lemmas: Lemmas/C09*.lean.

Byte strings are `List Nat`; in the concrete witnesses below
  "m" = [109]   "a" = [97]   "b" = [98]   "ba" = [98,97]   "1" = [49]   "2" = [50]   "3" = [51]
  "," = 44   ":" = 58   "{" = 123.

NOT decided here (see lib/props.py `partial`): selector/matcher evaluation on the tags tree, the PromQL
parser, range/math/label functions, topk/bottomk/stddev/stdvar/quantile, group_left/group_right and scalar
operands of binary operators (the vector–vector case without matching clause is §6, matching on all labels /
on(…) / ignoring(…) in the specification is §7), float64
rounding of the avg quotient (the theorems speak about exact rationals over integer samples).
-/
import SigModel.Model.Promql
import SigModel.Lemmas.C09rel
import SigModel.Lemmas.C09bin
import SigModel.Spec.Metrics

namespace SigModel.Props.C09
open SigModel.Promql

/-- guard: every series of the query satisfies `LabelSafe` (no ',' '{' in the metric name, no ',' in the label
values — a '{' there is fine since the repair c09-14, see `metricNameOfOld_brace_counterexample` —, no ',' ':' '{' in
label names; nothing about the grouping fields or about label names being suffixes of each other: the repaired
ExtractGroupByFieldsFromSeriesId compares whole label names) -/
abbrev AllSafe (q : Query) (ss : List Series) : Prop := Lemmas.C09.AllSafe q ss

/-- guard: `count` with an EMPTY field list is judged only for `count by ()`/`count(…)` (computeAggCount puts
everything under `name{`, also for `without ()`) -/
abbrev CountOK (q : Query) (ss : List Series) : Prop := Lemmas.C09.CountOK q ss

/-- the same query with another aggregation function -/
abbrev withFn (q : Query) (fn : Fn) : Query := Lemmas.C09.withFn q fn

/-! ## 1. the group key taken from the series-id string -/

/-- C09.2 On `LabelSafe` inputs the key that `getAggSeriesId` cuts out of the series-id string is the
rendering of the PromQL group key computed from the label set — for ALL names, label sets, field lists,
`by` and `without`. (Label names may be suffixes of each other, the metric name may contain ':' as
recording-rule names do, values may contain ':' as `instance="host:9090"` does.) -/
theorem extract_eq_spec_of_safe (name : Str) (labels : Labels) (fields : List Str) (without : Bool)
    (h : LabelSafe name labels) :
    extractGroupKey fields without (seriesIdOf name labels)
      = render without name (specGroupKey fields without labels) :=
  Lemmas.C09.extract_eq_spec fields without (Lemmas.C09.safe_of_labelSafe h)

/-- … and on such inputs two series land under the same result key exactly when PromQL puts them into
the same group (nothing merged, nothing split). -/
theorem group_key_faithful (name : Str) (l1 l2 : Labels) (fields : List Str) (without : Bool)
    (h1 : LabelSafe name l1) (h2 : LabelSafe name l2) :
    extractGroupKey fields without (seriesIdOf name l1) = extractGroupKey fields without (seriesIdOf name l2)
      ↔ specGroupKey fields without l1 = specGroupKey fields without l2 := by
  rewrite [extract_eq_spec_of_safe name l1 fields without h1, extract_eq_spec_of_safe name l2 fields without h2]
  exact Lemmas.C09.render_spec_iff fields without (Lemmas.C09.safe_of_labelSafe h1) (Lemmas.C09.safe_of_labelSafe h2)

/-- the value found for a field is the value of the label with exactly that name -/
theorem extract_is_lookup (name : Str) (labels : Labels) (f : Str) (h : LabelSafe name labels) :
    fieldValue f (seriesIdOf name labels) = labels.lookup f :=
  Lemmas.C09.fieldValue_sid (Lemmas.C09.safe_of_labelSafe h) f

/-- C09.3 The unguarded statement is FALSE: a label VALUE containing `,b:` — `m{a="1,b:2"}` grouped
`by (b)` — is reported with `b="2"` although the series has no label `b`. -/
theorem extract_counterexample :
    ¬ (∀ (name : Str) (labels : Labels) (fields : List Str) (without : Bool),
        extractGroupKey fields without (seriesIdOf name labels)
          = render without name (specGroupKey fields without labels)) := by
  intro h
  exact absurd (h [109] [([97], [49, 44, 98, 58, 50])] [[98]] false) (by decide +kernel)

/-- … with the effect the property forbids: `m{a="1,b"}` and `m{a="1,c"}` belong to different groups of
`by (a)` but are merged under the key `m{a:1` (the value is cut at its comma). -/
theorem merge_counterexample :
    specGroupKey [[97]] false [([97], [49, 44, 98])] ≠ specGroupKey [[97]] false [([97], [49, 44, 99])]
    ∧ extractGroupKey [[97]] false (seriesIdOf [109] [([97], [49, 44, 98])])
        = extractGroupKey [[97]] false (seriesIdOf [109] [([97], [49, 44, 99])]) := by
  decide +kernel

/-- both directions of the damage a separator inside a value does: `by (b)` invents a label, and
`without (b)` drops the tail `b:2` of the value of `a`. -/
theorem value_separator_counterexample :
    extractGroupKey [[98]] false (seriesIdOf [109] [([97], [49, 44, 98, 58, 50])])
        ≠ render false [109] (specGroupKey [[98]] false [([97], [49, 44, 98, 58, 50])])
    ∧ extractGroupKey [[98]] true (seriesIdOf [109] [([97], [49, 44, 98, 58, 50])])
        ≠ render true [109] (specGroupKey [[98]] true [([97], [49, 44, 98, 58, 50])]) := by
  decide +kernel

/-- the guard is satisfiable, holds for the former witnesses of the repaired defects (label name `ba`
next to the field `a`; metric name `a:m` with field `a`), and excludes the witness above -/
example : LabelSafe [109] [([98, 97], [49]), ([97], [50])] := by decide +kernel
example : LabelSafe [97, 58, 109] [([98], [49]), ([97], [50])] := by decide +kernel
example : ¬ LabelSafe [109] [([97], [49, 44, 98, 58, 50])] := by decide +kernel
/-- a label value with '{' (r="/{i}") is inside the guard … -/
example : LabelSafe [109] [([114], [47, 123, 105, 125])] := by decide +kernel

/-- … because the metric name now ends at the FIRST "{" of the id; before the repair c09-14 the whole id
`m{r:/{i},` was taken for the metric name (known finding promql-group/value-contains-separator for '{', repaired). -/
theorem metricNameOfOld_brace_counterexample :
    metricNameOf (seriesIdOf [109] [([114], [47, 123, 105, 125])]) = [109] ∧
    metricNameOfOld (seriesIdOf [109] [([114], [47, 123, 105, 125])]) ≠ [109] := by decide +kernel
/-- regression witnesses: `m{ba="1",a="2"}` by (a) is `m{a:2`; `a:m{b="1",a="2"}` by (a) is `a:m{a:2` -/
example : extractGroupKey [[97]] false (seriesIdOf [109] [([98, 97], [49]), ([97], [50])]) = [109, 123, 97, 58, 50] := by
  decide +kernel
example : extractGroupKey [[97]] false (seriesIdOf [97, 58, 109] [([98], [49]), ([97], [50])]) = [97, 58, 109, 123, 97, 58, 50] := by
  decide +kernel

/-! ## 2. aggregation -/

/-- C09.1 `agg_correct`: for every query (sum/min/max/avg/count, by/without, any field list, any step),
every list of series and every bucket, the value the model reports under the key of a series' group is
the aggregate over the PromQL members of that group (`specAt`: members chosen by `specGroupKey` on the
label SETS; sum of sums, min of mins, max of maxes, number of members, pooled mean) — and the entry is
absent exactly when no member has a sample in the bucket. Guards: `LabelSafe` strings, and `CountOK`. -/
theorem agg_correct (q : Query) (ss : List Series) (hs : AllSafe q ss) (hc : CountOK q ss)
    (s0 : Series) (h0 : s0 ∈ ss) (t : Nat) :
    aggAt q ss (render q.without q.name (specGroupKey q.fields q.without s0.labels)) t
      = specAt q ss (specGroupKey q.fields q.without s0.labels) t :=
  Lemmas.C09.aggAt_eq_specAt hs hc h0 t

/-- … there are no other keys in the result: every (key, timestamp) of the result is the key of the
group of one of the series, -/
theorem agg_complete (q : Query) (ss : List Series) (hs : AllSafe q ss) (hc : CountOK q ss)
    (g : Str) (t : Nat) (h : (g, t) ∈ keys q ss) :
    ∃ s ∈ ss, g = render q.without q.name (specGroupKey q.fields q.without s.labels) := by
  obtain ⟨s, hm⟩ := List.exists_mem_of_ne_nil _ (Lemmas.C09.mem_keys_iff.1 h)
  obtain ⟨hss, hg, -⟩ := Lemmas.C09.mem_members.1 hm
  exact ⟨s, hss, hg ▸ Lemmas.C09.groupOf_sid hc (Lemmas.C09.safe_of_labelSafe (hs s hss))⟩

/-- … and the printed result list is exactly the graph of `aggAt`. -/
theorem results_iff (q : Query) (ss : List Series) (g : Str) (t : Nat) (v : Rat) :
    (g, t, v) ∈ results q ss ↔ aggAt q ss g t = some v := by
  refine List.mem_filterMap.trans ⟨fun h => h.elim fun gt h => ?_, fun h =>
    ⟨(g, t), Lemmas.C09.mem_keys_iff.2 (Lemmas.C09.aggAt_eq_some.1 h).1, congrArg (Option.map _) h⟩⟩
  obtain ⟨v', ha, e⟩ := Option.map_eq_some_iff.1 h.2
  cases e
  exact ha

/-- Without `CountOK` the statement is FALSE: `count without () (m)` over `m{a="1"}`, `m{a="2"}` must give
one group per series (value 1 each); the code reports a single series `m{` instead, nothing under the
key of `m{a="1"}` (known finding; the repo's own Test_GetResults_AggFn_Count and the OTSDB query parser,
which sets `Without` on every query, rely on this behaviour). -/
theorem count_without_empty_counterexample :
    ¬ (∀ (q : Query) (ss : List Series), AllSafe q ss → ∀ s0 ∈ ss, ∀ t,
        aggAt q ss (render q.without q.name (specGroupKey q.fields q.without s0.labels)) t
          = specAt q ss (specGroupKey q.fields q.without s0.labels) t) := by
  intro h
  have := h { fn := .count, without := true, fields := [], step := 10, name := [109] }
    [⟨[([97], [49])], [(5, 1)]⟩, ⟨[([97], [50])], [(6, 1)]⟩]
    (by unfold AllSafe Lemmas.C09.AllSafe; decide +kernel) _ List.mem_cons_self 0
  revert this
  decide +kernel

/-- WITH patch c09-26 `count(m)` counts every series, also series that share one id (the ids carry only the labels of
the query's filters, and "*" for a regex on the metric name): two series with one label set are counted twice, as the
statement demands (`agg_correct` asks nothing about the label sets being different). -/
example :
    aggAt { fn := .count, without := false, fields := [], step := 10, name := [109] }
      [⟨[([97], [49])], [(5, 1)]⟩, ⟨[([97], [49])], [(6, 1)]⟩] [109, 123] 0 = some 2 := by
  decide +kernel

/-- OLD behaviour (before patch c09-26) REFUTED: `count(m)` over two series under the SAME id (two TSIDs whose ids
show one label set) counted them once. -/
theorem count_duplicate_ids_old_counterexample :
    ¬ (∀ (q : Query) (ss : List Series), AllSafe q ss → ∀ s0 ∈ ss, ∀ t,
        aggAtOld q ss (render q.without q.name (specGroupKey q.fields q.without s0.labels)) t
          = specAt q ss (specGroupKey q.fields q.without s0.labels) t) := by
  intro h
  have := h { fn := .count, without := false, fields := [], step := 10, name := [109] }
    [⟨[([97], [49])], [(5, 1)]⟩, ⟨[([97], [49])], [(6, 1)]⟩]
    (by unfold AllSafe Lemmas.C09.AllSafe; decide +kernel) _ List.mem_cons_self 0
  revert this
  decide +kernel

example : CountOK { fn := .count, without := false, fields := [], step := 10, name := [109] }
    [⟨[([97], [49])], [(5, 1)]⟩, ⟨[([97], [49])], [(6, 1)]⟩] :=
  fun _ _ => rfl

/-! ## 3. relations between the aggregation functions (any strings; a label guard only for the empty field list) -/

/-- C09.4 min ≤ avg ≤ max for every group key and bucket of every input. -/
theorem min_le_avg_le_max (q : Query) (ss : List Series) (g : Str) (t : Nat) (mn a mx : Rat)
    (hmin : aggAt (withFn q .min) ss g t = some mn) (havg : aggAt (withFn q .avg) ss g t = some a)
    (hmax : aggAt (withFn q .max) ss g t = some mx) : mn ≤ a ∧ a ≤ mx := by
  have ha := Lemmas.C09.aggAt_eq_some.1 havg
  rewrite [← (Lemmas.C09.aggAt_eq_some.1 hmin).2, ← (Lemmas.C09.aggAt_eq_some.1 hmax).2, ← ha.2,
    Lemmas.C09.members_withFn (f1 := .min) (f2 := .avg) (fun _ => by decide) ss g t,
    Lemmas.C09.members_withFn (f1 := .max) (f2 := .avg) (fun _ => by decide) ss g t]
  exact Lemmas.C09.min_avg_max_members q.step t _ ha.1 (fun s m => (Lemmas.C09.mem_members.1 m).2.2)

/-- C09.4 avg = sum / count whenever there are grouping fields and every series has at most one sample
per bucket (`SingleSample`) — for ANY label strings. -/
theorem avg_eq_sum_div_count (q : Query) (ss : List Series) (hf : q.fields ≠ []) (h1 : SingleSample q ss)
    (g : Str) (t : Nat) (a s c : Rat)
    (havg : aggAt (withFn q .avg) ss g t = some a) (hsum : aggAt (withFn q .sum) ss g t = some s)
    (hcnt : aggAt (withFn q .count) ss g t = some c) : a = s / c := by
  rewrite [← (Lemmas.C09.aggAt_eq_some.1 havg).2, ← (Lemmas.C09.aggAt_eq_some.1 hsum).2,
    ← (Lemmas.C09.aggAt_eq_some.1 hcnt).2,
    Lemmas.C09.members_withFn (f1 := .avg) (f2 := .count) (fun h => absurd h hf) ss g t,
    Lemmas.C09.members_withFn (f1 := .sum) (f2 := .count) (fun h => absurd h hf) ss g t]
  exact Lemmas.C09.avg_sum_count_members q.step t _ (fun s m => (Lemmas.C09.mem_members.1 m).2.2)
    (fun s m => h1 s (Lemmas.C09.mem_members.1 m).1)

/-- … and for an empty field list (`avg(m)`, `sum(m)`, `count(m)`) on `LabelSafe` label sets. -/
theorem avg_eq_sum_div_count_nofields (q : Query) (ss : List Series) (hs : AllSafe q ss)
    (hc : CountOK (withFn q .count) ss) (h1 : SingleSample q ss) (s0 : Series) (h0 : s0 ∈ ss) (t : Nat) (a s c : Rat)
    (havg : aggAt (withFn q .avg) ss (render q.without q.name (specGroupKey q.fields q.without s0.labels)) t = some a)
    (hsum : aggAt (withFn q .sum) ss (render q.without q.name (specGroupKey q.fields q.without s0.labels)) t = some s)
    (hcnt : aggAt (withFn q .count) ss (render q.without q.name (specGroupKey q.fields q.without s0.labels)) t = some c) :
    a = s / c := by
  -- the three queries have the same PromQL members; `count` is the only one the guard speaks about
  have e : ∀ f, CountOK (withFn q f) ss → ∀ v,
      aggAt (withFn q f) ss (render q.without q.name (specGroupKey q.fields q.without s0.labels)) t = some v →
      specValue f q.step t (specMembers q ss (specGroupKey q.fields q.without s0.labels) t) = v := fun f hcf v hv =>
    Option.some.inj (Option.ite_none_left_eq_some.1
      ((Lemmas.C09.aggAt_eq_specAt (q := withFn q f) hs hcf h0 t).symm.trans hv)).2
  rewrite [← e .avg (fun h => nomatch h) a havg, ← e .sum (fun h => nomatch h) s hsum, ← e .count hc c hcnt]
  exact Lemmas.C09.avg_sum_count_members q.step t _ (fun s m => (Lemmas.C09.mem_specMembers.1 m).2.2)
    (fun s m => h1 s (Lemmas.C09.mem_specMembers.1 m).1)

/-- Without `SingleSample` the statement is FALSE: one series `m` with the samples 1 and 3 in one bucket
gives avg = 2, sum = 4, count = 1 (the downsampler folds a bucket with the query's own function: `sum`
adds the samples up, `avg` takes their mean, `count` counts series). -/
theorem avg_multi_sample_counterexample :
    ¬ (∀ (q : Query) (ss : List Series) (g : Str) (t : Nat) (a s c : Rat),
        aggAt (withFn q .avg) ss g t = some a → aggAt (withFn q .sum) ss g t = some s →
        aggAt (withFn q .count) ss g t = some c → a = s / c) := by
  intro h
  have := h { fn := .avg, without := false, fields := [], step := 10, name := [109] } [⟨[], [(1, 1), (2, 3)]⟩]
    [109, 123] 0 2 4 1 (by decide +kernel) (by decide +kernel) (by decide +kernel)
  revert this
  decide +kernel

example : SingleSample { fn := .avg, without := false, fields := [], step := 10, name := [109] }
    [⟨[], [(1, 1), (12, 3)]⟩] := by
  unfold SingleSample
  decide +kernel

/-! ## 4. grouping by all labels is the identity -/

/-- C09.4 If the `by` list contains every label name of every series (label names unique within a
series), the members of a series' group are
exactly the series with the SAME LABEL SET (in a store with one series per label set: itself), so each
output series is one input series. `without ()` is the identity literally. -/
theorem group_by_all_labels_id (q : Query) (ss : List Series) (hby : q.without = false)
    (hnd : ∀ s ∈ ss, (s.labels.map (·.1)).Nodup)
    (hall : ∀ s ∈ ss, ∀ kv ∈ s.labels, kv.1 ∈ q.fields) (s0 : Series) (h0 : s0 ∈ ss) (t : Nat) :
    specMembers q ss (specGroupKey q.fields q.without s0.labels) t
      = ss.filter (fun s => sameLabelSet s.labels s0.labels && !(samplesAt q.step t s.pts).isEmpty) := by
  apply List.filter_congr
  intro s hm
  refine congrArg (· && _) ?_
  rewrite [hby, Bool.eq_iff_iff, decide_eq_true_iff, Lemmas.C09.sameLabelSet_iff]
  exact Lemmas.C09.spec_by_all_eq_iff (hnd s hm) (hnd s0 h0) (hall s hm) (hall s0 h0)

theorem group_without_nothing_id (labels : Labels) : specGroupKey [] true labels = labels :=
  List.filter_eq_self.2 fun _ _ => rfl

/-! ## 5. downsampling buckets -/

/-- C09.5 `(ts / step) * step` is the start of the step-aligned window containing `ts`. -/
theorem bucket_floor (ts step : Nat) (h : 0 < step) :
    bucket ts step ≤ ts ∧ ts < bucket ts step + step ∧ step ∣ bucket ts step :=
  ⟨Nat.div_mul_le_self ts step, Nat.lt_div_mul_add h, Nat.dvd_mul_left step (ts / step)⟩

/-- the two sides of a window boundary -/
example : bucket 119 60 = 60 ∧ bucket 120 60 = 120 ∧ bucket 59 60 = 0 := by decide +kernel

/-! ## 6. binary operators between two result vectors match label sets

Model: SigModel/Model/PromqlBin.lean (HelperQueryArithmeticAndLogical, vector–vector, no on()/ignoring(), with the
repair c09-15 and the pending repairs c09-19 / c09-20), tied by the suite `promqlbin`.  A group id is the metric name
followed by the label part; the code takes the label part of an id (labelPartOfGroupID, repair c09-25) and compares the
label parts in a canonical form (`canonLabel`: items sorted, no empty items), so that neither the order of the labels
nor a comma behind the last one matters. -/

section binop
open SigModel.PromqlBin

/-- C09.6a the cut (labelPartOfGroupID, repair c09-25) returns the label part for EVERY metric name and EVERY label
part that is empty or begins with '{' — any bytes behind it, also `{ } , : = "` inside label values, and a metric name
that contains '{' (the seeded alternative, splitting the id on '{', does not). -/
theorem cutLabel_is_label_part (name part : Str) (hp : partOK part) : cutLabel? name (name ++ part) = some part :=
  Lemmas.C09bin.cutLabel?_append name part hp

/-- … and an id that starts with ANOTHER metric name — the ids of a vector that comes from `a or b` — is cut at its
first '{': `http_r{dc:x,` in a vector filed under `http` gives `{dc:x,`; slicing at the length of the vector's
name (before c09-25, which name that was depended on Go's map order) gave `_r{dc:x,`.
("h" 104 "t" 116 "p" 112 "_" 95 "r" 114 "{" 123 "d" 100 "c" 99 ":" 58 "x" 120 "," 44) -/
theorem cutLabel_other_name_witness :
    cutLabel? [104, 116, 116, 112] [104, 116, 116, 112, 95, 114, 123, 100, 99, 58, 120, 44] = some [123, 100, 99, 58, 120, 44] ∧
    cutLabel [104, 116, 116, 112] [104, 116, 116, 112, 95, 114, 123, 100, 99, 58, 120, 44] = [95, 114, 123, 100, 99, 58, 120, 44] := by
  decide +kernel

/-- C09.6b arithmetic, comparison and `and` (every operator but or / unless), for ALL left vectors and all right
vectors whose ids are the right metric name followed by a label part (and are not empty): the answer holds exactly
the left series whose label part has the same canonical form as the label part of some right series — whatever bytes
the label parts contain and whatever the two metric names are. -/
theorem binop_matches_label_sets (op : Op) (b : Bool) (l r : Res) (hop : op ≠ .or ∧ op ≠ .unless)
    (hr : wellFormed r) (hne : ([] : Str) ∉ vecIds r) (part : Str) (hp : partOK part) :
    l.name ++ part ∈ outIds (binop op b l r) ↔
      l.name ++ part ∈ vecIds l ∧ ∃ q, r.name ++ q ∈ vecIds r ∧ partOK q ∧ canonLabel q = canonLabel part := by
  rewrite [Lemmas.C09bin.mem_binop_match op b l r hop hne, Lemmas.C09bin.cutLabel?_append _ _ hp]
  refine and_congr_right fun _ => ⟨?_, ?_⟩
  · rintro ⟨p, hpe, rid, hrid, hc⟩
    cases hpe
    obtain ⟨q, rfl, hq⟩ := hr rid hrid
    rewrite [Lemmas.C09bin.cutLabel?_append _ _ hq] at hc
    exact ⟨q, hrid, hq, Option.some.inj hc⟩
  · rintro ⟨q, hq, hqok, hc⟩
    exact ⟨part, rfl, r.name ++ q, hq, (Lemmas.C09bin.cutLabel?_append _ _ hqok).symm ▸ congrArg some hc⟩

/-- … and nothing else is in the answer: every answer id is a left id. -/
theorem binop_ids_are_left_ids (op : Op) (b : Bool) (l r : Res) (hop : op ≠ .or ∧ op ≠ .unless)
    (hne : ([] : Str) ∉ vecIds r) (id : Str) (h : id ∈ outIds (binop op b l r)) : id ∈ vecIds l :=
  ((Lemmas.C09bin.mem_binop_match op b l r hop hne id).1 h).1

/-- C09.6c PER TIMESTAMP (repair c09-19): a sample of arithmetic / comparison / `and` is written only at a timestamp
that BOTH the left series and its partner series have — a missing right sample is never read as a value. -/
theorem binop_sample_needs_both (op : Op) (b : Bool) (pl : Pts) (rp : Option Pts) (hop : op ≠ .or ∧ op ≠ .unless)
    (t : Nat) (v : Val) (h : (t, v) ∈ leftPts op b pl rp) :
    (∃ x, (t, x) ∈ pl) ∧ ∃ q, rp = some q ∧ (ptAt? q t).isSome := by
  obtain ⟨⟨t', x⟩, hp, hf⟩ := List.mem_filterMap.1 h
  dsimp only at hf
  rewrite [beq_eq_false_iff_ne.2 hop.1, beq_eq_false_iff_ne.2 hop.2] at hf
  split at hf
  next y hy =>
    -- the sample is written at the left timestamp `t'`, where by `hy` the partner has the value `y`
    exact (Option.map_eq_some_iff.1 hf).elim fun w hw => (Prod.mk.inj hw.2).1 ▸ ⟨⟨x, hp⟩,
      (Option.bind_eq_some_iff.1 hy).imp fun q hq => ⟨hq.1, Option.isSome_of_eq_some hq.2⟩⟩
  · cases hf

/-- … before the repair the partner was read as 0 where it has no sample: a{} = 5 at t = 10, b{} only at t = 20: `a + b` used
to hold 5 at 10, `a * b` used to hold 0 (known finding binop-one-sided-timestamp, repaired). -/
theorem leftPtsOld_reads_zero_counterexample :
    leftPtsOld .add false [(10, 5)] (some [(20, 1)]) = [(10, Val.num 5)] ∧
    leftPtsOld .mul false [(10, 5)] (some [(20, 1)]) = [(10, Val.num 0)] ∧
    leftPts .add false [(10, 5)] (some [(20, 1)]) = [] := by
  decide +kernel

/-- C09.6d `a and b` and `a unless b` PARTITION the SAMPLES of a left series that has a partner: `and` keeps the samples
at the timestamps the partner has, `unless` those at the timestamps it does not have (all of them without a partner:
`Lemmas.C09bin.leftPts_unless_none`); every left sample is in exactly one of the two. -/
theorem and_unless_partition (b : Bool) (pl rp : Pts) (p : Nat × Int) (hp : p ∈ pl) :
    ((p.1, Val.num (p.2 : Rat)) ∈ leftPts .and b pl (some rp) ∨ (p.1, Val.num (p.2 : Rat)) ∈ leftPts .unless b pl (some rp)) ∧
    ¬ ((p.1, Val.num (p.2 : Rat)) ∈ leftPts .and b pl (some rp) ∧ (p.1, Val.num (p.2 : Rat)) ∈ leftPts .unless b pl (some rp)) := by
  rewrite [Lemmas.C09bin.leftPts_and, Lemmas.C09bin.leftPts_unless_some]
  exact Lemmas.C09bin.mem_filter_or_not _ (List.mem_map_of_mem (f := fun p : Nat × Int => (p.1, Val.num (p.2 : Rat))) hp)

/-- C09.6e the entries of `a unless b`: every left series with the samples `unless` keeps, minus the series that keep none
(an id-level statement — "the left series whose label set does not occur on the right" — would describe the
per-series decision of the unrepaired code). -/
theorem unless_entries (b : Bool) (l r : Res) :
    binop .unless b l r =
      (l.series.map (fun e => (e.1, leftPts .unless b e.2 (lookupPts r.series (partnerId l.name (rKey r) e.1))))).filter
        (fun e => !e.2.isEmpty) := by
  refine congrArg (List.filter _) ?_
  simp only [leftPass, beq_self_eq_true, Bool.or_true, if_true]
  exact congrFun List.filterMap_eq_map' l.series

/-- C09.6f x / 0 is ±Inf, 0 / 0 is NaN (repair c09-20; the sample used to be dropped). -/
theorem div_by_zero_kept (b : Bool) (x : Int) :
    setFinal .div b x 0 = some (if x = 0 then Val.nan else Val.inf (x < 0)) := by
  unfold setFinal
  exact if_pos rfl

/-- the canonical form does not see the order of the labels nor a comma behind the last one:
`{k:v,dc:x,`  `{dc:x,k:v,`  `{dc:x,k:v`  ("k" = 107, "v" = 118, "d" = 100, "c" = 99, "x" = 120) … -/
example : canonLabel [123, 107, 58, 118, 44, 100, 99, 58, 120, 44] = canonLabel [123, 100, 99, 58, 120, 44, 107, 58, 118, 44] ∧
          canonLabel [123, 100, 99, 58, 120, 44, 107, 58, 118, 44] = canonLabel [123, 100, 99, 58, 120, 44, 107, 58, 118] := by
  decide +kernel

/-- … while the comparison of id STRINGS before the repair c09-15 missed the partner as soon as one operand carried a
matcher on `k` (its ids then start with `k:`): a{k:v,dc:x, looks for b{k:v,dc:x, and the right vector has b{dc:x,k:v,
(known findings binop-label-order / binop-trailing-comma, repaired). -/
theorem partnerIdOld_label_order_counterexample :
    partnerIdOld [97] [98] [97, 123, 107, 58, 118, 44, 100, 99, 58, 120, 44] ≠ [98, 123, 100, 99, 58, 120, 44, 107, 58, 118, 44] ∧
    partnerId [97] ([98], [[98, 123, 100, 99, 58, 120, 44, 107, 58, 118, 44]]) [97, 123, 107, 58, 118, 44, 100, 99, 58, 120, 44]
      = [98, 123, 100, 99, 58, 120, 44, 107, 58, 118, 44] := by
  decide +kernel

/-- non-vacuity / the seeded input class: hits{route:/api/{id}, on both sides is matched (label value with '{');
bytes: "h" = 104, "e" = 101, "{/{x}," abbreviated as [123, 47, 123, 120, 125, 44]. -/
example :
    outIds (binop .div false
      { name := [104], series := [([104, 123, 47, 123, 120, 125, 44], [(10, 40)])] }
      { name := [101], series := [([101, 123, 47, 123, 120, 125, 44], [(10, 4)])] }) = [[104, 123, 47, 123, 120, 125, 44]] := by
  decide +kernel

end binop

/-! ## 7. the end-to-end SPECIFICATION of binary operators (Spec/Metrics.lean `evalVV`, `evalExpr`): one-to-one matching
on the matching labels (all / on(…) / ignoring(…)), evaluated per timestamp -/

section specbin
open SigModel.Spec.Metrics

/-- S0 the matching key: default = the whole label set; `ignoring ()` = default; a pair is in the `on` key iff it is a
pair of the element whose label is listed, in the `ignoring` key iff its label is not listed (the two keys split the label set). -/
theorem vmatch_default_key (ls : List (String × String)) : VMatch.default.key ls = ls := rfl

theorem vmatch_ignoring_nil (ls : List (String × String)) : (VMatch.ignoring []).key ls = ls :=
  List.filter_eq_self.2 fun _ _ => rfl

theorem vmatch_on_mem (ks : List String) (ls : List (String × String)) (kv : String × String) :
    kv ∈ (VMatch.on ks).key ls ↔ kv ∈ ls ∧ kv.1 ∈ ks :=
  List.mem_filter.trans (and_congr_right fun _ => List.contains_iff_mem)

theorem vmatch_ignoring_mem (ks : List String) (ls : List (String × String)) (kv : String × String) :
    kv ∈ (VMatch.ignoring ks).key ls ↔ kv ∈ ls ∧ kv.1 ∉ ks :=
  List.mem_filter.trans (and_congr_right fun _ => by rw [Bool.not_eq_true', ← Bool.not_eq_true, List.contains_iff_mem])

/-- the partner of an element is an element of the other vector with the same matching key … -/
theorem spec_partner_sound (m : VMatch) (r : List XElem) (x y : XElem) (h : findPartner m r x = some y) :
    y ∈ r ∧ m.key y.1 = m.key x.1 :=
  ⟨List.mem_of_find?_eq_some h, eq_of_beq (List.find?_some (p := fun y : XElem => m.key y.1 == m.key x.1) h)⟩

/-- … and it is unique when the keys of that vector are pairwise different (one-to-one matching: a partial bijection
between the keys of the two vectors); `evalExpr` is undefined otherwise. -/
theorem spec_partner_unique (m : VMatch) (r : List XElem) (hnd : (r.map (fun e => m.key e.1)).Nodup) (y y' : XElem)
    (hy : y ∈ r) (hy' : y' ∈ r) (h : m.key y.1 = m.key y'.1) : y = y' := by
  -- two elements at different positions have different keys, whichever comes first
  have hp := List.pairwise_map.1 hnd
  exact List.Pairwise.forall_of_forall_of_flip (R := fun a b : XElem => m.key a.1 = m.key b.1 → a = b) (fun _ _ _ => rfl)
    (hp.imp fun hne e => absurd e hne) (hp.imp fun hne e => absurd e.symm hne) hy hy' h

/-- S1 arithmetic, comparison and `and`, under every matching clause: the result label sets are exactly the left label
sets that have a partner (in left order). -/
theorem spec_labels (m : VMatch) (op : BinOp) (b : Bool) (l r : List XElem) (hop : op ≠ .or ∧ op ≠ .unless) :
    (evalVV m op b l r).map (·.1) = (l.filter (fun x => (findPartner m r x).isSome)).map (·.1) := by
  rewrite [evalVV, if_neg (c := (op == .or) = true) (mt of_decide_eq_true hop.1), List.append_nil, List.map_filterMap,
    ← Lemmas.C09bin.filterMap_if]
  refine congrArg (List.filterMap · l) (funext fun x => ?_)
  unfold leftEntry
  cases findPartner m r x with
  | some y => rfl
  | none =>
    exact congrArg (Option.map _) (if_neg (ne_true_of_eq_false
      (Bool.or_eq_false_iff.2 ⟨decide_eq_false hop.2, decide_eq_false hop.1⟩)))

/-- S2 PER TIMESTAMP: a result sample of arithmetic / comparison / `and` at time t needs a sample of BOTH matched
elements at t — a missing right sample is never read as a value (the engine used to read it as 0). -/
theorem spec_sample_needs_both (op : BinOp) (b : Bool) (x y : XElem) (hop : op ≠ .or ∧ op ≠ .unless)
    (t : Nat) (p : BinPt) (h : (t, p) ∈ matchedPts op b x y) :
    (∃ px, (t, px) ∈ x.2) ∧ (ptAt y t).isSome := by
  -- both remaining branches of `matchedPts` filter the left samples, keep their timestamps and ask for a right sample
  unfold matchedPts at h
  split at h
  · exact absurd rfl hop.1
  · exact absurd rfl hop.2
  · obtain ⟨⟨t', px⟩, hq, hf⟩ := List.mem_filterMap.1 h
    dsimp only at hf
    split at hf <;> cases hf
    · exact ⟨⟨px, hq⟩, Option.isSome_of_eq_some ‹ptAt y t = some BinPt.open›⟩
    · exact ⟨⟨p, hq⟩, Option.isSome_of_eq_some ‹ptAt y t = some _›⟩
  · obtain ⟨⟨t', px⟩, hq, hf⟩ := List.mem_filterMap.1 h
    dsimp only at hf
    split at hf
    · cases hf
    · obtain ⟨p', _, hp'⟩ := Option.map_eq_some_iff.1 hf
      cases hp'
      exact ⟨⟨px, hq⟩, Option.isSome_of_eq_some ‹ptAt y t = some _›⟩

/-- S3 `and` and `unless` PARTITION the samples of a matched left element (right element without unjudged samples):
a left sample is kept by `and` iff the right element has a sample at its timestamp, by `unless` iff it has none. -/
theorem spec_and_sample (b : Bool) (x y : XElem) (hy : ∀ q ∈ y.2, q.2 ≠ BinPt.open) (t : Nat) (p : BinPt) :
    (t, p) ∈ matchedPts .and b x y ↔ (t, p) ∈ x.2 ∧ (ptAt y t).isSome := by
  rw [Lemmas.C09bin.matchedPts_and b x hy, List.mem_filter]

theorem spec_unless_sample (b : Bool) (x y : XElem) (hy : ∀ q ∈ y.2, q.2 ≠ BinPt.open) (t : Nat) (p : BinPt) :
    (t, p) ∈ matchedPts .unless b x y ↔ (t, p) ∈ x.2 ∧ ptAt y t = none := by
  rw [Lemmas.C09bin.matchedPts_unless b x hy, List.mem_filter, Option.not_isSome, Option.isNone_iff_eq_none]

theorem spec_and_unless_partition (b : Bool) (x y : XElem) (hy : ∀ q ∈ y.2, q.2 ≠ BinPt.open) (t : Nat) (p : BinPt)
    (hx : (t, p) ∈ x.2) :
    ((t, p) ∈ matchedPts .and b x y ∨ (t, p) ∈ matchedPts .unless b x y) ∧
    ¬ ((t, p) ∈ matchedPts .and b x y ∧ (t, p) ∈ matchedPts .unless b x y) := by
  rewrite [Lemmas.C09bin.matchedPts_and b x hy, Lemmas.C09bin.matchedPts_unless b x hy]
  exact Lemmas.C09bin.mem_filter_or_not _ hx

/-- S4 `unless` keeps a left element without partner with all its samples. -/
theorem spec_unless_keeps (m : VMatch) (b : Bool) (l r : List XElem) (x : XElem) (hx : x ∈ l) (hn : findPartner m r x = none) :
    x ∈ evalVV m .unless b l r := by
  refine List.mem_append_left _ (List.mem_filterMap.2 ⟨x, hx, ?_⟩)
  rewrite [leftEntry, hn]
  rfl

/-- S5 a division by zero is judged, not dropped: +Inf, -Inf, NaN (integers below 2^20). -/
theorem spec_div_zero (b : Bool) (x : Int) (hx : x.natAbs < 2 ^ 20) :
    applyOp .div b (x : Rat) 0 = some (if x = 0 then BinPt.nan else BinPt.inf (x < 0)) :=
  -- both operands are integers below 2^20, so the quotient is judged; the divisor is 0; the cast to `Rat` keeps
  -- `= 0` and `< 0`
  have h1 : ratIsInt (x : Rat) = true := Bool.and_eq_true_iff.2 ⟨rfl, decide_eq_true hx⟩
  (if_neg (ne_true_of_eq_false (congrArg (fun c => !(c && ratIsInt 0)) h1))).trans <| congrArg some <|
    ite_congr (propext (decide_eq_true_iff.trans Rat.intCast_eq_zero_iff)) (fun _ => rfl)
      fun _ => congrArg BinPt.inf (decide_eq_decide.2 Rat.intCast_neg_iff)

/-- non-vacuity: a{} has a sample at 10 only, b{} at 20 only: `a + b` is empty (it used to be 5 at 10), `a unless b`
is a, `a or b` holds both samples. -/
example : evalVV .default .add false [([], [(10, .val 5)])] [([], [(20, .val 1)])] = [([], [])] ∧
          evalVV .default .unless false [([], [(10, .val 5)])] [([], [(20, .val 1)])] = [([], [(10, .val 5)])] ∧
          evalVV .default .or false [([], [(10, .val 5)])] [([], [(20, .val 1)])] = [([], [(10, .val 5)]), ([], [(20, .val 1)])] := by
  decide +kernel

/-- on(host): c{host=h-1,route=/api} and d{host=h-1,dc=eu} match although their label sets differ -/
example : (evalVV (.on ["host"]) .div false [([("host", "h-1"), ("route", "/api")], [(10, .val 10)])]
                                         [([("dc", "eu"), ("host", "h-1")], [(10, .val 2)])]).map (·.1)
          = [[("host", "h-1"), ("route", "/api")]] := by
  decide +kernel

end specbin

end SigModel.Props.C09
