/-
C10 — Metrics write-ahead log replays a faithful prefix after any crash.
Property theorems only (helper lemmas: SigModel/Lemmas/C10*.lean).

"a log cut at any byte yields a prefix of what was appended, and a damaged log block is rejected
rather than decoded into datapoints that were never written" — for EVERY list of payloads, EVERY
cut position, EVERY prefix of the write-syscall sequence, EVERY single-byte change, and ANY checksum
function `crc` (no burst-detection property of CRC-32 is assumed).
Second half of the file: the recovery layer above the framing (Model/WalRecover.lean) — what RecoverWALData replays
after a crash at any operation or inside one, metric names, the meta entry of a segment.
-/
-- Why `crash_prefix` asks for non-empty payloads (`hne`).  For an EMPTY payload the third write of `frameWrites` is a
-- zero-byte write, so the frame is complete on disk after its second (checksum) write and "(n - 1) / 3" undercounts by
-- one exactly when the crash falls between the 2nd and 3rd write of such a frame: with crc32 [] = 0, ps := [[]], n := 3
-- the writes are [[1], [4,0,0,0], [0,0,0,0], []], the first three give [1, 4,0,0,0, 0,0,0,0], which replays to [[]],
-- not to ps.take ((3-1)/3) = [] (likewise ps := [[7],[],[9]], n := 6; both are checked by the `example` after
-- `crash_prefix_any`).  The real writer appends zstd frames, which are never 0 bytes.  For the excluded case
-- `crash_prefix_any` shows the replay is still a true prefix `ps.take c` with (n-1)/3 ≤ c ≤ (n-1)/3 + 1.  The byte-level
-- statement `truncate_prefix` / `completeWithin` needs no such guard (8 + 0 ≤ k is right).
-- In `corrupt_detected` the hypothesis `hi2` is redundant: if `i` lay beyond frame `m`, frame `m` would be intact and
-- `hacc` contradictory.
import SigModel.Model.Wal
import SigModel.Lemmas.C10
import SigModel.Model.WalRecover
import SigModel.Lemmas.C10R
import SigModel.Lemmas.C10Rb
import SigModel.Lemmas.C10Rc
import SigModel.Lemmas.C10Rd
import SigModel.Lemmas.C10Re

namespace SigModel.Props.C10
open SigModel.Wal

/-- payloads as the writer produces them: bytes, length fits the uint32 size field, crc is 32 bit -/
def wfPayloads (crc : Bytes → Nat) (ps : List Bytes) : Prop :=
  ∀ p ∈ ps, p.length + 4 < 4294967296 ∧ crc p < 4294967296 ∧ (∀ b ∈ p, b < 256)

/-- C10.1 datapoint block codec: decode ∘ encode = id (timestamps uint32, value bits and tsid uint64) -/
theorem decBlock_encBlock (dps : List Dp)
    (h : ∀ d ∈ dps, d.ts < 4294967296 ∧ d.val < 18446744073709551616 ∧ d.tsid < 18446744073709551616)
    (hn : dps.length < 4294967296) :
    decBlock (encBlock dps) = some dps :=
  SigModel.Lemmas.C10.decBlock_encBlock dps h hn

/-- C10.2 an intact file replays every appended block, in order, and ends cleanly -/
theorem readFile_file (crc : Bytes → Nat) (ok : Bytes → Bool) (ps : List Bytes)
    (hwf : wfPayloads crc ps) (hok : ∀ p ∈ ps, ok p = true) :
    readFile crc ok (file crc ps) = some (ps, St.clean) := by
  have h := Lemmas.C10.readBlocks_frames_append crc ok ps [] ([], .clean) hwf hok
    (fun fuel => Lemmas.C10.readBlocks_nil crc ok fuel) _ (Nat.lt_succ_self _)
  rw [List.append_nil] at h
  rw [file, Lemmas.C10.readFile_cons, h, List.append_nil]

/-- number of frames that lie completely within the first `k` bytes after the version byte -/
def completeWithin : List Bytes → Nat → Nat
  | [], _ => 0
  | p :: ps, k => if 8 + p.length ≤ k then 1 + completeWithin ps (k - (8 + p.length)) else 0

/-- C10.3 truncation: a file cut at ANY byte `k ≥ 1` replays exactly the blocks that are completely
inside the cut — a true prefix, never a partial or invented block. -/
theorem truncate_prefix (crc : Bytes → Nat) (ok : Bytes → Bool) (ps : List Bytes) (k : Nat)
    (hwf : wfPayloads crc ps) (hok : ∀ p ∈ ps, ok p = true) (hk : 1 ≤ k) :
    ∃ st, readFile crc ok ((file crc ps).take k) = some (ps.take (completeWithin ps (k - 1)), st) := by
  -- frame by frame, for every cut and every sufficient fuel
  have key : ∀ (ps : List Bytes) (k fuel : Nat), wfPayloads crc ps → (∀ p ∈ ps, ok p = true) →
      ((ps.flatMap (frame crc)).take k).length < fuel →
      ∃ st, readBlocks crc ok fuel ((ps.flatMap (frame crc)).take k) = (ps.take (completeWithin ps k), st) := by
    intro ps k
    fun_induction completeWithin ps k with
    | case1 k =>
      intro fuel _ _ hf
      rw [List.flatMap_nil, List.take_nil] at hf ⊢
      exact ⟨.clean, Lemmas.C10.readBlocks_nil crc ok fuel hf⟩
    | case2 p ps k hk ih =>
      -- the first frame lies within the cut
      intro fuel hwf hok hf
      obtain ⟨f, rfl⟩ := Nat.exists_eq_add_one.mpr (Nat.zero_lt_of_lt hf)
      have hp := hwf p List.mem_cons_self
      rw [List.flatMap_cons, List.take_append,
        List.take_of_length_le (Nat.le_trans (Nat.le_of_eq (Lemmas.C10.frame_length crc p)) hk),
        Lemmas.C10.frame_length] at hf ⊢
      obtain ⟨st, hst⟩ := ih f (fun q hq => hwf q (List.mem_cons_of_mem _ hq))
        (fun q hq => hok q (List.mem_cons_of_mem _ hq)) (Lemmas.C10.length_lt_of_frame_append crc p _ hf)
      exact ⟨st, by rw [Lemmas.C10.readBlocks_frame crc ok f p _ hp.1 hp.2.1 (hok p List.mem_cons_self), hst,
        Nat.add_comm 1, List.take_succ_cons]⟩
    | case3 p ps k hk =>
      -- the cut falls inside the first frame
      intro fuel hwf _ hf
      obtain ⟨f, rfl⟩ := Nat.exists_eq_add_one.mpr (Nat.zero_lt_of_lt hf)
      have hp := hwf p List.mem_cons_self
      rw [List.flatMap_cons, List.take_append_of_le_length
        (Nat.le_trans (Nat.le_of_not_le hk) (Nat.le_of_eq (Lemmas.C10.frame_length crc p).symm))]
      exact Lemmas.C10.readBlocks_frame_take crc ok f p k hp.1 hp.2.1 (Nat.lt_of_not_le hk)
  obtain ⟨st, hst⟩ := key ps (k - 1) _ hwf hok (Nat.lt_succ_self _)
  exact ⟨st, by rw [Lemmas.C10.file_take crc ps k hk, Lemmas.C10.readFile_cons, hst]⟩

/-- … and a file cut before the version byte is not opened at all -/
theorem truncate_zero (crc : Bytes → Nat) (ok : Bytes → Bool) (ps : List Bytes) :
    readFile crc ok ((file crc ps).take 0) = none := by
  rfl

/-- C10.4 crash at any system-call boundary (process-crash model: completed writes persist):
after any prefix of the write sequence, replay yields exactly the blocks whose third write completed.
Payloads are non-empty (`hne`): see the head of the file. -/
theorem crash_prefix (crc : Bytes → Nat) (ok : Bytes → Bool) (ps : List Bytes) (n : Nat)
    (hwf : wfPayloads crc ps) (hok : ∀ p ∈ ps, ok p = true) (hne : ∀ p ∈ ps, p ≠ []) (hn : 1 ≤ n) :
    ∃ st, readFile crc ok ((writes crc ps).take n).flatten = some (ps.take ((n - 1) / 3), st) := by
  obtain ⟨c, st, hst, _, _, hc⟩ := Lemmas.C10.readBlocks_writes_take crc ok ps (n - 1) _ hwf hok (Nat.lt_succ_self _)
  exact ⟨st, by rw [Lemmas.C10.writes_take_flatten crc ps n hn, Lemmas.C10.readFile_cons, hst, hc hne]⟩

/-- C10.4' (added) the same crash model WITHOUT assuming non-empty payloads: replay is still a true
prefix of the appended blocks; the count is `(n - 1) / 3` or one more (the latter only when the frame
in progress has an empty payload and its checksum write completed — that frame is then complete). -/
theorem crash_prefix_any (crc : Bytes → Nat) (ok : Bytes → Bool) (ps : List Bytes) (n : Nat)
    (hwf : wfPayloads crc ps) (hok : ∀ p ∈ ps, ok p = true) (hn : 1 ≤ n) :
    ∃ c st, readFile crc ok ((writes crc ps).take n).flatten = some (ps.take c, st)
      ∧ (n - 1) / 3 ≤ c ∧ c ≤ (n - 1) / 3 + 1 := by
  obtain ⟨c, st, hst, h1, h2, _⟩ := Lemmas.C10.readBlocks_writes_take crc ok ps (n - 1) _ hwf hok (Nat.lt_succ_self _)
  exact ⟨c, st, by rw [Lemmas.C10.writes_take_flatten crc ps n hn, Lemmas.C10.readFile_cons, hst], h1, h2⟩

/-- machine-checked counterexample to `crash_prefix` without `hne`: all of its other
hypotheses hold, yet the replay is `[[]]` (resp. `[[7], []]`), not `ps.take ((n - 1) / 3)`. -/
example :
    wfPayloads crc32 [[]] ∧ (∀ p ∈ [([] : Bytes)], (fun _ => true) p = true) ∧ 1 ≤ 3
    ∧ readFile crc32 (fun _ => true) ((writes crc32 [[]]).take 3).flatten = some ([[]], St.clean)
    ∧ ([[]] : List Bytes).take ((3 - 1) / 3) = []
    ∧ readFile crc32 (fun _ => true) ((writes crc32 [[7], [], [9]]).take 6).flatten
        = some ([[7], []], St.clean)
    ∧ ([[7], [], [9]] : List Bytes).take ((6 - 1) / 3) = [[7]] := by
  exact ⟨List.forall_mem_singleton.mpr ⟨by decide, by decide +kernel, List.forall_mem_nil _⟩, fun _ _ => rfl, by decide,
    by decide +kernel, rfl, by decide +kernel, rfl⟩

/-- byte offset in the file at which frame `m` starts -/
def frameStart (ps : List Bytes) (m : Nat) : Nat := 1 + ((ps.take m).map (fun p => 8 + p.length)).sum

/-- the reader's size and checksum tests pass for the bytes found at offset `off` -/
def acceptsAt (crc : Bytes → Nat) (f : Bytes) (off : Nat) : Bool :=
  match rd32 (f.drop off) with
  | none => false
  | some (size, r1) =>
    decide (4 ≤ size) &&
    match rd32 r1 with
    | none => false
    | some (sum, r2) => decide (size - 4 ≤ r2.length) && decide (crc (r2.take (size - 4)) = sum)

/-- C10.5 corruption: change ANY byte inside frame `m`.  Blocks before `m` are replayed intact, and
nothing from frame `m` on is replayed unless the damaged bytes happen to pass the size+checksum
test again (a checksum accident, named explicitly). -/
theorem corrupt_detected (crc : Bytes → Nat) (ok : Bytes → Bool) (ps : List Bytes) (m i b : Nat)
    (hwf : wfPayloads crc ps) (hok : ∀ p ∈ ps, ok p = true) (hm : m < ps.length)
    (hi : frameStart ps m ≤ i) (hi2 : i < frameStart ps (m + 1))
    (hacc : acceptsAt crc ((file crc ps).set i b) (frameStart ps m) = false) :
    readFile crc ok ((file crc ps).set i b) = some (ps.take m, St.err) := by
  have _ := hi2 -- redundant given `hacc`
  rw [frameStart, Nat.add_comm, ← Lemmas.C10.flatMap_frame_length crc] at hi hacc
  exact Lemmas.C10.readFile_corrupt crc ok ps m i b hwf hok hm hi hacc

/-- non-vacuity: a two-block file with a flipped payload byte under real CRC-32 meets the hypotheses -/
example : acceptsAt crc32 ((file crc32 [[1, 2, 3], [4, 5]]).set 10 99) (frameStart [[1, 2, 3], [4, 5]] 0) = false := by
  decide +kernel

end SigModel.Props.C10

/-! ## C10, RECOVERY layer above the framing (Model/WalRecover.lean; lemmas Lemmas/C10R*.lean)

"after a crash at any instant, restart replays from the metrics WALs exactly the datapoints … whose log append
had completed, in order, and nothing else".  The framing theorems above deliver, per WAL file, the list of its
completely appended blocks; here a WAL directory is a list of (file name, completed blocks).  `run cap shard h`
is the writer of one shard after history `h` (ingest / WAL flush with or without roll-over / block rotation /
segment rotation, the size test against MAX_WAL_FILE_SIZE_BYTES being an input of each append), a crash is the end
of the history, `recover` is RecoverWALData as coded AFTER the repairs c10-1, c10-2, c10-3 (directory scan, grouping
by the key string, the files of a group sorted by their WAL index, a group whose first WAL file is gone only deleted,
ONE block and ONE flush per group, WAL files deleted after the flush), `specBlock` is the specification: the
datapoints of a block whose append or block rotation had completed, in ingest order — no files, names or buffers.
The behaviour BEFORE the repairs is kept as `groupsOld`, `recoverOld`, `recoverActionsOld`, … with the counterexample
theorems that made the repairs necessary (`…_old_counterexample`) and the partial theorems that held for it.
uint64 bounds on segment / block numbers and WAL indices are hypotheses (strconv.ParseUint). -/
namespace SigModel.Props.C10
open SigModel.Wal (Dp)
open SigModel.WalRecover

/-! ### crash BETWEEN two operations -/

/-- the full-strength statement of the recovery property for one shard: for EVERY writer history ended by a crash,
after RecoverWALData every block (segment, block number) on disk holds exactly the datapoints whose WAL append or
block rotation had completed, in ingest order (blocks that never had a completed datapoint are absent). -/
def RecoverExact : Prop :=
  ∀ (cap shard : Nat) (h : List Op), 1 ≤ cap →
    (run cap shard h).seg < 18446744073709551616 → (run cap shard h).blkNum < 18446744073709551616 →
    (run cap shard h).walIdx < 18446744073709551616 →
    ∀ k : Key, lookup k (diskAfterRecovery cap shard h) = specBlock cap shard h k

/-- C10.R1 `recover_exact`, FULL strength (any number of WAL files per block).  This covers: nothing of a rotated
block is touched, nothing buffered-but-not-appended comes back, the first WAL of a new segment/block carries the new
ids, several files of one block are concatenated into ONE block in the order in which they were written. -/
theorem recover_exact : RecoverExact :=
  fun cap shard h _ hs hb hi k => Lemmas.C10R.recover_exact_full cap shard h hs hb hi k

/-- non-vacuity: `h11`, the history of the counterexample below (13 WAL files), comes back in order -/
example : (lookup (dec 0, 0, 0) (diskAfterRecovery 100 0 SigModel.Lemmas.C10R.h11)).map (·.ts)
    = [100, 101, 102, 103, 104, 105, 106, 107, 108, 109, 110, 111] := SigModel.Lemmas.C10R.h11_recovered_fixed

/-- the same statement for RecoverWALData BEFORE the repair c10-1 (files of a group in directory order) -/
def RecoverExactOld : Prop :=
  ∀ (cap shard : Nat) (h : List Op), 1 ≤ cap →
    (run cap shard h).seg < 18446744073709551616 → (run cap shard h).blkNum < 18446744073709551616 →
    ∀ k : Key, lookup k (diskAfterRecoveryOld cap shard h) = specBlock cap shard h k

/-- C10.R1-old FALSE before the repair: `…_10.wal` was replayed before `…_2.wal`.  Witness `h11`: 12 appends, each
followed by a roll-over; the block came back as 100,101,110,111,102,… (repaired by c10-1; the suite's detector
sig=walrecover/replay-order stays). -/
theorem recover_exact_old_counterexample : ¬ RecoverExactOld := fun hall => by
  have hb := Lemmas.C10R.h11_bounds
  have h := hall 100 0 Lemmas.C10R.h11 (by decide) hb.1 hb.2.1 (Lemmas.C10R.curKey (run 100 0 Lemmas.C10R.h11))
  -- the open block comes back file by file in directory order; the specification has it in creation order
  rw [Lemmas.C10R.recoveredOld_lookup 100 0 _ hb.1 hb.2.1, if_pos rfl, Lemmas.C10R.specBlock_open] at h
  exact Lemmas.C10R.h11_dir_order h

/-- guard of the old partial theorems: at the crash the open block has at most 10 WAL files (indices 0..9) -/
def fewWalFiles (cap shard : Nat) (h : List Op) : Prop := (run cap shard h).walIdx < 10
instance (cap shard : Nat) (h : List Op) : Decidable (fewWalFiles cap shard h) := by unfold fewWalFiles; infer_instance

/-- what held before the repair: exactness under the guard, and a permutation without it -/
theorem recover_exact_old_partial (cap shard : Nat) (h : List Op) (hg : fewWalFiles cap shard h)
    (hs : (run cap shard h).seg < 18446744073709551616) (hb : (run cap shard h).blkNum < 18446744073709551616) (k : Key) :
    lookup k (diskAfterRecoveryOld cap shard h) = specBlock cap shard h k :=
  SigModel.Lemmas.C10R.recover_exact cap shard h hg hs hb k

theorem recover_perm_old (cap shard : Nat) (h : List Op)
    (hs : (run cap shard h).seg < 18446744073709551616) (hb : (run cap shard h).blkNum < 18446744073709551616) (k : Key) :
    (lookup k (diskAfterRecoveryOld cap shard h)).Perm (specBlock cap shard h k) := by
  rw [Lemmas.C10R.recoveredOld_lookup cap shard h hs hb]
  split
  · -- the open block: the logged datapoints, file by file, in directory order instead of creation order
    rename_i hk
    rw [hk, Lemmas.C10R.specBlock_open]
    exact (Lemmas.C10R.perm_readDir _).flatMap_right fileDps
  · exact List.Perm.refl _

/-- C10.R2 `replay_in_order`, FULL strength: the WAL files found after the crash form one group and are replayed in
the order in which the writer created them, however many there are -/
theorem replay_in_order (cap shard : Nat) (h : List Op)
    (hs : (run cap shard h).seg < 18446744073709551616) (hb : (run cap shard h).blkNum < 18446744073709551616)
    (hi : (run cap shard h).walIdx < 18446744073709551616) :
    (groups (dirAfter cap shard h)).map (·.files) = [dirAfter cap shard h] := by
  rw [dirAfter, Lemmas.C10R.groups_writer_full _ (Lemmas.C10R.inv_run cap shard h) hs hb hi]
  rfl

def ReplayInOrderOld : Prop :=
  ∀ (cap shard : Nat) (h : List Op),
    (run cap shard h).seg < 18446744073709551616 → (run cap shard h).blkNum < 18446744073709551616 →
    (groupsOld (dirAfter cap shard h)).map (·.files) = [dirAfter cap shard h]

/-- C10.R2-old FALSE before the repair with more than 10 files of one block -/
theorem replay_in_order_old_counterexample : ¬ ReplayInOrderOld := fun hall => by
  have hb := Lemmas.C10R.h11_bounds
  have h := hall 100 0 Lemmas.C10R.h11 hb.1 hb.2.1
  -- the one group holds the files in directory order: the claim says that this is the creation order
  rw [dirAfter, Lemmas.C10R.groups_writer _ (Lemmas.C10R.inv_run _ _ _) hb.1 hb.2.1, List.map_singleton] at h
  dsimp only at h
  exact Lemmas.C10R.h11_dir_order (congrArg (List.flatMap fileDps) (List.head_eq_of_cons_eq h))

theorem replay_in_order_old_partial (cap shard : Nat) (h : List Op) (hg : fewWalFiles cap shard h)
    (hs : (run cap shard h).seg < 18446744073709551616) (hb : (run cap shard h).blkNum < 18446744073709551616) :
    (groupsOld (dirAfter cap shard h)).map (·.files) = [dirAfter cap shard h] := by
  have hinv := Lemmas.C10R.inv_run cap shard h
  rw [dirAfter, Lemmas.C10R.groups_writer _ hinv hs hb, Lemmas.C10R.readDir_writer _ hinv hg]
  rfl

/-- C10.R3 `recover_flushes_once_per_block` (the structural fact whose violation is "one flush per WAL FILE"):
for EVERY directory content — any file names, parsable or not — the groups have pairwise different keys, and
recovery performs at most one flushBlock per group.  (`recover` flushes per GROUP by definition; that the code
does so is tied by the correspondence run and by the call-order fact C10R.RecoverWALData.order.) -/
theorem recover_flushes_once_per_block (d : RawDir) :
    ((groups d).map (fun g => g.info.key)).Nodup ∧ (recover d).length ≤ (groups d).length :=
  ⟨by rw [groups, List.map_map]; exact Lemmas.C10R.groups_keys_nodup d, List.length_filterMap_le _ _⟩

/-- C10.R3' after a crash of the writer, recovery performs at most ONE flush, and only into the block that was
open at the crash: a block rotated before the crash is never rewritten. -/
theorem recover_only_open_block (cap shard : Nat) (h : List Op)
    (hs : (run cap shard h).seg < 18446744073709551616) (hb : (run cap shard h).blkNum < 18446744073709551616)
    (hi : (run cap shard h).walIdx < 18446744073709551616) :
    (recover (dirAfter cap shard h)).length ≤ 1 ∧
      ∀ kv ∈ recover (dirAfter cap shard h), kv.1 = (dec shard, (run cap shard h).seg, (run cap shard h).blkNum) := by
  have hk : (dec shard, (run cap shard h).seg, (run cap shard h).blkNum) = Lemmas.C10R.curKey (run cap shard h) := by
    rw [Lemmas.C10R.curKey, Lemmas.C10R.shard_run]
  rw [dirAfter, Lemmas.C10R.recover_writer_full _ (Lemmas.C10R.inv_run cap shard h) hs hb hi, hk]
  exact Lemmas.C10R.flushIfAny_only _ _

/-- C10.R4 `new_segment_wal_has_new_id`: after EVERY history — in particular right after a segment rotation — the
WAL files that exist are exactly index 0..currentWALIndex of the OPEN (segment, block) of this shard: the first WAL
of a new segment carries the new segment id (dpWalState.segID is set before the new WAL is created). -/
theorem new_segment_wal_has_new_id (cap shard : Nat) (h : List Op) :
    (run cap shard h).files.map (·.1) =
      (List.range ((run cap shard h).walIdx + 1)).map
        (fun i => ({ shard := shard, seg := (run cap shard h).seg, blk := (run cap shard h).blkNum, idx := i } : WalName)) := by
  have h1 := (Lemmas.C10R.inv_run cap shard h).names
  rw [Lemmas.C10R.shard_run] at h1
  exact h1

/-- non-vacuity of R4: right after a segment rotation the only WAL is (segment 1, block 0, index 0) -/
example : (run 2 0 [.ingest 0 ⟨1, 1, 1⟩ false, .walFlush true, .segRotate]).files.map (·.1)
    = [{ shard := 0, seg := 1, blk := 0, idx := 0 }] := by decide +kernel

/-- C10.R5 the file names the writer produces are parsed back by extractWALFileInfo's parser to their shard,
segment and block, the key being `<shard>_<seg>_<blk>`, and by walFileIndex to their WAL index. -/
theorem parseName_render (f : WalName) (hs : f.seg < 18446744073709551616) (hb : f.blk < 18446744073709551616) :
    parseName (render f) = some { mId := dec f.shard, seg := f.seg, blk := f.blk,
                                  key := dec f.shard ++ '_' :: (dec f.seg ++ '_' :: dec f.blk) } :=
  SigModel.Lemmas.C10R.parseName_render f hs hb

theorem walIndexOf_render (f : WalName) (h : f.idx < 18446744073709551616) : walIndexOf (render f) = f.idx :=
  SigModel.Lemmas.C10R.walIndexOf_render f h

/-! ### crash points INSIDE an operation (quantifier of the property: "every instruction boundary of the WAL
append/rotate/recover code").  The steps of an operation are the ones whose completion is visible on disk. -/

/-- block files after: the writer dies inside a block-rotation pass right after `m` completed steps of rotateBlock
(flushBlock ; DeleteWAL of every WAL file of the block, oldest first ; initNewDpWal), restart recovers completely -/
def diskAfterRotateCrash (cap shard : Nat) (h : List Op) (m : Nat) : Disk :=
  let st := blockRotateCrash m (run cap shard h)
  applyFlushes st.durable (recover (rawOf st.files))

/-- … with RecoverWALData as it was before the repair c10-3 -/
def diskAfterRotateCrashOld (cap shard : Nat) (h : List Op) (m : Nat) : Disk :=
  let st := blockRotateCrash m (run cap shard h)
  applyFlushes st.durable (recoverOld (rawOf st.files))

/-- C10.R7 `block_rotation_crash_safe`, FULL strength: wherever rotateBlock is interrupted, every completed datapoint
is still in its block afterwards, in order (the datapoints that were only buffered may or may not be there: the
completed ones are a PREFIX of the block).  Leftover WAL files of a block that is complete on disk form a group
without its first WAL file, which recovery only deletes. -/
theorem block_rotation_crash_safe (cap shard : Nat) (h : List Op) (m : Nat)
    (hs : (run cap shard h).seg < 18446744073709551616) (hb : (run cap shard h).blkNum < 18446744073709551616)
    (hi : (run cap shard h).walIdx < 18446744073709551616) (k : Key) :
    specBlock cap shard h k <+: lookup k (diskAfterRotateCrash cap shard h m) :=
  SigModel.Lemmas.C10R.block_rotation_crash_safe cap shard h m hs hb hi k

def BlockRotationCrashSafeOld : Prop :=
  ∀ (cap shard : Nat) (h : List Op) (m : Nat) (k : Key), specBlock cap shard h k <+: lookup k (diskAfterRotateCrashOld cap shard h m)

/-- C10.R7-old FALSE before the repair: killed after flushBlock and ONE of two DeleteWALs, the complete block file was
rebuilt by recovery from the leftover WAL file alone (repaired by c10-3; detector
sig=walrecover/crash-in-block-rotation/completed-append-lost stays). -/
theorem block_rotation_crash_safe_old_counterexample : ¬ BlockRotationCrashSafeOld :=
  fun hall => absurd (hall 1000 0 Lemmas.C10R.hx 2 (dec 0, 0, 0)) (by
    unfold diskAfterRotateCrashOld rawOf
    rw [funext Lemmas.C10R.render_eq]
    decide +kernel)

/-- guard of the old partial theorem: only flushBlock completed (m = 1), or every WAL file of the block is deleted -/
def rotateCrashGuard (cap shard : Nat) (h : List Op) (m : Nat) : Prop := m = 1 ∨ (run cap shard h).files.length < m

theorem rotate_crash_old_partial (cap shard : Nat) (h : List Op) (m : Nat) (hm : rotateCrashGuard cap shard h m)
    (hg : fewWalFiles cap shard h)
    (hs : (run cap shard h).seg < 18446744073709551616) (hb : (run cap shard h).blkNum < 18446744073709551616) (k : Key) :
    specBlock cap shard h k <+: lookup k (diskAfterRotateCrashOld cap shard h m) := by
  have hinv := Lemmas.C10R.inv_run cap shard h
  refine Lemmas.C10R.rotate_crash_prefix recoverOld (Lemmas.C10R.R_run cap shard h) m
    (Lemmas.C10R.recover_writer_few _ hinv hg hs hb) (fun h1 => ?_)
    (Lemmas.C10R.recover_no_dps _ (Lemmas.C10R.rotateBlock_files_empty _)) k
  -- under the guard every WAL file is gone
  exact congrArg (fun l => recoverOld (rawOf l)) (List.drop_eq_nil_of_le
    (hm.elim (fun e => absurd h1 (Nat.not_lt_of_le (Nat.le_of_eq e))) Nat.le_sub_one_of_lt))

/-- C10.R8 `recovery_crash_safe`, FULL strength: wherever the FIRST restart's RecoverWALData is interrupted (after `m`
completed steps: flushBlock of the group, then deleteWalFile of each file, oldest first), a second restart ends with
exactly the completed datapoints on disk -/
theorem recovery_crash_safe (cap shard : Nat) (h : List Op) (m : Nat)
    (hs : (run cap shard h).seg < 18446744073709551616) (hb : (run cap shard h).blkNum < 18446744073709551616)
    (hi : (run cap shard h).walIdx < 18446744073709551616) (k : Key) :
    lookup k (diskAfterCrashedRecovery m (dirAfter cap shard h) (durableBlocks cap shard h)) = specBlock cap shard h k :=
  SigModel.Lemmas.C10R.recovery_crash_safe cap shard h m hs hb hi k

def RecoveryCrashSafeOld : Prop :=
  ∀ (cap shard : Nat) (h : List Op) (m : Nat) (k : Key), fewWalFiles cap shard h →
    lookup k (diskAfterCrashedRecoveryOld m (dirAfter cap shard h) (durableBlocks cap shard h)) = specBlock cap shard h k

/-- C10.R8-old FALSE before the repair: RecoverWALData deleted each WAL file before the rebuilt block was flushed
(repaired by c10-2; detector sig=walrecover/crash-in-recovery/completed-append-lost stays). -/
theorem recovery_crash_safe_old_counterexample : ¬ RecoveryCrashSafeOld :=
  fun hall => absurd (hall 1000 0 Lemmas.C10R.hx 2 (dec 0, 0, 0) (by unfold fewWalFiles; decide +kernel)) (by
    unfold dirAfter rawOf
    rw [funext Lemmas.C10R.render_eq]
    decide +kernel)

/-- guard of the old partial theorem: the restart died before its first step or after its last one -/
def recoverCrashGuard (cap shard : Nat) (h : List Op) (m : Nat) : Prop :=
  m = 0 ∨ (recoverActionsOld (dirAfter cap shard h)).length ≤ m

theorem recover_crash_old_partial (cap shard : Nat) (h : List Op) (m : Nat) (hm : recoverCrashGuard cap shard h m)
    (hg : fewWalFiles cap shard h)
    (hs : (run cap shard h).seg < 18446744073709551616) (hb : (run cap shard h).blkNum < 18446744073709551616) (k : Key) :
    lookup k (diskAfterCrashedRecoveryOld m (dirAfter cap shard h) (durableBlocks cap shard h)) = specBlock cap shard h k := by
  have hex := Lemmas.C10R.recover_exact cap shard h hg hs hb k
  rcases hm with hm | hm
  · rw [hm]; exact hex
  · -- the restart ran to its end: the second one finds an empty WAL directory
    rw [diskAfterCrashedRecoveryOld, dirAfter,
      Lemmas.C10R.recoverCrashedOld_all_steps _ (Lemmas.C10R.inv_run cap shard h) hs hb _ m hm]
    dsimp only [Lemmas.C10R.recover_nil, applyFlushes, List.foldl_nil]
    exact hex

/-- C10.R9 `recovery_flush_crash_safe`: the first restart dies BETWEEN THE SYSTEM CALLS of the flushBlock inside
RecoverWALData — after `m` of FlushSummary, OpenFile(.tso, O_TRUNC), OpenFile(.tsg, O_TRUNC), Write(.tso), Write(.tsg);
in between the block files are empty or half written (the block holds nothing readable).  The WAL files are deleted
only after flushBlock returned, so the second restart replays them again: it ends with exactly the completed datapoints
on disk, for every `m`.  (A second .mbsu entry for the same block number is harmless: the reader collects block numbers
into a set — pkg/segment/metadata/tsmeta.go.) -/
theorem recovery_flush_crash_safe (cap shard : Nat) (h : List Op) (m : Nat)
    (hs : (run cap shard h).seg < 18446744073709551616) (hb : (run cap shard h).blkNum < 18446744073709551616)
    (hi : (run cap shard h).walIdx < 18446744073709551616) (k : Key) :
    lookup k (diskAfterFlushCrashedRecovery m (dirAfter cap shard h) (durableBlocks cap shard h)) = specBlock cap shard h k :=
  SigModel.Lemmas.C10R.recovery_flush_crash_safe cap shard h m hs hb hi k

/-- … for ANY WAL directory and any block files: the disk after a restart that dies inside its first flushBlock and a
second restart is the disk of an uninterrupted recovery -/
theorem flush_crashed_recovery (m : Nat) (d : RawDir) (disk : Disk) :
    diskAfterFlushCrashedRecovery m d disk = applyFlushes disk (recover d) :=
  SigModel.Lemmas.C10R.flush_crashed_recovery m d disk

/-- non-vacuity: the flush is really interrupted (m = 3: both block files truncated) and the block comes back -/
example : recoverFlushCrashed 3 (dirAfter 2 0 [.ingest 0 ⟨1, 1, 1⟩ false, .walFlush false]) [] = [((dec 0, 0, 0), [])]
    ∧ diskAfterFlushCrashedRecovery 3 (dirAfter 2 0 [.ingest 0 ⟨1, 1, 1⟩ false, .walFlush false]) [] = [((dec 0, 0, 0), [⟨1, 1, 1⟩])] := by
  unfold dirAfter rawOf
  rw [funext Lemmas.C10R.render_eq]
  decide +kernel

/-! ### metric names (RecoverMNameWALData, repair c10-5) -/

/-- C10.R10 `name_recovery_complete`: RecoverMNameWALData run to its end leaves in the .mnm file of the segment exactly
the names whose name-WAL append had completed and the names the file already held (repair c10-8: a file is there when a
segment rotation died after its FlushMetricNames) — whether or not a block of that segment is on disk (FlushMetricNames
creates the directory) —, leaves the other .mnm files alone and removes the WAL -/
theorem name_recovery_complete (seg : Nat) (ns : List Nat) (mnm : List (Nat × List Nat)) (hne : ns ≠ []) :
    (recoverNames seg { wal := some ns, mnm := mnm }).wal = none ∧
    (∃ out, SigModel.Lemmas.C10R.mnmLookup seg (recoverNames seg { wal := some ns, mnm := mnm }).mnm = some out ∧
      ∀ n, n ∈ out ↔ n ∈ ns ∨ n ∈ (SigModel.Lemmas.C10R.mnmLookup seg mnm).getD []) ∧
    ∀ seg', seg' ≠ seg →
      SigModel.Lemmas.C10R.mnmLookup seg' (recoverNames seg { wal := some ns, mnm := mnm }).mnm = SigModel.Lemmas.C10R.mnmLookup seg' mnm := by
  -- the file of the segment is written with the merged names
  obtain ⟨hw, hm⟩ := Lemmas.C10R.recoverNames_spec seg ns mnm
  rw [if_neg (fun h => hne (List.isEmpty_iff.mp h))] at hm
  rw [hm]
  refine ⟨hw, ⟨_, SigModel.Lemmas.C10R.mnmLookup_writeMnm seg _ mnm, fun n => ?_⟩, fun seg' hs =>
    SigModel.Lemmas.C10R.isGet_mnmLookup.put_ne SigModel.Lemmas.C10R.isPut_writeMnm hs _ mnm⟩
  rw [SigModel.Lemmas.C10R.mem_mergeNames, SigModel.Lemmas.C10R.mnmNamesOf_eq_lookup]
  exact Or.comm

/-- C10.R10b `rotation_crash_keeps_names`, FULL strength (repair c10-8): a segment rotation that died between its
FlushMetricNames and the deletion of the name WAL leaves the complete names file (`allNames`) next to a WAL that holds
the names whose append had completed — any sub-collection of them.  Recovery ends with exactly the names of the file:
none lost, none added, for every such pair of lists. -/
theorem rotation_crash_keeps_names (seg : Nat) (walNames allNames : List Nat) (mnm : List (Nat × List Nat))
    (hsub : ∀ n ∈ walNames, n ∈ allNames) :
    SigModel.Lemmas.C10R.mnmLookup seg (recoverNames seg { wal := some walNames, mnm := writeMnm seg allNames mnm }).mnm = some allNames := by
  -- an empty WAL leaves the file, otherwise the merged names are those of the file: the same lookup either way
  rw [(Lemmas.C10R.recoverNames_spec seg walNames _).2, Lemmas.C10R.mnmNamesOf_writeMnm,
    Lemmas.C10R.mergeNames_of_subset allNames walNames hsub, apply_ite (Lemmas.C10R.mnmLookup seg),
    Lemmas.C10R.mnmLookup_writeMnm, Lemmas.C10R.mnmLookup_writeMnm, ite_self]

def RotationCrashKeepsNamesNoMerge : Prop :=
  ∀ (seg : Nat) (walNames allNames : List Nat) (mnm : List (Nat × List Nat)), (∀ n ∈ walNames, n ∈ allNames) →
    SigModel.Lemmas.C10R.mnmLookup seg (recoverNamesNoMerge seg { wal := some walNames, mnm := writeMnm seg allNames mnm }).mnm = some allNames

/-- C10.R10b-old FALSE before the repair c10-8: only the WAL names were written over the file.  Names 1 and 2 flushed by
the interrupted rotation, name 1 in the WAL: the file ends with name 1 only (in the real file the bytes of the old,
longer content stayed behind the new one: the reader took them for names or ran out of bounds — detector
sig=walrecover/crash-in-segment-rotation/metric-name-lost and …/names-file-unreadable). -/
theorem rotation_crash_keeps_names_old_counterexample : ¬ RotationCrashKeepsNamesNoMerge :=
  fun hall => absurd (hall 0 [1] [1, 2] [] (by decide)) (by decide +kernel)

/-- C10.R11 `name_recovery_crash_safe`, FULL strength: wherever the first restart's RecoverMNameWALData is interrupted
(after `m` completed steps: FlushMetricNames, then deleteWalFile), a second restart ends exactly as an uninterrupted
recovery: no completed metric name is lost -/
theorem name_recovery_crash_safe (m seg : Nat) (nd : NameDisk) :
    namesAfterCrashedRecovery m seg nd = recoverNames seg nd :=
  SigModel.Lemmas.C10R.name_recovery_crash_safe m seg nd

def NameRecoveryCrashSafeOld : Prop :=
  ∀ (m seg : Nat) (nd : NameDisk), namesAfterCrashedRecoveryOld m seg nd = recoverNames seg nd

/-- C10.R11-old FALSE before the repair c10-5: the name WAL was deleted BEFORE FlushMetricNames; a restart that died
in between lost every name of the open segment (detector sig=walrecover/crash-in-name-recovery/metric-name-lost stays) -/
theorem name_recovery_crash_safe_old_counterexample : ¬ NameRecoveryCrashSafeOld :=
  fun hall => absurd (hall 1 0 { wal := some [7], mnm := [] }) (by decide +kernel)

/-! ### segment metadata (RecoverMEntryWALData, repair c10-6) -/

/-- C10.R12 `meta_rotation_entry_final`: a segment that has an entry in metricmeta.json when the restart begins — it
was rotated before the crash — keeps exactly that entry as the one the reader sees; an older snapshot of it in the meta
WAL is not replayed behind it -/
theorem meta_rotation_entry_final (s : Sys) (shard seg : Nat)
    (hrot : (s.metaFile.filter (fun x => x.shard == shard && x.seg == seg)) ≠ []) :
    metaEntryOf (sysMetaAfterRecovery s) shard seg = metaEntryOf s.metaFile shard seg :=
  SigModel.Lemmas.C10R.meta_rotation_entry_final s shard seg hrot

/-- C10.R12' a segment without an entry in the file (it was open at the crash) gets the entry of the meta WAL -/
theorem meta_wal_entry_recovered (s : Sys) (shard seg : Nat)
    (hrot : (s.metaFile.filter (fun x => x.shard == shard && x.seg == seg)) = []) :
    metaEntryOf (sysMetaAfterRecovery s) shard seg = metaEntryOf s.metaWal shard seg :=
  SigModel.Lemmas.C10R.meta_wal_entry_recovered s shard seg hrot

def MetaRotationEntryFinalOld : Prop :=
  ∀ (s : Sys) (shard seg : Nat), (s.metaFile.filter (fun x => x.shard == shard && x.seg == seg)) ≠ [] →
    metaEntryOf (sysMetaAfterRecoveryOld s) shard seg = metaEntryOf s.metaFile shard seg

/-- C10.R12-old FALSE before the repair c10-6: ingest, meta-WAL write, more ingest, segment rotation, crash — the older
WAL snapshot (0 blocks, 1 datapoint, the older time range) was appended behind the rotation entry (1 block, 2
datapoints) and won (detector sig=walrecover/meta-entry-older-than-rotation stays) -/
theorem meta_rotation_entry_final_old_counterexample : ¬ MetaRotationEntryFinalOld :=
  fun hall => absurd (hall (sysRun 1000 1 Lemmas.C10R.hMeta) 0 0 (by decide +kernel)) (by decide +kernel)

/-- C10.R6 the Oracle's shortcut for generated bulk loads (`ingestMany`) is the step-by-step model -/
theorem ingestMany_eq_foldl (cap name : Nat) (roll : Bool) (ds : List Dp) (st : WState)
    (hne : ds ≠ []) (hroom : st.buf.length + ds.length ≤ cap) :
    (ds.map (fun d => Op.ingest name d roll)).foldl (step cap) st = ingestMany name ds st :=
  Lemmas.C10R.ingestMany_eq_foldl cap name roll ds st hne hroom

end SigModel.Props.C10
