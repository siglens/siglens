/-
C17 — Every query is answered or rejected, terminates, and frees its resources.
Property theorems only, in three parts: the lifecycle of a query in the running / waiting tables (over EVERY operation
sequence from the initial empty tables, or for any state where that is said), the small request grammars of the
OpenTSDB query route (namespace `Otsdb`) and the per-query state multiplexer (namespace `Mux`).  The other parsers are
driven, not modelled (see DESIGN.md §5 C17).

`pull_never_blocks` admits exactly the operations whose sends are READY/RUNNING on a fresh channel
(`Op.admissionOnly`): every other operation also sends on an existing channel (see `restart_chain_can_block`).
In `cancel_effective` the hypothesis `hnr` is redundant for this model: `step _ (.cancel q)` sets
`waiting := removeFirstWaiting q s.waiting` whether `q` is running or not, so `huniq` alone yields the conclusion.
-/
import SigModel.Model.QTable
import SigModel.Lemmas.C17c
import SigModel.Model.OtsdbQuery
import SigModel.Lemmas.C17f
import SigModel.Model.QMux
import SigModel.Lemmas.C17g

namespace SigModel.Props.C17
open SigModel.QTable

def init (m : Nat) : St := { maxRunning := m }

/-- C17.1 admission limits: the waiting queue never exceeds MAX_WAITING_QUERIES -/
theorem waiting_bounded (m : Nat) (ops : List Op) :
    (run (init m) ops).waiting.length ≤ maxWaiting :=
  (Lemmas.C17.run_moves ops (init m)).waiting_bounded (Nat.zero_le _)

/-- C17.1b admission through the puller never exceeds MAX_RUNNING: a pull step never takes the
running table above `maxRunning` unless it already was (only `forceRun` starts bypass the limit). -/
theorem pull_respects_limit (s : St) (h : s.running.length ≤ s.maxRunning) :
    (step s Op.pull).1.running.length ≤ s.maxRunning :=
  Nat.le_trans (Lemmas.C17.step_moves s .pull).running_length (Nat.max_le.mpr ⟨h, Nat.le_refl _⟩)

/-- the running table is a map: at most one entry per qid, in every reachable state -/
theorem running_is_map (m : Nat) (ops : List Op) :
    ((run (init m) ops).running.map Prod.fst).Nodup :=
  (Lemmas.C17.run_moves ops (init m)).nodup List.nodup_nil

/-- C17.3 delete frees the entry -/
theorem delete_frees (m : Nat) (ops : List Op) (q : Nat) :
    lookup q (step (run (init m) ops) (Op.delete q)).1.running = none := by
  simp only [step]
  split
  · assumption
  · exact Lemmas.C17.lookup_erase_self q _

/-- C17.4 cancel takes effect at any moment: right after `cancel q`, no object of `q` is waiting for
admission un-cancelled (unless `q` was queued more than once, which unique qids exclude), and a
running object of `q` is marked cancelled. -/
theorem cancel_effective (m : Nat) (ops : List Op) (q : Nat)
    (huniq : ((run (init m) ops).waiting.filter (fun r => r.qid == q)).length ≤ 1)
    (hnr : lookup q (run (init m) ops).running = none ∨
           ((run (init m) ops).waiting.filter (fun r => r.qid == q)).length = 0) :
    let s' := (step (run (init m) ops) (Op.cancel q)).1
    (∀ r ∈ s'.waiting, r.qid ≠ q) ∧ (∀ r, lookup q s'.running = some r → r.cancelled = true) := by
  have _ := hnr  -- not needed: see the head of the file
  have hclear := Lemmas.C17.removeFirstWaiting_clears q _ huniq
  dsimp only [step]
  rcases Lemmas.C17.cancelQuery_cases (run (init m) ops) q with ⟨hl, ⟨e, hw⟩ | ⟨b, e⟩⟩ | ⟨r, b, _, e⟩ <;> rw [e]
  · exact ⟨hw, fun r hr => nomatch hl.symm.trans hr⟩
  · exact ⟨hclear, fun r hr => nomatch hl.symm.trans hr⟩
  · refine ⟨hclear, fun r' hr => ?_⟩
    cases (Lemmas.C17.lookup_put_self ..).symm.trans hr
    exact Lemmas.C17.send_cancelled ..

/-- … and a cancelled object is never (re-)admitted: `runQuery` of a cancelled object changes nothing -/
theorem cancelled_never_runs (s : St) (r : RQ) (h : r.cancelled = true) : runQuery s r = s :=
  Lemmas.C17.runQuery_cancelled s h

/-- C17.5 no send blocks while a table lock is held when a query is started: every object enters the running
table with exactly the two messages READY, RUNNING in a fresh channel.  (A send on a channel that exists already —
CANCELLED, or READY/RUNNING after a restart — blocks once the consumer has left the channel full.) -/
theorem fresh_objects_never_block (s : St) (q : Nat) (force : Bool) (h : s.blocked = false) :
    (step s (Op.start q force)).1.blocked = false :=
  Lemmas.C17.enter_blocked s { obj := s.next, qid := q } force h (show 0 + 2 ≤ chanCap by decide)

theorem pull_never_blocks (m : Nat) (ops : List Op)
    (hnc : ∀ op ∈ ops, op.admissionOnly = true) :
    (run (init m) ops).blocked = false :=
  (Lemmas.C17.run_noBlock ops (init m) hnc ⟨rfl, fun _ h => nomatch h⟩).1

/-- non-vacuity: a sequence in which a waiting query is cancelled and a later pull admits the next one -/
example : (run (init 1) [.start 1 true, .start 2 false, .start 3 false, .cancel 2, .delete 1, .pull]).running.map Prod.fst = [3] := by
  decide +kernel

/-- … and the restriction is needed: `RestartQuery` hands the OLD channel to the new object and sends
READY/RUNNING on it while `arqMapLock` is held, so a chain of restarts without a draining consumer fills the
channel and a send under the table lock blocks (no `cancel` involved). -/
theorem restart_chain_can_block :
    (run (init 2) [.startc 1 true, .restart 1 2 true, .restart 2 3 true, .restart 3 4 true, .restart 4 5 true, .restart 5 6 true]).blocked = true := by
  decide +kernel

/-- C17.6 admission limit at full strength: in EVERY reachable state the running table holds at most
`MAX_RUNNING_QUERIES` entries plus the number of forced starts issued so far (`canRunQuery` counts every
entry of the table, cancelled-but-not-yet-deleted ones included; a forced `RestartQuery` replaces an entry). -/
theorem running_bounded_with_forced (m : Nat) (ops : List Op) :
    (run (init m) ops).running.length ≤ m + (ops.filter Op.forced).length :=
  Nat.le_trans (Lemmas.C17.run_moves ops (init m)).running_length
    (Nat.le_of_eq (congrArg (· + _) (Nat.zero_max ..)))

/-- … in particular, without forced starts the admission limit is never exceeded -/
theorem running_bounded (m : Nat) (ops : List Op) (h : ∀ op ∈ ops, op.forced = false) :
    (run (init m) ops).running.length ≤ m := by
  have := running_bounded_with_forced m ops
  rwa [List.filter_eq_nil_iff.mpr fun op hop => Bool.eq_false_iff.mp (h op hop)] at this

/-- C17.7 every admitted query has its timeout armed: each entry of the running table is stored under its own
qid, its `timeoutCancelFunc` is set, and unless it is already cancelled its timer goroutine is still pending
(so the timer can not have been consumed before admission). -/
theorem admitted_query_is_armed (m : Nat) (ops : List Op) (q : Nat) (r : RQ)
    (h : lookup q (run (init m) ops).running = some r) :
    r.qid = q ∧ r.timeoutArmed = true ∧ (r.cancelled = false → r.timerLive = true) := by
  have hinv := Lemmas.C17.inv_reachable m ops
  obtain ⟨h1, h2, h3, _, _⟩ := hinv.1 _ (Lemmas.C17.lookup_mem h)
  exact ⟨h1, h2, fun hc => h3.resolve_right (hc ▸ Bool.false_ne_true)⟩

/-- … and no timer runs for a query that is still waiting for admission; queued objects are never cancelled
(a cancelled one leaves the queue), so a `pull` below the limit always admits the head of the queue. -/
theorem waiting_query_has_no_timer (m : Nat) (ops : List Op) (w : RQ)
    (h : w ∈ (run (init m) ops).waiting) :
    w.timeoutArmed = false ∧ w.timerLive = false ∧ w.cancelled = false := by
  have hinv := Lemmas.C17.inv_reachable m ops
  obtain ⟨h1, h2, h3, _⟩ := hinv.2.1 w h
  exact ⟨h1, h2, h3⟩

/-- C17.8 a timeout stops the query: when the timer of a running, not yet cancelled query fires (and the
consumer has left room for two messages), the object is marked cancelled and TIMEOUT (6) then CANCELLED (5)
have been sent on its channel. -/
theorem timeout_stops (m : Nat) (ops : List Op) (q : Nat) (r : RQ)
    (hl : lookup q (run (init m) ops).running = some r) (hnc : r.cancelled = false)
    (hroom : r.chanLen + 2 ≤ chanCap) :
    ∃ r', lookup q (step (run (init m) ops) (Op.timeout q)).1.running = some r' ∧ r'.obj = r.obj ∧
      r'.cancelled = true ∧ r'.sent = r.sent ++ [6, 5] := by
  have hinv := Lemmas.C17.inv_reachable m ops
  refine ⟨Lemmas.C17.timedOut r, Lemmas.C17.fireTimeout_stops hinv hl hnc hroom, ?_⟩
  rw [Lemmas.C17.timedOut_of_room r hroom]
  exact ⟨rfl, rfl, rfl⟩

/-- C17.2 exactly one terminal state: the terminal state of a query object (the first of COMPLETE 4,
CANCELLED 5, TIMEOUT 6, ERROR 7 on its channel) never changes once it is set, whatever happens afterwards
(later cancels, a late timer, a late completion, restarts of other queries, …). -/
theorem one_terminal_state (m : Nat) (ops1 ops2 : List Op) (q t : Nat) (r r' : RQ)
    (hl : lookup q (run (init m) ops1).running = some r) (ht : terminalOf r = some t)
    (hl' : lookup q (run (init m) (ops1 ++ ops2)).running = some r') (hobj : r'.obj = r.obj) :
    terminalOf r' = some t := by
  rw [Lemmas.C17.run_append] at hl'
  exact ((Lemmas.C17.run_moves ops2 _).termAt
    (Lemmas.C17.termAt_of_inv (Lemmas.C17.inv_reachable m ops1) hl ht)).2.2 r' hl' hobj

/-- … and which one it is, is decided by the first terminal event that reaches the channel of a running query
without a terminal state: a cancel makes it CANCELLED, its timer TIMEOUT (followed by the cancellation),
`SendQueryStateComplete` COMPLETE, an error report ERROR. -/
theorem terminal_state_by_first_event (m : Nat) (ops : List Op) (q : Nat) (r : RQ)
    (hl : lookup q (run (init m) ops).running = some r) (hnone : terminalOf r = none)
    (hroom : r.chanLen + 2 ≤ chanCap) :
    (∃ r', lookup q (step (run (init m) ops) (Op.cancel q)).1.running = some r' ∧ r'.obj = r.obj ∧
        r'.cancelled = true ∧ terminalOf r' = some 5) ∧
    (r.cancelled = false →
      ∃ r', lookup q (step (run (init m) ops) (Op.timeout q)).1.running = some r' ∧ r'.obj = r.obj ∧
        r'.cancelled = true ∧ terminalOf r' = some 6) ∧
    (∃ r', lookup q (step (run (init m) ops) (Op.complete q)).1.running = some r' ∧ r'.obj = r.obj ∧
        terminalOf r' = some 4) ∧
    (∃ r', lookup q (step (run (init m) ops) (Op.error q)).1.running = some r' ∧ r'.obj = r.obj ∧
        terminalOf r' = some 7) := by
  have hinv := Lemmas.C17.inv_reachable m ops
  have hlt : r.chanLen < chanCap := Nat.lt_of_succ_lt hroom
  exact ⟨Lemmas.C17.cancel_terminal hl hnone hlt,
    fun hnc => Lemmas.C17.timeout_terminal hinv hl hnc hnone hroom,
    Lemmas.C17.selfSend_terminal hl hnone hlt rfl,
    Lemmas.C17.selfSend_terminal hl hnone hlt rfl⟩

/-- C17.9 `RestartQuery` keeps the tables well-formed: after restarting a running, un-cancelled coordinator
query `q` under the fresh qid `nq` (what `GetNextQid` hands out), in any reachable state with room in the queue,
the old entry is gone, the new qid is present EXACTLY ONCE — in the running table (armed, its timer pending,
not cancelled) when forced, else at the end of the queue —, the running table is still a map, every
admitted query is still armed, and the queue is still within its limit. -/
theorem restart_preserves_inv (m : Nat) (ops : List Op) (q nq : Nat) (force : Bool) (r : RQ)
    (hl : lookup q (run (init m) ops).running = some r) (hnc : r.cancelled = false) (hco : r.coord = true)
    (hfresh : lookup nq (run (init m) ops).running = none)
    (hfreshW : ∀ w ∈ (run (init m) ops).waiting, w.qid ≠ nq)
    (hroom : (run (init m) ops).waiting.length < maxWaiting) :
    let s' := (step (run (init m) ops) (Op.restart q nq force)).1
    lookup q s'.running = none ∧
    (s'.running.map Prod.fst).count nq + (s'.waiting.map (·.qid)).count nq = 1 ∧
    (if force then ∃ n, lookup nq s'.running = some n ∧ n.cancelled = false ∧ n.coord = true ∧
        n.timeoutArmed = true ∧ n.timerLive = true
     else lookup nq s'.running = none ∧ ∃ n, s'.waiting = (run (init m) ops).waiting ++ [n] ∧ n.qid = nq) ∧
    (s'.running.map Prod.fst).Nodup ∧
    (∀ k x, lookup k s'.running = some x → x.qid = k ∧ x.timeoutArmed = true) ∧
    s'.waiting.length ≤ maxWaiting := by
  intro s'
  have hinv := Lemmas.C17.inv_reachable m ops
  have hinv' : Lemmas.C17.Inv s' := (Lemmas.C17.step_moves _ _).inv hinv
  obtain ⟨h2, h3, h4⟩ := Lemmas.C17.restartQuery_spec (force := force) hl hnc hco hfresh hfreshW hroom
  refine ⟨h2, h3, h4, ?_, ?_, ?_⟩
  · exact (Lemmas.C17.step_moves _ _).nodup (running_is_map m ops)
  · intro k x hk
    obtain ⟨x1, x2, _⟩ := hinv'.1 _ (Lemmas.C17.lookup_mem hk)
    exact ⟨x1, x2⟩
  · exact (Lemmas.C17.step_moves _ _).waiting_bounded (waiting_bounded m ops)

/-- non-vacuity (admission): cancelled-but-undeleted queries keep their slot — with limit 1 the pull after
the cancel admits nothing; after the delete it does -/
example : ((run (init 1) [.start 1 false, .start 2 false, .pull, .cancel 1, .pull]).running.map Prod.fst = [1]) ∧
    ((run (init 1) [.start 1 false, .start 2 false, .pull, .cancel 1, .pull, .delete 1, .pull]).running.map Prod.fst = [2]) := by
  decide +kernel

/-- non-vacuity (timeout): a query that waited, was admitted by a pull and then timed out is cancelled and
has received READY, RUNNING, TIMEOUT, CANCELLED; its terminal state is TIMEOUT and a late completion does not
change it -/
example : (lookup 7 (run (init 1) [.start 7 false, .pull, .timeout 7, .complete 7]).running).map
    (fun r => (r.cancelled, r.sent, terminalOf r)) = some (true, [1, 2, 6, 5, 4], some 6) := by
  decide +kernel

/-- non-vacuity (restart): the hypotheses of `restart_preserves_inv` are satisfiable, forced and queued -/
example : (run (init 2) [.startc 1 true, .restart 1 2 true]).running.map Prod.fst = [2] ∧
    ((run (init 2) [.startc 1 true, .restart 1 2 false]).running.map Prod.fst = [] ∧
     (run (init 2) [.startc 1 true, .restart 1 2 false]).waiting.map (·.qid) = [2]) := by
  decide +kernel

/-- non-vacuity (forced starts): the bound of `running_bounded_with_forced` is attained -/
example : (run (init 1) [.start 1 true, .start 2 true, .startc 3 true]).running.length = 1 + 2 := by
  decide +kernel

/-! ## "… answers with results or an error … and the process keeps running": the small request grammars

The parsers of the OpenTSDB query route (`m=agg:downsample:metric{k=v|w,…}`, `start=…-ago`) as total functions from
byte strings to value / error (Model/OtsdbQuery.lean, the code AS REPAIRED by build/patches/c17-1 and c17-2), tied to
the real functions by the suite `alive` (lines `om` / `ot`).  `Outcome.panic` / `Ago.panic` stand for a Go panic on the
request goroutine, which ends the server process: the repaired parsers never produce it, the former ones
(`parseMetricTagOld`, `agoOld`) do, exactly on the texts described. -/
namespace Otsdb
open SigModel.OtsdbQuery SigModel.Lemmas.C17f

/-- for EVERY byte string the tag-list parser answers with a value or an error -/
theorem metric_tag_total (m : Bytes) : parseMetricTag m ≠ .panic := by
  fun_cases parseMetricTag m <;> nofun

/-- for EVERY byte string the aggregator / downsampler parser answers with a value or an error -/
theorem aggregator_total (m : Bytes) : parseAggDs m ≠ .panic := by
  fun_cases parseAggDs m <;> nofun

/-- for EVERY byte string the relative-time parser answers with a value or an error -/
theorem relative_time_total (s : Bytes) : ago s ≠ .panic := by
  fun_cases ago s <;> nofun

/-- the accepted language of the tag list: the first '{' stands in front of the first '}' and every comma-separated
item between the two holds exactly one '=' (`indexOf_some_iff`: `indexOf c m = some i` says that position `i` is the
FIRST occurrence of `c`) -/
theorem metric_tag_accepts_iff (m : Bytes) :
    (parseMetricTag m).isOk = true ↔
      ∃ ts te, indexOf 123 m = some ts ∧ indexOf 125 m = some te ∧ ts < te ∧
        ∀ item ∈ splitOn 44 (inner m ts te), item.count 61 = 1 := by
  constructor
  · -- along the parser's own branches: three answer `err`, the accepting one holds what the witness needs
    fun_cases parseMetricTag m
    · nofun
    · next ts te he hs hlt fs hq =>
      exact fun _ => ⟨ts, te, hs, he, Nat.lt_of_le_of_ne (Nat.le_of_not_lt hlt) (indexOf_ne (by decide) hs he),
        (parseTags_isSome_iff .and _).mp (Option.isSome_of_eq_some hq)⟩
    · nofun
    · nofun
  · intro h
    obtain ⟨ts, te, hs, he, hlt, hall⟩ := h
    obtain ⟨fs, e⟩ := parseMetricTag_ok hs he hlt hall
    rw [e]
    rfl

/-- the metric name of an accepted text holds no ':' (it starts behind the last ':' in front of the tags) -/
theorem metric_name_has_no_colon (m : Bytes) (metric : Bytes) (fs : List TagFilter)
    (h : parseMetricTag m = .ok (metric, fs)) : 58 ∉ metric := by
  obtain ⟨ts, te, hs, he, hlt, hall⟩ := (metric_tag_accepts_iff m).mp (h ▸ rfl)
  obtain ⟨fs', e⟩ := parseMetricTag_ok hs he hlt hall
  exact (Prod.mk.inj (Outcome.ok.inj (e.symm.trans h))).1 ▸ metricOf_no_colon _

/-- BEFORE the repair the parser panicked exactly when a ':' stands at or behind the first '{', or the first '}' in
front of the first '{' -/
theorem metric_tag_old_panics_iff (m : Bytes) :
    parseMetricTagOld m = .panic ↔
      (∃ i ts, lastIndexOf 58 m = some i ∧ indexOf 123 m = some ts ∧ ts ≤ i) ∨
      (∃ ts te, indexOf 123 m = some ts ∧ indexOf 125 m = some te ∧ te < ts) :=
  ⟨fun h => Classical.byContradiction fun hn => metric_tag_total m (old_eq_new hn ▸ h), old_panics⟩

/-- the statement "answers with a value or an error" is FALSE for the parser before the repair:
`m=avg:m{a:b=c}` (a ':' inside the tags) and `m=avg:m}{` -/
theorem metric_tag_total_old_counterexample : ¬ (∀ m : Bytes, parseMetricTagOld m ≠ .panic) := by
  intro h
  exact h [97, 118, 103, 58, 109, 123, 97, 58, 98, 61, 99, 125] (by decide +kernel)

theorem metric_tag_old_brace_order_counterexample :
    parseMetricTagOld [97, 118, 103, 58, 109, 125, 123] = .panic := by decide +kernel

/-- the repair changes nothing else: wherever the former parser returned, the repaired one returns the same -/
theorem metric_tag_repair_conservative (m : Bytes) (h : parseMetricTagOld m ≠ .panic) :
    parseMetricTagOld m = parseMetricTag m :=
  old_eq_new fun hp => h (old_panics hp)

/-- the accepted language of relative times: `[+-]digits` (an int64), one of the units s m h d w n y, "-ago" -/
theorem relative_time_accepts_iff (s : Bytes) :
    ago s = .relOk ↔ ∃ n u, s = n ++ u :: agoSuffix ∧ u ∈ timeUnits ∧ atoiOk n = true := by
  constructor
  · fun_cases ago s
    · nofun
    · -- `d` is the `s.take (s.length - 4)` that `ago` binds
      next hs d _ hok =>
      obtain ⟨d', rfl⟩ := (hasSuffix_iff _ _).mp hs
      obtain ⟨n, u, e, hu⟩ := (durationOk_iff d).mp hok
      cases (take_append_agoSuffix d').symm.trans e
      exact fun _ => ⟨n, u, List.append_assoc .., hu⟩
    · nofun
    · nofun
  · intro h
    obtain ⟨n, u, rfl, hu⟩ := h
    rw [List.append_cons, ago_append, if_neg (List.append_ne_nil_of_right_ne_nil _ (List.cons_ne_nil _ _)),
      if_pos ((durationOk_iff _).mpr ⟨n, u, rfl, hu⟩)]

/-- BEFORE the repair `start=-ago` (no duration at all) panicked, and nothing else did -/
theorem relative_time_old_panics_iff (s : Bytes) : agoOld s = .panic ↔ s = agoSuffix := by
  rw [agoOld_eq]
  split
  · exact ⟨fun _ => ‹_›, fun _ => rfl⟩
  · exact ⟨fun h => absurd h (relative_time_total s), fun h => absurd h ‹_›⟩

theorem relative_time_repair_conservative (s : Bytes) (h : agoOld s ≠ .panic) : agoOld s = ago s := by
  rw [agoOld_eq] at h ⊢
  split
  · rename_i e; exact absurd (if_pos e) h
  · rfl

/-- non-vacuity: `sum:1m-avg:cpu{host=h1|h2,job="c17"}` is accepted with the expected parts (metric cpu; host = h1 or
h2; job = c17, unquoted; the operator stays `or` after the first item with two values) -/
example : parseMetricTag [115, 117, 109, 58, 49, 109, 45, 97, 118, 103, 58, 99, 112, 117, 123, 104, 111, 115, 116, 61, 104, 49, 124, 104, 50, 44, 106, 111, 98, 61, 34, 99, 49, 55, 34, 125] =
    .ok ([99, 112, 117], [⟨[104, 111, 115, 116], [104, 49], .or⟩, ⟨[104, 111, 115, 116], [104, 50], .or⟩, ⟨[106, 111, 98], [99, 49, 55], .or⟩]) := by decide +kernel

example : parseAggDs [115, 117, 109, 58, 49, 109, 45, 97, 118, 103, 58, 99, 112, 117, 123, 104, 111, 115, 116, 61, 104, 49, 124, 104, 50, 44, 106, 111, 98, 61, 34, 99, 49, 55, 34, 125] = .ok (.sum, ⟨1, [109], .avg, false⟩) := by decide +kernel

example : ago [49, 53, 109, 45, 97, 103, 111] = .relOk ∧ ago [45, 97, 103, 111] = .relErr ∧ ago [49, 55, 48, 48, 48, 48, 48, 48, 48, 48] = .abs := by decide +kernel
end Otsdb

/-! ## "… exactly one terminal state, after which … no goroutine of it remains": the state multiplexer

`RunQueryForNewPipeline` starts ONE multiplexer goroutine per query (pkg/ast/pipesearch/multiplexer,
Model/QMux.lean, tied to the real goroutine by the suite `qmux`).  `ended` = the goroutine has returned;
`Out.close` = `close(output)`, which the reader of the query's answer waits for. -/
namespace Mux
open SigModel.Model SigModel.Lemmas.C17g

/-- the multiplexer goroutine ends with the first terminal message: for EVERY event sequence (with or without a
timechart channel) that holds a CANCELLED, TIMEOUT or ERROR message on a channel that exists, the goroutine has
returned at the end of the sequence, it has closed its output EXACTLY once, and the close is its LAST output — nothing
is sent after it (whatever follows the terminal message, e.g. the CANCELLED that follows a TIMEOUT, is not read). -/
theorem multiplexer_terminates_after_terminal_state (tcPresent : Bool) (evs : List QMux.Ev)
    (h : ∃ e ∈ evs, (e.msg = .cancelled ∨ e.msg = .timeout ∨ e.msg = .error) ∧ (e.tc = true → tcPresent = true)) :
    (QMux.run tcPresent evs).1.ended = true ∧
    ((QMux.run tcPresent evs).2.filter QMux.Out.isClose).length = 1 ∧
    (QMux.run tcPresent evs).2.getLast? = some QMux.Out.close := by
  have hg := good_run tcPresent evs
  have he : (QMux.run tcPresent evs).1.ended = true := by
    obtain ⟨⟨tc, msg⟩, hm, ha, hd⟩ := h
    refine runFrom_closing evs _ _ ⟨⟨tc, msg⟩, hm, ?_, fun s' => ?_⟩
    · cases tc
      · rfl
      · exact hd rfl
    · rcases ha with rfl | rfl | rfl <;> rfl
  refine ⟨he, ?_, hg.last he⟩
  have := hg.count
  rwa [he] at this

/-- … the same holds when an input channel is closed before its COMPLETE (one step, any running goroutine) … -/
theorem multiplexer_ends_on_unexpected_close (s : QMux.St) (tc : Bool) (hd : tc = true → s.tcPresent = true)
    (hi : QMux.isDone s tc = false) : (QMux.step s ⟨tc, .closed⟩).1.ended = true := by
  refine step_ended_of_closed _ _ ?_ ?_
  · cases tc
    · rfl
    · exact hd rfl
  · simp only [QMux.handle, hi]; rfl

/-- … and when every channel has delivered its COMPLETE: in EVERY reachable state, all channels complete implies
that the goroutine has returned. -/
theorem multiplexer_ends_when_all_complete (tcPresent : Bool) (evs : List QMux.Ev)
    (h : (QMux.run tcPresent evs).1.mainDone = true ∧ (QMux.run tcPresent evs).1.tcDone = true) :
    (QMux.run tcPresent evs).1.ended = true :=
  (good_run tcPresent evs).done (by rw [QMux.allDone, h.1, h.2]; rfl)

/-- for EVERY event sequence the output is closed at most once (a second `close` would panic), exactly once iff the
goroutine has returned, then as the last output; and the goroutine has returned iff `closedOutput` is set. -/
theorem multiplexer_closes_at_most_once (tcPresent : Bool) (evs : List QMux.Ev) :
    ((QMux.run tcPresent evs).2.filter QMux.Out.isClose).length ≤ 1 ∧
    (((QMux.run tcPresent evs).2.filter QMux.Out.isClose).length = 1 ↔ (QMux.run tcPresent evs).1.ended = true) ∧
    ((QMux.run tcPresent evs).1.ended = true → (QMux.run tcPresent evs).2.getLast? = some QMux.Out.close) ∧
    (QMux.run tcPresent evs).1.ended = (QMux.run tcPresent evs).1.closedOutput := by
  have hg := good_run tcPresent evs
  have hc := hg.count
  unfold closes at hc
  rw [hc]
  refine ⟨?_, ?_, hg.last, hg.sync⟩ <;> cases (QMux.run tcPresent evs).1.ended <;> decide

/-- non-vacuity: a synchronous query that times out — TIMEOUT is forwarded, the output closed, the goroutine gone;
the CANCELLED that `CancelQuery` sends next is not read (2 of 3 events consumed) -/
example : QMux.run false [⟨false, .ready⟩, ⟨false, .timeout⟩, ⟨false, .cancelled⟩] =
      ({ tcPresent := false, mainDone := false, tcDone := true, closedOutput := true, ended := true },
       [.env "READY" false "", .env "TIMEOUT" false "", .close]) ∧
    QMux.readFrom (QMux.init false) [⟨false, .ready⟩, ⟨false, .timeout⟩, ⟨false, .cancelled⟩] = 2 :=
  ⟨rfl, rfl⟩

/-- non-vacuity: with a timechart channel the two COMPLETEs are merged into one, then the output is closed by the
deferred function; a non-websocket COMPLETE with a timechart channel is answered with an ERROR -/
example : (QMux.run true [⟨false, .completeWs⟩, ⟨true, .update⟩, ⟨true, .completeWs⟩]).2 =
      [.env "QUERY_UPDATE" true "", .env "COMPLETE" false "m", .close] ∧
    (QMux.run true [⟨false, .completeHttp⟩]).2 = [.env "ERROR" false "x", .close] ∧
    (QMux.run false [⟨false, .completeHttp⟩]).2 = [.env "COMPLETE" false "h", .close] :=
  ⟨rfl, rfl, rfl⟩

/-- the statement is not a tautology of the model's shape: in the variant in which TIMEOUT is forwarded WITHOUT closing
the output (waiting for the CANCELLED that follows; `stepNoCloseOnTimeout`, Lemmas/C17g.lean) the goroutine of a query
whose last message is TIMEOUT never ends and its output is never closed -/
theorem no_close_on_timeout_variant_violates :
    (runFromNoCloseOnTimeout (QMux.init false) [] [⟨false, .ready⟩, ⟨false, .timeout⟩]).1.ended = false ∧
    ((runFromNoCloseOnTimeout (QMux.init false) [] [⟨false, .ready⟩, ⟨false, .timeout⟩]).2.filter QMux.Out.isClose).length = 0 := by
  decide +kernel
end Mux

end SigModel.Props.C17
