/-
C03 — Query answers do not depend on physical layout or acceleration path.  Property theorems only; the lemmas are in
Lemmas/C03R (range rule), C03B (bloom) and C03Bdict (dictionary path).

Decided by proof here (on kernels REGENERATED from /repo on every run, SigModel/Gen/Range.lean):
soundness of the range micro-index skip rule: if ANY value stored in the block (all stored values
lie within the block's [min, max]) satisfies the comparison, the block is NOT skipped — for all
six operators, all literals and all ranges, for signed, unsigned and float indexes.
The full-strength statement for `!=` must also cover records that LACK the column (they satisfy
`!=` under the engine's rules).  For the `!=` kernel alone that is false (`ne_prune_unsound_with_absent_old`: the
behaviour before patch c02-2); with the patch the block-level rule (`intRangeKeep`: doRangeCheckForCol /
doRangeCheckForCols do not consult the range for `!=`) is sound with absent records too —
`range_rule_sound_with_absent`.  The small model of that block-level rule is tied to the code by the end-to-end
suites only (two layouts of the same events).
Further down: the bloom skip rule (words, phrases, equality, boolean comparisons; rotated and open segments) and the
dictionary search path (= the per-record path, for every dictionary block and predicate).
Layout independence as a whole (flush/rotate histories, which blocks are dictionary-encoded) is decided by
the end-to-end differential (same events under different layouts vs the layout-free specification).
-/
import SigModel.Gen.Range
import SigModel.Lemmas.C03R
import SigModel.Lemmas.C03B
import SigModel.Lemmas.C03Bdict

namespace SigModel.Props.C03
open SigModel.Gen

/-- the comparison `value op literal` for the six operators, by operator code -/
def sat (op : Int) (v lit : Int) : Prop :=
  (op = FilterOperator_Equals ∧ v = lit) ∨ (op = FilterOperator_NotEquals ∧ v ≠ lit) ∨
  (op = FilterOperator_LessThan ∧ v < lit) ∨ (op = FilterOperator_LessThanOrEqualTo ∧ v ≤ lit) ∨
  (op = FilterOperator_GreaterThan ∧ v > lit) ∨ (op = FilterOperator_GreaterThanOrEqualTo ∧ v ≥ lit)

/-- C03.2 (signed) a block holding a satisfying value is never skipped -/
theorem int_range_prune_sound (op lit mn mx v : Int) (h1 : mn ≤ v) (h2 : v ≤ mx) (hs : sat op v lit) :
    doesIntPassRangeFilter op lit mn mx = true :=
  Range.rangePass_sound op lit mn mx v h1 h2 hs

/-- C03.2 (unsigned) -/
theorem uint_range_prune_sound (op lit mn mx v : Int) (h1 : mn ≤ v) (h2 : v ≤ mx) (hs : sat op v lit) :
    doesUintPassRangeFilter op lit mn mx = true :=
  Range.rangePass_sound op lit mn mx v h1 h2 hs

def satQ (op : Int) (v lit : Rat) : Prop :=
  (op = FilterOperator_Equals ∧ v = lit) ∨ (op = FilterOperator_NotEquals ∧ v ≠ lit) ∨
  (op = FilterOperator_LessThan ∧ v < lit) ∨ (op = FilterOperator_LessThanOrEqualTo ∧ v ≤ lit) ∨
  (op = FilterOperator_GreaterThan ∧ v > lit) ∨ (op = FilterOperator_GreaterThanOrEqualTo ∧ v ≥ lit)

/-- C03.2 (float index; finite doubles compare as their exact rational values) -/
theorem float_range_prune_sound (op : Int) (lit mn mx v : Rat) (h1 : mn ≤ v) (h2 : v ≤ mx) (hs : satQ op v lit) :
    doesFloatPassRangeFilter op lit mn mx = true :=
  Range.rangePass_sound op lit mn mx v h1 h2 hs

/-- … and the rule is not vacuous: a block whose range excludes the literal IS skipped for `=` -/
example : doesIntPassRangeFilter FilterOperator_Equals 50 1 9 = false := by decide

/-- the comparison on a record that may LACK the column: a record without the column satisfies exactly `!=`
(engine rule: filterOpOnDataType on the empty / back-fill record) -/
def satOpt (op : Int) (v : Option Int) (lit : Int) : Prop :=
  match v with
  | some x => sat op x lit
  | none => op = FilterOperator_NotEquals

/-- the block-level rule of doRangeCheckForCol (rotated) / doRangeCheckForCols (open segments) with patch c02-2: for
`!=` the block is kept whatever the range says, otherwise the range kernel decides -/
def intRangeKeep (op lit mn mx : Int) : Bool :=
  if op = FilterOperator_NotEquals then true else doesIntPassRangeFilter op lit mn mx

/-- C03.2 full strength, records may LACK the column (patch c02-2): a block holding a record that satisfies the
comparison — a present value within the block's range, or for `!=` a record without the column — is never skipped,
for all six operators, all literals, ranges and blocks. -/
theorem range_rule_sound_with_absent (op lit mn mx : Int) (vals : List (Option Int))
    (hr : ∀ v ∈ vals, ∀ x, v = some x → mn ≤ x ∧ x ≤ mx) (hs : ∃ v ∈ vals, satOpt op v lit) :
    intRangeKeep op lit mn mx = true := by
  unfold intRangeKeep
  refine iteInduction (motive := (· = true)) (fun _ => rfl) fun hne => ?_
  obtain ⟨v, hv, hsat⟩ := hs
  cases v with
  | none => exact absurd hsat hne
  | some x => exact int_range_prune_sound op lit mn mx x (hr _ hv x rfl).1 (hr _ hv x rfl).2 hsat

/-- … and the rule still skips: `=` on a block whose range excludes the literal -/
example : intRangeKeep FilterOperator_Equals 50 1 9 = false := by decide

/-- BEFORE patch c02-2 the kernel decided for `!=` too: a record without the column satisfies `!=`, yet a block
whose present values all equal the literal was skipped (`n!=5` on {n:5},{n:5},{} in one block returned nothing, in
two blocks the third event).  So the `!=` skip rule changed which events match. -/
theorem ne_prune_unsound_with_absent_old :
    ¬ (∀ (lit mn mx : Int) (vals : List (Option Int)),
        (∀ v ∈ vals, ∀ x, v = some x → mn ≤ x ∧ x ≤ mx) →
        (∃ v ∈ vals, v = none ∨ ∃ x, v = some x ∧ x ≠ lit) →
        doesIntPassRangeFilter FilterOperator_NotEquals lit mn mx = true) := by
  intro h
  refine absurd (h 9 9 9 [some 9, none] (fun v hv x e => ?_) ⟨none, .tail _ (.head _), .inl rfl⟩) (by decide)
  subst e
  cases hv with
  | head => exact ⟨Int.le_refl 9, Int.le_refl 9⟩
  | tail _ h => cases List.mem_singleton.1 h

end SigModel.Props.C03

/-!
## C03 kernel slice "bloom": the BLOOM skip rule and the DICTIONARY search path (Model/Bloom.lean)

The block bloom of a column holds, per stored string value, the keys `addedKeys v` (full value, pieces between single
spaces, ASCII-lower-cased copies).  A query probes the keys of `MatchFilter.probe` / `exprProbe` / `boolProbe`; the block
is dropped when the check (`passRotated` for rotated segments, `passUnrotated` for open ones) fails.  Soundness = a block
that holds a record of the answer is never dropped, for EVERY filter that behaves like a bloom (`BloomLike` holding at
least the added keys).

The model mirrors the code WITH the repairs c03-A … c03-F (/verif/build/patches).  With them the rule is sound at full
strength: And/Or filters of words of any number of tokens (blank words included), phrases of any shape
(`PhrasePruneSound` is a theorem), string equality, boolean comparisons, negated filters on rotated AND open segments;
and a dictionary-encoded block answers a negated filter like a plain one.  The former behaviour is kept under …Old
definitions (`probeNoBlankTest` for c03-F) with the counterexample theorems that were the defects (each replayed on the
engine, see known_findings.txt):
* `bloom_prune_phrase_counterexample_old`   `"foo bar"` misses m="x foo bar y" (one key for the whole phrase);
* `bloom_prune_empty_needle_counterexample_old`  `""` misses m="abc " ;
* `or_blank_word_counterexample_old`  `nope OR "" OR zzz` misses m=" ddd" on open segments (the empty word has no key);
* `unrotated_negated_prune_counterexample_old`  `NOT zzz` loses the blocks without zzz while the segment is open;
* `bool_probe_counterexample_old`  `b=true` finds nothing (the text "true" is probed, boolean columns have no bloom);
* `filterDictBlockOld_negated_counterexample`  `NOT zzz` returns the events WITH zzz (dictionary block, no record loop).
-/
namespace SigModel.Props.C03
open SigModel.Bloom
open SigModel.Tlv (Bytes DictRd)

/-- the match filter of a one-word free-text search (what `createMatchFilterCriteria` builds) -/
def wordFilter (w : Bytes) : MatchFilter :=
  { words := [w], wordsOrig := [], op := .and, phrase := [], phraseOrig := [], isPhrase := false, negate := false }

/-- the match filter of a quoted phrase (what `createMatchPhraseFilterCriteria` builds) -/
def phraseFilter (p : Bytes) : MatchFilter :=
  { words := splitSpace p, wordsOrig := [], op := .and, phrase := p, phraseOrig := [], isPhrase := true, negate := false }

/-- the words theorem for the probe as it was before patch c03-F, under the guard that patch makes unnecessary: when the
probe's operator is Or, no match word is blank (empty or spaces only) -/
theorem bloom_prune_sound_words_noBlankTest (mf : MatchFilter) (ci : Bool) (v : Bytes) (b : BloomLike) (cols : Cols) (allCols : Bool)
    (hb : b.holds (addedKeys v)) (hc : some b ∈ cols) (hph : mf.isPhrase = false)
    (hlow : ci = true → ∀ w ∈ mf.words, hasUpper w = false)
    (hor : (mf.probeNoBlankTest ci).op = .or → ∀ w ∈ mf.words, blankWord w = false)
    (h : matchRaw mf ci (.str v) = true) :
    passRotated allCols cols (mf.probeNoBlankTest ci) false = true ∧ passUnrotated cols (mf.probeNoBlankTest ci) false = true := by
  have hword : ∀ k ∈ (mf.probeOld ci).keys, k ∈ mf.words := fun k hkk => (((probeOld_words mf ci hph).2.1 k).1 hkk).1
  -- the Or case of `pass_wordsOfKeys` asks for a found key that is not blank: `hor` (the split probe keeps the operator)
  exact pass_wordsOfKeys ci v b cols allCols (mf.probeOld ci) hb hc (fun e k hkk => hlow e k (hword k hkk))
    ((matchRaw_probeOld mf ci v hph h).imp_right (Or.imp_right fun hf =>
      ⟨hf.1, hf.2.imp fun k hk => ⟨hk.1, hor hf.1 k (hword k hk.1), hk.2⟩⟩))

/-- C03.3 (words, full filter) a block holding a record that satisfies an And/Or filter of match words — of ANY number
of tokens each, blank words included — is kept, on rotated and on open segments, whichever columns are consulted, for any
bloom-like filter.  (Case-insensitive search: lower-cased words, as the query grammar produces them.) -/
theorem bloom_prune_sound_words (mf : MatchFilter) (ci : Bool) (v : Bytes) (b : BloomLike) (cols : Cols) (allCols : Bool)
    (hb : b.holds (addedKeys v)) (hc : some b ∈ cols) (hph : mf.isPhrase = false)
    (hlow : ci = true → ∀ w ∈ mf.words, hasUpper w = false)
    (h : matchRaw mf ci (.str v) = true) :
    passRotated allCols cols (mf.probe ci) false = true ∧ passUnrotated cols (mf.probe ci) false = true :=
  pass_probe mf ci allCols cols fun hor => bloom_prune_sound_words_noBlankTest mf ci v b cols allCols hb hc hph hlow hor h

/-- C03.3 (one word, case-sensitive and case-insensitive, ANY word) `IsSubWordPresent(v, w)` ⇒ the block is kept -/
theorem bloom_prune_sound_word (ci : Bool) (v w : Bytes) (b : BloomLike) (cols : Cols) (allCols : Bool)
    (hb : b.holds (addedKeys v)) (hc : some b ∈ cols) (hlow : ci = true → hasUpper w = false)
    (h : subWord ci v w = true) :
    passRotated allCols cols ((wordFilter w).probe ci) false = true ∧
    passUnrotated cols ((wordFilter w).probe ci) false = true :=
  -- `matchRaw` of the one-word filter computes to `subWord ci v w && true`
  bloom_prune_sound_words (wordFilter w) ci v b cols allCols hb hc rfl
    (fun e _ hx => List.mem_singleton.1 hx ▸ hlow e) ((Bool.and_true _).trans h)

/-- the Or filter of the words "nope", "", "zzz" -/
def orBlankFilter : MatchFilter :=
  { words := [[110, 111, 112, 101], [], [122, 122, 122]], wordsOrig := [], op := .or, phrase := [], phraseOrig := [],
    isPhrase := false, negate := false }

/-- before patch c03-F (between c03-A and c03-F): an OR filter with an EMPTY match word — a `multi_match` phrase query
with two spaces in a row builds one — matches, at record level, every value that starts or ends with a space, but only
the other words were probed: a block holding " ddd" and no "nope"/"zzz" was dropped by the all-columns / open-segment
check (the single-column check of rotated segments never drops a block for an Or, hence the layout dependence) -/
theorem or_blank_word_counterexample_old :
    matchRaw orBlankFilter false (.str [32, 100, 100, 100]) = true ∧
    passUnrotated [some (exact (addedKeys [32, 100, 100, 100]))] (orBlankFilter.probeNoBlankTest false) false = false ∧
    passRotated false [some (exact (addedKeys [32, 100, 100, 100]))] (orBlankFilter.probeNoBlankTest false) false = true ∧
    passUnrotated [some (exact (addedKeys [32, 100, 100, 100]))] (orBlankFilter.probe false) false = true := by decide +kernel

/-- the case-insensitive rule needs the lower-cased needle the query grammar produces: a needle with upper-case bytes
that differs in case from the stored token is probed as is and missed -/
theorem bloom_ci_needs_lowered_needle :
    ¬ (∀ (v w : Bytes) (b : BloomLike), b.holds (addedKeys v) → subWord true v w = true →
        passRotated true [some b] ((wordFilter w).probe true) false = true) := by
  intro h
  -- v = "FOO", w = "Foo"
  exact absurd (h [70, 79, 79] [70, 111, 111] (exact (addedKeys [70, 79, 79])) (exact_holds _) (by decide +kernel)) (by decide +kernel)

/-- the phrase theorem for the probe as it was before patch c03-F; it needs no guard -/
theorem bloom_prune_sound_phrase_noBlankTest (mf : MatchFilter) (ci : Bool) (v : Bytes) (b : BloomLike) (cols : Cols) (allCols : Bool)
    (hb : b.holds (addedKeys v)) (hc : some b ∈ cols) (hph : mf.isPhrase = true)
    (hlow : ci = true → hasUpper mf.phrase = false)
    (h : subWord ci v mf.phrase = true) :
    passRotated allCols cols (mf.probeNoBlankTest ci) false = true ∧ passUnrotated cols (mf.probeNoBlankTest ci) false = true := by
  obtain ⟨_, _, hk, _⟩ := probeOld_phrase mf ci hph
  exact pass_wordsOfKeys ci v b cols allCols (mf.probeOld ci) hb hc (fun e k hkk => hk k hkk ▸ hlow e)
    (.inr (.inl fun k hkk => hk k hkk ▸ h))

/-- C03.3 (phrase) every phrase filter (And or Or, any phrase: one word, several words, empty, leading / trailing /
double spaces) keeps a block that holds a value in which the record matcher finds the phrase -/
theorem bloom_prune_sound_phrase (mf : MatchFilter) (ci : Bool) (v : Bytes) (b : BloomLike) (cols : Cols) (allCols : Bool)
    (hb : b.holds (addedKeys v)) (hc : some b ∈ cols) (hph : mf.isPhrase = true)
    (hlow : ci = true → hasUpper mf.phrase = false)
    (h : subWord ci v mf.phrase = true) :
    passRotated allCols cols (mf.probe ci) false = true ∧ passUnrotated cols (mf.probe ci) false = true :=
  pass_probe mf ci allCols cols fun _ => bloom_prune_sound_phrase_noBlankTest mf ci v b cols allCols hb hc hph hlow h

/-- C03.3 (phrase filter with operator Or, as `multi_match` type phrase builds it: the match words are the pieces of the
phrase).  At record level such a filter asks for ANY of its words; a block holding a value with one of them is kept. -/
theorem bloom_prune_sound_phrase_or (mf : MatchFilter) (ci : Bool) (v : Bytes) (b : BloomLike) (cols : Cols) (allCols : Bool)
    (hb : b.holds (addedKeys v)) (hc : some b ∈ cols) (hph : mf.isPhrase = true) (hop : mf.op = .or)
    (hwords : mf.words = splitSpace mf.phrase)
    (hlow : ci = true → hasUpper mf.phrase = false)
    (h : matchRaw mf ci (.str v) = true) :
    passRotated allCols cols (mf.probe ci) false = true ∧ passUnrotated cols (mf.probe ci) false = true := by
  refine pass_probe mf ci allCols cols fun hnb => pass_of_found allCols cols _ false ?_
  obtain ⟨hw, hopP, -, hk⟩ := probeOld_phrase mf ci hph
  -- from here on the unsplit probe is a variable: the projections of the split probe are then read off, not computed
  dsimp only [MatchFilter.probeNoBlankTest] at hnb ⊢
  generalize mf.probeOld ci = p at hw hopP hk hnb ⊢
  cases hs : hasStar mf.phrase with
  | true => exact .inl (.inl (hw.trans hs))
  | false =>
    have hor := hopP.trans hop
    obtain ⟨w0, hw0, hsub⟩ := (matchRaw_or mf ci v hop h).resolve_left (hwords ▸ splitSpace_ne_nil _)
    have hne : w0 ≠ [] := fun e => Bool.noConfusion ((hnb hor w0 hw0).symm.trans (congrArg blankWord e))
    rw [hwords] at hw0
    -- the matching word is a piece of the phrase: no space, so a key of the writer, and a key of the probe
    have hkey := key_added_token ci v w0 hne (Lemmas.Split.not_mem_of_mem_splitOn (splitSpace_eq _ ▸ hw0))
      (fun e => noUpper_piece _ w0 hw0 (hlow e)) hsub
    exact .inr (.inr ⟨hor, w0, (mem_wordsOfKeys _ w0).2 ⟨_, hk hs, hw0, hne⟩, found_of_holds cols b _ w0 hb hc hkey⟩)

/-- C03.3 (phrase) FULL strength: every phrase found in a stored value keeps the block (rotated and open segments) -/
def PhrasePruneSound : Prop :=
  ∀ (ci : Bool) (v p : Bytes) (b : BloomLike), b.holds (addedKeys v) → (ci = true → hasUpper p = false) →
    subWord ci v p = true →
    passRotated true [some b] ((phraseFilter p).probe ci) false = true ∧
    passUnrotated [some b] ((phraseFilter p).probe ci) false = true

/-- … and with patch c03-A it HOLDS -/
theorem bloom_prune_phrase_sound : PhrasePruneSound := by
  intro ci v p b hb hlow h
  exact bloom_prune_sound_phrase (phraseFilter p) ci v b [some b] true hb (List.mem_singleton_self _) rfl hlow h

/-- the same statement for the code BEFORE patch c03-A (one key for the whole phrase) -/
def PhrasePruneSoundOld : Prop :=
  ∀ (ci : Bool) (v p : Bytes) (b : BloomLike), b.holds (addedKeys v) → (ci = true → hasUpper p = false) →
    subWord ci v p = true →
    passRotated true [some b] ((phraseFilter p).probeOld ci) false = true

/-- OLD code: the phrase "foo bar" is found by the record matcher in the value "x foo bar y", but it was probed as ONE
key and the writer adds only the whole value and the single tokens: the block was dropped. -/
theorem bloom_prune_phrase_counterexample_old : ¬ PhrasePruneSoundOld := by
  intro h
  exact absurd (h false [120, 32, 102, 111, 111, 32, 98, 97, 114, 32, 121] [102, 111, 111, 32, 98, 97, 114]
    (exact (addedKeys [120, 32, 102, 111, 111, 32, 98, 97, 114, 32, 121])) (exact_holds _) Bool.noConfusion (by decide +kernel)) (by decide +kernel)

/-- … the repaired probe keeps that very block -/
example : passRotated true [some (exact (addedKeys [120, 32, 102, 111, 111, 32, 98, 97, 114, 32, 121]))]
    ((phraseFilter [102, 111, 111, 32, 98, 97, 114]).probe false) false = true := by decide +kernel

/-- OLD code: the EMPTY phrase is "found" by `IsSubWordPresent` after a trailing space ("abc "), but the key "" is not
added for an empty LAST piece -/
theorem bloom_prune_empty_needle_counterexample_old :
    ¬ (∀ (v : Bytes) (b : BloomLike), b.holds (addedKeys v) → subWord false v [] = true →
        passRotated true [some b] ((phraseFilter []).probeOld false) false = true) := by
  intro h
  exact absurd (h [97, 98, 99, 32] (exact (addedKeys [97, 98, 99, 32])) (exact_holds _) (by decide +kernel)) (by decide +kernel)

/-- the phrases the OLD probe was right about: one token, or the whole value -/
def PhraseGuard (v p : Bytes) : Prop := (p ≠ [] ∧ 32 ∉ p) ∨ p.length = v.length

instance (v p : Bytes) : Decidable (PhraseGuard v p) := by unfold PhraseGuard; exact inferInstance

/-- OLD code, partial: under the guard the one-key phrase probe was sound -/
theorem bloom_prune_phrase_partial_old (mf : MatchFilter) (ci : Bool) (v : Bytes) (b : BloomLike) (cols : Cols) (allCols : Bool)
    (hb : b.holds (addedKeys v)) (hc : some b ∈ cols) (hph : mf.isPhrase = true)
    (hg : PhraseGuard v mf.phrase) (hlow : ci = true → hasUpper mf.phrase = false)
    (h : subWord ci v mf.phrase = true) :
    passRotated allCols cols (mf.probeOld ci) false = true ∧ passUnrotatedOld cols (mf.probeOld ci) = true := by
  have hkey : mf.phrase ∈ addedKeys v := by
    rcases hg with ⟨h1, h2⟩ | h1
    · exact key_added_token ci v mf.phrase h1 h2 hlow h
    · exact key_added_whole ci v mf.phrase h1 hlow h
  obtain ⟨_, _, hk, _⟩ := probeOld_phrase mf ci hph
  rw [← passUnrotated_false]
  exact pass_of_found allCols cols _ false (.inr (.inl fun x hx => hk x hx ▸ found_of_holds cols b _ _ hb hc hkey))

/-- the guard is satisfiable on both sides: "foo" and the whole value in "x foo bar y" -/
example : PhraseGuard [120, 32, 102, 111, 111, 32, 98, 97, 114, 32, 121] [102, 111, 111] ∧
    subWord false [120, 32, 102, 111, 111, 32, 98, 97, 114, 32, 121] [102, 111, 111] = true := by decide +kernel
example : PhraseGuard [120, 32, 102, 111, 111] [120, 32, 102, 111, 111] ∧ subWord false [120, 32, 102, 111, 111] [120, 32, 102, 111, 111] = true := by decide +kernel
/-- … and it excludes the counterexample -/
example : ¬ PhraseGuard [120, 32, 102, 111, 111, 32, 98, 97, 114, 32, 121] [102, 111, 111, 32, 98, 97, 114] := by decide +kernel
/-- the rule is not vacuous: a block without the word IS dropped ("zzz" against a block holding "x foo bar y"), and so
is a block holding only one word of the phrase ("foo zzz") -/
example : passRotated true [some (exact (addedKeys [120, 32, 102, 111, 111, 32, 98, 97, 114, 32, 121]))]
    ((wordFilter [122, 122, 122]).probe false) false = false := by decide +kernel
example : passRotated true [some (exact (addedKeys [120, 32, 102, 111, 111, 32, 98, 97, 114, 32, 121]))]
    ((phraseFilter [102, 111, 111, 32, 122, 122, 122]).probe false) false = false := by decide +kernel

/-- C03.3 (string equality `col = "value"`) a block holding an equal value (equal up to ASCII case when the comparison
is case-insensitive) is kept -/
theorem bloom_prune_sound_eq (ci : Bool) (v val orig : Bytes) (hasOrig : Bool) (b : BloomLike) (cols : Cols) (allCols : Bool)
    (hb : b.holds (addedKeys v)) (hc : some b ∈ cols) (hlow : ci = true → hasUpper val = false)
    (h : exprRaw true ci val (.str v) = true) :
    passRotated allCols cols (exprProbe true (hasStar val) val hasOrig orig ci) false = true ∧
    passUnrotated cols (exprProbe true (hasStar val) val hasOrig orig ci) false = true := by
  refine pass_of_found allCols cols _ false (.inr (.inl fun k hk => ?_))
  rw [mem_exprProbe_keys hk]
  -- `exprRaw` for Equals on a string computes to `length test && bytesEq`
  exact found_of_holds cols b _ val hb hc (key_added_value ci v val hlow (Bool.and_eq_true_iff.1 h).2)

/-- a record belongs to the answer of a (possibly negated) match filter -/
def inAnswer (mf : MatchFilter) (ci : Bool) (v : Bytes) : Bool := matchRaw mf ci (.str v) != mf.negate

/-- negated filters: neither check drops a block (rotated: `doCmiChecks`; open: `DoCMICheckForUnrotated` with patch c03-B) -/
theorem bloom_prune_negated (allCols : Bool) (cols : Cols) (p : Probe) :
    passRotated allCols cols p true = true ∧ passUnrotated cols p true = true :=
  pass_of_found allCols cols p true (.inl (.inr rfl))

/-- OLD code (before c03-B): `DoCMICheckForUnrotated` had no negate test; a block none of whose records holds the word —
every record of it belongs to the answer of `NOT zzz` — was dropped while the segment was open. -/
theorem unrotated_negated_prune_counterexample_old :
    ¬ (∀ (mf : MatchFilter) (ci : Bool) (v : Bytes) (b : BloomLike), b.holds (addedKeys v) → inAnswer mf ci v = true →
        passUnrotatedOld [some b] (mf.probe ci) = true) := by
  intro h
  -- NOT zzz against a block holding "ccc"
  exact absurd (h { wordFilter [122, 122, 122] with negate := true } false [99, 99, 99] (exact (addedKeys [99, 99, 99]))
    (exact_holds _) (by decide +kernel)) (by decide +kernel)

example : inAnswer (wordFilter [99, 99, 99]) false [99, 99, 99] = true := by decide +kernel

/-- C03.3 (boolean comparison, patch c03-C) nothing is probed: the block is kept whatever micro-indexes it has -/
theorem bool_probe_sound (allCols : Bool) (cols : Cols) :
    passRotated allCols cols boolProbe false = true ∧ passUnrotated cols boolProbe false = true :=
  pass_of_found allCols cols boolProbe false (.inr (.inl nofun))

/-- OLD code (before c03-C): `b=true` probed the TEXT "true".  A boolean column has no bloom micro-index (`none`), and
where a dictionary block's filter exists it holds the byte 0/1: either way the block with a matching record was dropped. -/
theorem bool_probe_counterexample_old :
    boolRaw true true (.bool true) = true ∧
    passRotated false [none] (boolProbeOld true true) false = false ∧
    passRotated false [some (exact (colKeysDict [.bool true, .bool false]))] (boolProbeOld true true) false = false ∧
    passUnrotatedOld [none] (boolProbeOld true true) = false := by decide +kernel

/-- patch c03-E: a boolean comparison on a record that is not a boolean answers without an error, where the OLD code
returned an error (which stopped the dictionary word loop / the record loop of the block at that record); on booleans
nothing changed -/
theorem boolRaw_old (eq lit : Bool) (v : CVal) :
    (boolRawOld eq lit v = none ↔ ∀ b, v ≠ .bool b) ∧ (∀ r, boolRawOld eq lit v = some r → boolRaw eq lit v = r) := by
  cases v <;> simp [boolRawOld, boolRaw]

/-- patch c02-1: an event that does not have the column satisfies `b != true` whether its block has the column (back-fill
record) or not (the reader hands out an empty record, for which `filterOpOnDataType` has always answered `!=` yes);
before, the back-fill record answered no and the answer depended on what else the block holds.  Records of another
type are untouched. -/
theorem boolRaw_backfill (eq lit : Bool) :
    boolRaw eq lit .backfill = !eq ∧ boolRawBackfillOld eq lit .backfill = false ∧
    (∀ v, v ≠ .backfill → boolRaw eq lit v = boolRawBackfillOld eq lit v) := by
  refine ⟨rfl, rfl, fun v hv => ?_⟩
  cases v with
  | backfill => exact absurd rfl hv
  | _ => rfl

/-- the in-place variant `addToBlockBloomBothCases` (work buffer = the value; array-dict keys and values): each
lower-casing overwrites the head of the value, so the final "lower-cased full value" is wrong — for "Foo Bar" the key
"bar bar" is added instead of "foo bar", which the flush-path variant does add. -/
theorem inplace_variant_loses_lowercase_value :
    toLower [70, 111, 111, 32, 66, 97, 114] ∈ addedKeys [70, 111, 111, 32, 66, 97, 114] ∧
    toLower [70, 111, 111, 32, 66, 97, 114] ∉ (addedKeysInPlace [70, 111, 111, 32, 66, 97, 114]).1 ∧
    (addedKeysInPlace [70, 111, 111, 32, 66, 97, 114]).2 = [98, 97, 114, 32, 98, 97, 114] := by decide +kernel

/-- C03.4 the dictionary path (the predicate once per dictionary word, then all records pointing to the word) selects
exactly the records the per-record path selects, for every dictionary block, record count and predicate -/
theorem dictSearch_eq_perRecord (f : Bytes → Bool) (d : DictRd) (recCount : Nat) :
    dictSearch f d recCount = perRecordSearch f d recCount :=
  (dictLoop_eq f d _ 0 _).trans (perRecFrom_eq f d 0 recCount).symm

/-- C03.4 for match filters: with at least one match word the two paths agree -/
theorem dictMatch_eq_perRecordMatch (mf : MatchFilter) (ci : Bool) (d : DictRd) (recCount : Nat) (h : mf.words ≠ []) :
    dictMatch mf ci d recCount = perRecordMatch mf ci d recCount := by
  unfold dictMatch perRecordMatch
  rw [if_neg (mt List.isEmpty_iff.1 h)]
  exact dictSearch_eq_perRecord _ d recCount

/-- … and WITHOUT match words they do not: `ApplySearchToMatchFilterDictCsg` returns before the loop (nothing
selected) while `ApplySearchToMatchFilterRawCsg` answers true for every record -/
theorem dictMatch_no_words_counterexample :
    ¬ (∀ (mf : MatchFilter) (ci : Bool) (d : DictRd) (recCount : Nat),
        dictMatch mf ci d recCount = perRecordMatch mf ci d recCount) := by
  intro h
  exact absurd (h { wordFilter [] with words := [] } false { words := [[0]], recToWord := [0], badRec := false } 1) (by decide +kernel)

example : dictMatch (wordFilter [102, 111, 111]) false
    { words := [[SigModel.Tlv.tStr, 5, 0, 102, 111, 111, 32, 120], [SigModel.Tlv.tStr, 3, 0, 98, 97, 114]],
      recToWord := [0, 1, 0], badRec := false } 3 = [true, false, true] := by decide +kernel

/-- C03.4 with negation (patch c03-D): a block whose searched column is dictionary-encoded gives, for a (possibly
NEGATED) match filter with words, exactly the records of the answer — each record tested on its own, then negated —
whether or not the block lies inside the query's time range -/
theorem filterDictBlock_eq_answer (mf : MatchFilter) (ci : Bool) (d : DictRd) (recCount : Nat) (enclosed : Bool)
    (h : mf.words ≠ []) :
    filterDictBlock mf ci d recCount enclosed = (perRecordMatch mf ci d recCount).map (fun m => m != mf.negate) := by
  dsimp only [filterDictBlock]
  rw [dictMatch_eq_perRecordMatch mf ci d recCount h]
  refine iteInduction (motive := (· = _)) (fun _ => recLoop_no_plain _ _ _) fun hc => ?_
  -- no record loop: the filter is not negated
  rw [(Bool.or_eq_false_iff.1 (Bool.of_not_eq_true hc)).2]
  exact (List.map_id'' Bool.bne_false _).symm

/-- OLD code (before c03-D): for a time-enclosed block the record loop — the only place where `NegateMatch` is
applied — was skipped: `NOT zzz` over the dictionary {"zzz" ↦ record 0, "aaa" ↦ record 1} returned record 0. -/
theorem filterDictBlockOld_negated_counterexample :
    filterDictBlockOld { wordFilter [122, 122, 122] with negate := true } false
      { words := [[SigModel.Tlv.tStr, 3, 0, 122, 122, 122], [SigModel.Tlv.tStr, 3, 0, 97, 97, 97]], recToWord := [0, 1], badRec := false } 2 true
      = [true, false] ∧
    filterDictBlock { wordFilter [122, 122, 122] with negate := true } false
      { words := [[SigModel.Tlv.tStr, 3, 0, 122, 122, 122], [SigModel.Tlv.tStr, 3, 0, 97, 97, 97]], recToWord := [0, 1], badRec := false } 2 true
      = [false, true] := by decide +kernel

end SigModel.Props.C03
