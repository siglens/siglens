/-
C15 — Bulk ingest acknowledges exactly what it stored.  Property theorems (`not_acknowledged` is the shape the three counterexamples share).
(The vocabulary — a request as a list of actions `Act`, the per-action specification `Act.status`, `finalStatus`,
`finalItems`, `docsOf`, `finalDocsOf` — is defined in Lemmas/C15.lean and Lemmas/C15Store.lean.)

For EVERY bulk body of non-empty lines (a sequence of actions over any number of index names, each with or without
its document line, optionally followed by an incomplete final action and/or a trailing newline), every index-name
predicate, every alias table and every store behaviour, for the code as repaired (c15-3, c15-5):
 * the response has exactly one item per action, in order; an item's status depends only on its own action and
   document and on whether the store took the batch of its index; `errors` is true iff some item is not `created`
                                                                              (C15.1, C15.3, C15.4, C15.5)
 * the documents accepted by the loop are exactly those the loop answers `created`, in order, each with the index
   name of ITS action; a `.kibana` document, which nothing stores, is never answered created   (C15.2, C15.9)
 * after the loop every accepted document is handed to the store exactly once, in the ONE batch of its own index
   name, in request order; no batch contains a document of another index name; every batch passes
   ProcessIndexRequestPle's checks and reaches the store under the real index of its name   (C15.6, C15.7)
 * created ⇔ stored, at full strength: for every index name, what the store took is — as a list, so with order
   and multiplicity — the documents of the actions whose RESPONSE ITEM is `created` (C15.8); a store failure is
   local to its index (C15.8a) and is reported on exactly the items of the refused batch (C15.8b).
The same statement is refuted for the code before each of the two repairs (`…_old_counterexample_…`).
(The loop statements were false before the two `fix:` commits e6f2a3b / 1f7d4e3 — see known_findings.txt.)
-/
import SigModel.Model.Bulk
import SigModel.Lemmas.C15
import SigModel.Lemmas.C15Store

namespace SigModel.Props.C15
open SigModel.Bulk SigModel.Lemmas.C15

/-- C15.1 (loop) one item per action, in request order, each determined by its own action only -/
theorem items_per_action (env : Env) (acts : List Act) (dangling : Option Line) (nl : Bool)
    (hwf : ∀ a ∈ acts, a.wf) (hd : ∀ l, dangling = some l → l.kind ≠ Kind.other ∧ 0 < l.len) :
    (handle Version.fixed env (bodyOf acts dangling nl)).items = loopItems env acts dangling :=
  (handle_spec env acts dangling nl hwf hd).1

/-- C15.2 (loop) created ⇔ accepted for the store: the events the loop keeps (`allPLEs`) are exactly those of
the items it answers created, in order, each under the index name of its own action and tagged with the position
of its own item -/
theorem stored_iff_created (env : Env) (acts : List Act) (dangling : Option Line) (nl : Bool)
    (hwf : ∀ a ∈ acts, a.wf) (hd : ∀ l, dangling = some l → l.kind ≠ Kind.other ∧ 0 < l.len) :
    (handle Version.fixed env (bodyOf acts dangling nl)).ples = plesFrom env acts 0 ∧
    ((handle Version.fixed env (bodyOf acts dangling nl)).ples.map (fun p => (p.1, p.2.1))) = acts.flatMap (Act.storedOf env) ∧
    (∀ a ∈ acts, (a.storedOf env ≠ [] ↔ a.status env = Status.created)) := by
  have h := (handle_spec env acts dangling nl hwf hd).2.1
  exact ⟨h, h ▸ plesFrom_proj env acts 0, fun a _ => storedOf_ne_nil_iff env a⟩

/-- C15.3 `errors` of the response is true iff some item of the response is not `created` (400, 413 or 503) -/
theorem errors_iff_some_failed (env : Env) (acts : List Act) (dangling : Option Line) (nl : Bool)
    (hwf : ∀ a ∈ acts, a.wf) (hd : ∀ l, dangling = some l → l.kind ≠ Kind.other ∧ 0 < l.len) :
    (handleReq env (bodyOf acts dangling nl)).errors = (handleReq env (bodyOf acts dangling nl)).items.any (· ≠ Status.created) := by
  rw [final_items env acts dangling nl hwf hd]
  exact final_errors env acts dangling nl hwf hd

/-- C15.4 locality in the loop: replacing one action (and its document) by any other changes that item only -/
theorem local_failure (env : Env) (pre post : List Act) (a a' : Act) (nl : Bool)
    (hwf : ∀ x ∈ pre ++ a :: post, x.wf) (hwf' : a'.wf) :
    ∃ s s', (handle Version.fixed env (bodyOf (pre ++ a :: post) none nl)).items = pre.map (Act.status env) ++ s :: post.map (Act.status env) ∧
            (handle Version.fixed env (bodyOf (pre ++ a' :: post) none nl)).items = pre.map (Act.status env) ++ s' :: post.map (Act.status env) := by
  have h := List.forall_mem_append.1 hwf
  have hwf2 : ∀ x ∈ pre ++ a' :: post, x.wf :=
    List.forall_mem_append.2 ⟨h.1, List.forall_mem_cons.2 ⟨hwf', (List.forall_mem_cons.1 h.2).2⟩⟩
  have key : ∀ acts, (∀ x ∈ acts, x.wf) →
      (handle Version.fixed env (bodyOf acts none nl)).items = acts.map (Act.status env) :=
    fun acts h => (items_per_action env acts none nl h nofun).trans (List.append_nil _)
  exact ⟨_, _, (key _ hwf).trans List.map_append, (key _ hwf2).trans List.map_append⟩

/-- C15.5 the response: one item per action, in request order; the item of an action is the loop's, except that
a created item becomes `unavailable` exactly when the store refused the batch of its index name -/
theorem response_items (env : Env) (acts : List Act) (dangling : Option Line) (nl : Bool)
    (hwf : ∀ a ∈ acts, a.wf) (hd : ∀ l, dangling = some l → l.kind ≠ Kind.other ∧ 0 < l.len) :
    (handleReq env (bodyOf acts dangling nl)).items = finalItems env acts dangling :=
  final_items env acts dangling nl hwf hd

/-- C15.6 every document the loop accepted is handed to the store exactly once under ITS index name, in
request order per index: for every index name `x`, what is handed over under `x` is — as a list, so with
multiplicity and order — the accepted documents of the actions addressed to `x`, and there is at most one batch
for `x`.  For every request, over any number of index names in any interleaving. -/
theorem handed_once_under_its_index (env : Env) (acts : List Act) (dangling : Option Line) (nl : Bool)
    (hwf : ∀ a ∈ acts, a.wf) (hd : ∀ l, dangling = some l → l.kind ≠ Kind.other ∧ 0 < l.len) (x : Nat) :
    ((handleReq env (bodyOf acts dangling nl)).handedUnder x).map (fun p => (p.1, p.2.1)) = (created env acts).filter (·.1 == x) ∧
    ((handleReq env (bodyOf acts dangling nl)).calls.filter (·.idx == x)).length ≤ 1 := by
  have hc := final_calls env acts dangling nl hwf hd
  refine ⟨?_, hc ▸ callsOf_count env _ x⟩
  rw [handedUnder_callsOf env _ _ hc x, ← plesFrom_proj env acts 0, List.filter_map]
  rfl

/-- C15.7 no document is handed to the store under another index: every batch consists of documents whose own
index name is the batch's, is not empty, is never turned away by ProcessIndexRequestPle's own checks (index-name
mismatch, invalid name), and reaches the store under the real index of its name (an alias resolved) -/
theorem no_document_under_another_index (env : Env) (acts : List Act) (dangling : Option Line) (nl : Bool)
    (hwf : ∀ a ∈ acts, a.wf) (hd : ∀ l, dangling = some l → l.kind ≠ Kind.other ∧ 0 < l.len) :
    ∀ c ∈ (handleReq env (bodyOf acts dangling nl)).calls,
      (∀ p ∈ c.docs, p.1 = c.idx) ∧ c.docs ≠ [] ∧
      (c.res = .stored (env.resolve c.idx) ∨ c.res = .refused (env.resolve c.idx)) := by
  intro c hc
  rw [final_calls env acts dangling nl hwf hd] at hc
  obtain ⟨h1, h2, h3⟩ := callsOf_res env _ (plesFrom_valid env acts 0) c hc
  exact ⟨h2, h3, h1⟩

/-- the documents of the actions whose RESPONSE ITEM is `created` and that address index name `x`, in request
order — read off the response itself, whatever code produced it -/
def ackedDocs (items : List Status) (acts : List Act) (x : Nat) : List Nat :=
  ((acts.zip items).filter (fun ai => ai.2 == Status.created && ai.1.idxOf == x)).map (fun ai => ai.1.docId)

/-- the full statement of "created ⇔ stored" for a bulk handler: for every request, every index-name predicate,
alias table and store behaviour, and every index name, the documents the store took under it are exactly — in
order, each once — the documents of the items the response reports as created -/
def AcknowledgedIsStored (handler : Env → List Line → Resp) : Prop :=
  ∀ (env : Env) (acts : List Act) (dangling : Option Line) (nl : Bool),
    (∀ a ∈ acts, a.wf) → (∀ l, dangling = some l → l.kind ≠ Kind.other ∧ 0 < l.len) →
    ∀ x, (handler env (bodyOf acts dangling nl)).storedUnder x =
      ackedDocs (handler env (bodyOf acts dangling nl)).items acts x

/-- reading the created documents off a response that has one item per action -/
theorem ackedDocs_of_map (f : Act → Status) (acts : List Act) (t : List Status) (x : Nat) :
    ackedDocs (acts.map f ++ t) acts x = (acts.filter (fun a => f a == Status.created && a.idxOf == x)).map Act.docId := by
  unfold ackedDocs
  induction acts with
  | nil => rfl
  | cons a r ih =>
    rw [List.map_cons, List.cons_append, List.zip_cons_cons, List.filter_cons, List.filter_cons]
    cases (f a == Status.created && a.idxOf == x)
    · exact ih
    · exact congrArg (a.docId :: ·) ih

/-- C15.8 created ⇔ stored, at full strength, for the repaired code: whatever the store does with the batches -/
theorem acknowledged_is_stored : AcknowledgedIsStored handleReq := by
  intro env acts dangling nl hwf hd x
  rw [final_items env acts dangling nl hwf hd, stored_eq_finalDocs env acts dangling nl hwf hd x, finalItems,
    ackedDocs_of_map, finalDocsOf]

/-- one `index` action with a good document -/
def oneDoc : Act := .withDoc ⟨.index, 29, true, 0, 0⟩ ⟨.other, 20, true, 7, 0⟩

/-- a handler is refuted by an environment in which, on the request `oneDoc` + newline, what is stored under
index name 0 is not what the response acknowledges -/
theorem not_acknowledged (handler : Env → List Line → Resp) (env : Env)
    (h : (handler env (bodyOf [oneDoc] none true)).storedUnder 0 ≠
      ackedDocs (handler env (bodyOf [oneDoc] none true)).items [oneDoc] 0) : ¬ AcknowledgedIsStored handler :=
  fun hh => h (hh env [oneDoc] none true
    (fun _ ha => List.mem_singleton.1 ha ▸ ⟨nofun, Nat.succ_pos _, Nat.succ_pos _⟩) nofun 0)

/-- before repair c15-3 the statement was false: one `index` action with a good document, a store that refuses —
the item is answered `created`, nothing is stored -/
theorem acknowledged_is_stored_old_counterexample_store :
    ¬ AcknowledgedIsStored (handleReqV { kibanaAcked := false, storeErrorIgnored := true }) :=
  not_acknowledged _ { valid := fun _ => true, kibana := fun _ => false, resolve := id, store := fun _ _ => false }
    (by decide +kernel)

/-- before repair c15-5 the statement was false: one `index` action for a `.kibana` index name with a good
document, a store that never fails — the item is answered `created`, the document goes nowhere -/
theorem acknowledged_is_stored_old_counterexample_kibana :
    ¬ AcknowledgedIsStored (handleReqV { kibanaAcked := true, storeErrorIgnored := false }) :=
  not_acknowledged _ { valid := fun _ => true, kibana := fun _ => true, resolve := id, store := fun _ _ => true }
    (by decide +kernel)

/-- and so for the code before both repairs -/
theorem acknowledged_is_stored_old_counterexample : ¬ AcknowledgedIsStored handleReqOld :=
  not_acknowledged _ { valid := fun _ => true, kibana := fun _ => false, resolve := id, store := fun _ _ => false }
    (by decide +kernel)

/-- C15.8a a store failure is local to its index: if the store accepts the batch of index name `x`, then exactly
the documents the loop accepted for `x` are stored under it, in order, and every action addressed to `x` keeps
the loop's status — whatever happens to the other batches -/
theorem store_failure_local (env : Env) (acts : List Act) (dangling : Option Line) (nl : Bool)
    (hwf : ∀ a ∈ acts, a.wf) (hd : ∀ l, dangling = some l → l.kind ≠ Kind.other ∧ 0 < l.len) (x : Nat)
    (hx : env.store (env.resolve x) (docsOf env acts x) = true) :
    (handleReq env (bodyOf acts dangling nl)).storedUnder x = docsOf env acts x ∧
    (∀ a ∈ acts, a.idxOf = x → finalStatus env acts a = a.status env) := by
  have hr : refusedIdx env acts x = false := by rw [refusedIdx, hx]; rfl
  constructor
  · rw [storedUnder_plesFrom env _ acts (final_calls env acts dangling nl hwf hd) x, hr]
    rfl
  · exact fun a _ hax => finalStatus_of_accepted env acts a (hax ▸ hr)

/-- C15.8b when the store refuses the batch of index name `x`: nothing of it is stored, and no action addressed
to `x` is answered `created` — the items the loop had answered created are `unavailable` -/
theorem refused_batch_is_reported (env : Env) (acts : List Act) (dangling : Option Line) (nl : Bool)
    (hwf : ∀ a ∈ acts, a.wf) (hd : ∀ l, dangling = some l → l.kind ≠ Kind.other ∧ 0 < l.len) (x : Nat)
    (hx : env.store (env.resolve x) (docsOf env acts x) = false) :
    (handleReq env (bodyOf acts dangling nl)).storedUnder x = [] ∧
    (∀ a ∈ acts, a.idxOf = x → a.status env = Status.created → finalStatus env acts a = Status.unavailable) ∧
    (∀ a ∈ acts, a.idxOf = x → finalStatus env acts a ≠ Status.created) := by
  have hr : refusedIdx env acts x = true := by rw [refusedIdx, hx]; rfl
  refine ⟨?_, fun a _ hax hc => ?_, fun a _ hax => finalStatus_of_refused env acts a (hax ▸ hr)⟩
  · rw [storedUnder_plesFrom env _ acts (final_calls env acts dangling nl hwf hd) x, hr]
    rfl
  · rw [finalStatus, if_pos ⟨hc, hax ▸ hr⟩]

/-- the code before repair c15-3: the response never depended on the store — whatever the store did with the
batches, items and `errors` were the same (the error of the store call was only logged) -/
theorem response_independent_of_store_old (env : Env) (store' : Nat → List Nat → Bool) (body : List Line) :
    (handleReqOld { env with store := store' } body).items = (handleReqOld env body).items ∧
    (handleReqOld { env with store := store' } body).errors = (handleReqOld env body).errors :=
  response_independent_of_store Version.old rfl env store' body

/-- C15.9 a document for a `.kibana` index name, which nothing stores: the status of its action is not `created` and
it contributes no event — so by C15.1 and C15.2 it is never answered created and never handed to the store -/
theorem kibana_item_fails (env : Env) (a : Act) (hk : env.kibana a.idxOf = true) :
    a.status env ≠ Status.created ∧ a.storedOf env = [] := by
  have hc : a.status env ≠ Status.created := by
    cases a with
    | single l => exact nofun
    | withDoc x d =>
      intro hc
      have hk' : env.kibana x.idx = true := hk
      rw [((status_created_iff env x d).1 hc).2.2.2.1] at hk'
      cases hk'
  exact ⟨hc, by rw [storedOf_eq, if_neg hc]⟩

/-- non-vacuity: an oversize document followed by a malformed one and a trailing delete -/
example :
    (handle Version.fixed { valid := fun _ => true, kibana := fun _ => false, resolve := id, store := fun _ _ => true }
      (bodyOf [.withDoc ⟨.index, 29, true, 1, 0⟩ ⟨.other, 63021, true, 2, 0⟩,
               .withDoc ⟨.create, 30, true, 3, 0⟩ ⟨.other, 20, false, 4, 0⟩,
               .single ⟨.other, 40, true, 5, 0⟩] none false)).items = [.tooLarge, .failed, .failed] := by
  decide +kernel

/-- non-vacuity, several indexes: index order A,A,B,A gives one batch for A with its three documents in request
order and one batch for B; when the store refuses B's batch only B's document is lost and only B's item is
`unavailable`; a `.kibana` item in between fails on its own -/
example :
    let r := handleReq { valid := fun _ => true, kibana := fun x => x == 5, resolve := id, store := fun i _ => i != 1 }
      (bodyOf [.withDoc ⟨.index, 29, true, 0, 0⟩ ⟨.other, 20, true, 1, 0⟩,
               .withDoc ⟨.index, 29, true, 0, 0⟩ ⟨.other, 20, true, 2, 0⟩,
               .withDoc ⟨.index, 29, true, 0, 5⟩ ⟨.other, 20, true, 9, 0⟩,
               .withDoc ⟨.index, 29, true, 0, 1⟩ ⟨.other, 20, true, 3, 0⟩,
               .withDoc ⟨.index, 29, true, 0, 0⟩ ⟨.other, 20, true, 4, 0⟩] none true)
    r.items = [.created, .created, .failed, .unavailable, .created] ∧ r.errors = true ∧ r.numCreated = 3 ∧
    r.calls = [⟨0, [(0, 1, 0), (0, 2, 1), (0, 4, 4)], .stored 0⟩, ⟨1, [(1, 3, 3)], .refused 1⟩] ∧
    r.storedUnder 0 = [1, 2, 4] ∧ r.storedUnder 1 = [] := by
  decide +kernel

/-- the same request on the code before the repairs: five items `created`, `errors` false -/
example :
    let r := handleReqOld { valid := fun _ => true, kibana := fun x => x == 5, resolve := id, store := fun i _ => i != 1 }
      (bodyOf [.withDoc ⟨.index, 29, true, 0, 0⟩ ⟨.other, 20, true, 1, 0⟩,
               .withDoc ⟨.index, 29, true, 0, 0⟩ ⟨.other, 20, true, 2, 0⟩,
               .withDoc ⟨.index, 29, true, 0, 5⟩ ⟨.other, 20, true, 9, 0⟩,
               .withDoc ⟨.index, 29, true, 0, 1⟩ ⟨.other, 20, true, 3, 0⟩,
               .withDoc ⟨.index, 29, true, 0, 0⟩ ⟨.other, 20, true, 4, 0⟩] none true)
    r.items = [.created, .created, .created, .created, .created] ∧ r.errors = false ∧
    r.storedUnder 0 = [1, 2, 4] ∧ r.storedUnder 1 = [] ∧ r.storedUnder 5 = [] := by
  decide +kernel

end SigModel.Props.C15
