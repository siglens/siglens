/-
C20 — Alert state and saved objects follow their definitions exactly.  Property theorems only, in four parts, each
a namespace over a model of its own: the alert state machine (described here), the same across job lifetimes
(`Job`), the set of alerts and their cron jobs (`JobSet`) and the keyed stores of saved objects (`KV`); the last
three are described where they begin.

ALERT STATE MACHINE.  The model (SigModel/Model/Alert.lean) mirrors `handleAlertCondition`,
`shouldUpdateAlertStateToFiring`, `NotifyAlertHandlerRequest`, `shouldSendNotification`, `isCooldownOver`,
`isSilenceMinutesOver` and the sqlite updates as they are; N = EvalWindow / EvalInterval (integer division) is `cfg.n`.

For EVERY operation sequence (evaluations with any outcome and any transport result, any amount of
time passing between them, configuration changes at any position):
  1. after each evaluation the state is the window function of the last N outcomes — Firing iff
     N ≥ 1, at least N evaluations happened and the condition held in all of the last N; Pending iff it
     held in the latest but not (all N); Normal iff it did not hold in the latest — provided the
     history rows of the window are evaluation rows only (a configuration change also writes a row);
  2. two delivered notifications are never closer than the cool-down (nor the silence period);
  3. a Normal notification is delivered only directly after a Firing one (hence at most once per
     Firing episode), and the first notification ever is a Firing one;
  4. a Firing evaluation is notified exactly when the transport works and cool-down and silence are
     over (or nothing was sent yet); in particular the first time the alert fires;
  5. a configuration-change row restarts the window: afterwards the state is the window function of
     the outcomes SINCE the change, whatever the history before it was.
-/
import SigModel.Model.Alert
import SigModel.Lemmas.C20
import SigModel.Model.AlertJob
import SigModel.Lemmas.C20J
import SigModel.Model.AlertSet
import SigModel.Lemmas.C20S
import SigModel.Model.KV
import SigModel.Lemmas.C20Kb
import SigModel.Lemmas.C20Kc

namespace SigModel.Props.C20
open SigModel.Alert

/-- outcomes (condition matched?) of the evaluations in an operation list, NEWEST FIRST -/
abbrev outcomes (ops : List Op) : List Bool := Lemmas.C20.outcomes ops

/-- hypothesis "history rows are evaluation rows only": no configuration change among the operations -/
def EvalRowsOnly (ops : List Op) : Prop := ∀ op ∈ ops, op ≠ Op.cfgChange

instance (ops : List Op) : Decidable (EvalRowsOnly ops) := by unfold EvalRowsOnly; infer_instance

/-- the condition held in all of the last `n` evaluations (`w` = outcomes, newest first), `n ≥ 1` -/
def WindowFull (n : Nat) (w : List Bool) : Prop := 1 ≤ n ∧ n ≤ w.length ∧ (w.take n).all id = true

instance (n : Nat) (w : List Bool) : Decidable (WindowFull n w) := by unfold WindowFull; infer_instance

/-- delivered notifications of a run, in chronological order -/
abbrev sends (outs : List Out) : List Out := outs.filter (fun o => o.notified)

/-- C20.1 the state after the latest evaluation is the window function of the last N outcomes
(history rows = evaluation rows only; any times, any transport results) -/
theorem state_is_window_fn (cfg : Cfg) (t0 : Nat) (ops : List Op)
    (hrows : EvalRowsOnly ops) (hne : outcomes ops ≠ []) :
    ((runOps cfg (init t0) ops).1.st.state = .firing ↔ WindowFull cfg.n (outcomes ops)) ∧
    ((runOps cfg (init t0) ops).1.st.state = .pending ↔
        (outcomes ops).head? = some true ∧ ¬ WindowFull cfg.n (outcomes ops)) ∧
    ((runOps cfg (init t0) ops).1.st.state = .normal ↔ (outcomes ops).head? = some false) :=
  (Lemmas.C20.inv_after_run cfg (init t0) ops Lemmas.C20.barrier_nil hrows).spec hne

example : -- non-vacuous: N = 3 (window 7, interval 2), third matched evaluation in a row fires, the fourth (unmatched) is Normal
    let cfg : Cfg := { window := 7, interval := 2, cooldown := 5, silence := 0 }
    cfg.n = 3 ∧
    (runOps cfg (init 0) [.eval true true, .tick 2, .eval true false, .eval true true]).1.st.state = .firing ∧
    (runOps cfg (init 0) [.eval false true, .eval true true, .eval true true]).1.st.state = .pending ∧
    (runOps cfg (init 0) [.eval true true, .eval true true, .eval true true, .eval false true]).1.st.state = .normal ∧
    EvalRowsOnly [.eval true true, .tick 2, .eval true false, .eval true true] := by decide +kernel

/-- the same statement WITHOUT the "evaluation rows only" hypothesis (kept visible) -/
def StateIsWindowFnOfAllRows : Prop :=
  ∀ (cfg : Cfg) (t0 : Nat) (ops : List Op), outcomes ops ≠ [] →
    ((runOps cfg (init t0) ops).1.st.state = .firing ↔ WindowFull cfg.n (outcomes ops))

/-- C20.1' it is false once a configuration change lies inside the window: with N = 2 the sequence
matched, config change, matched ends Pending although the last two outcomes are both matched -/
theorem state_is_window_fn_counterexample : ¬ StateIsWindowFnOfAllRows := by
  intro h
  exact absurd (h { window := 2, interval := 1, cooldown := 0, silence := 0 } 0
    [.eval true true, .cfgChange, .eval true true]) (by decide +kernel)

/-- C20.5 what a configuration-change row does, exactly: it leaves state and notification bookkeeping
alone and puts an Inactive row on top of the history … -/
theorem config_change_row (st : St) :
    configChange st = { st with hist := .inactive :: st.hist } ∧
    (configChange st).state = st.state ∧
    (configChange st).lastSentState = st.lastSentState ∧
    (configChange st).lastSentTime = st.lastSentTime := ⟨rfl, rfl, rfl, rfl⟩

/-- C20.5 … and that row restarts the window: from ANY prior situation `s` (any history, any state),
after a configuration change followed by evaluation rows only, the state is the window function of
the outcomes since the change — exactly as for a freshly created alert -/
theorem config_change_restarts_window (cfg : Cfg) (s : Sys) (ops : List Op)
    (hrows : EvalRowsOnly ops) (hne : outcomes ops ≠ []) :
    let s0 : Sys := { s with st := configChange s.st }
    ((runOps cfg s0 ops).1.st.state = .firing ↔ WindowFull cfg.n (outcomes ops)) ∧
    ((runOps cfg s0 ops).1.st.state = .pending ↔
        (outcomes ops).head? = some true ∧ ¬ WindowFull cfg.n (outcomes ops)) ∧
    ((runOps cfg s0 ops).1.st.state = .normal ↔ (outcomes ops).head? = some false) := by
  intro s0
  exact (Lemmas.C20.inv_after_run cfg s0 ops (Lemmas.C20.barrier_inactive s.st.hist) hrows).spec hne

example : -- non-vacuous: N = 2; without the change the 2nd matched evaluation fires, with it only the 3rd does
    let cfg : Cfg := { window := 2, interval := 1, cooldown := 0, silence := 0 }
    (runOps cfg (init 0) [.eval true true, .eval true true]).1.st.state = .firing ∧
    (runOps cfg (init 0) [.eval true true, .cfgChange, .eval true true]).1.st.state = .pending ∧
    (runOps cfg (init 0) [.eval true true, .cfgChange, .eval true true, .eval true true]).1.st.state = .firing := by
  decide +kernel

/-- C20.2 no two delivered notifications are closer than the cool-down, nor closer than the silence
period — over every run (time only moves forward: `tick k` adds `k ≥ 0` minutes) -/
theorem no_two_sends_within_cooldown (cfg : Cfg) (t0 : Nat) (ops : List Op) :
    (sends (runOps cfg (init t0) ops).2).Pairwise
      (fun a b => a.time + cfg.cooldown ≤ b.time ∧ a.time + cfg.silence ≤ b.time) := by
  have h := Lemmas.C20.trace_runOps cfg (init t0) ops
  exact (h.spaced fun _ e => e ▸ .inl (Nat.le_refl _)).2.and (h.spaced fun _ e => e ▸ .inr (Nat.le_refl _)).2

example : -- non-vacuous: cool-down 5; Firing at minute 0 is sent, at minute 4 suppressed, at minute 5 sent again
    let cfg : Cfg := { window := 1, interval := 1, cooldown := 5, silence := 0 }
    ((runOps cfg (init 0) [.eval true true, .tick 4, .eval true true, .tick 1, .eval true true]).2.map
      (fun o => (o.time, o.notified))) = [(0, true), (4, false), (5, true)] := by decide +kernel

/-- C20.3 every delivered notification is a Firing or a Normal one; the first one ever is Firing; and a
Normal notification directly follows a Firing notification (so between two Normal notifications there
is always a Firing one: at most one Normal notification per Firing episode) -/
theorem normal_sent_only_after_firing (cfg : Cfg) (t0 : Nat) (ops : List Op) :
    (∀ o ∈ sends (runOps cfg (init t0) ops).2, o.state = .firing ∨ o.state = .normal) ∧
    (∀ o rest, sends (runOps cfg (init t0) ops).2 = o :: rest → o.state = .firing) ∧
    (∀ pre a b post, sends (runOps cfg (init t0) ops).2 = pre ++ a :: b :: post →
        b.state = .normal → a.state = .firing) :=
  ((Lemmas.C20.trace_runOps cfg (init t0) ops).chain AState.noConfusion).spec

example : -- non-vacuous: Firing is sent, the return to Normal is sent once, further Normal evaluations are silent
    let cfg : Cfg := { window := 1, interval := 1, cooldown := 0, silence := 0 }
    ((runOps cfg (init 0) [.eval false true, .eval true true, .eval false true, .eval false true]).2.map
      (fun o => (o.state, o.notified))) =
      [(.normal, false), (.firing, true), (.normal, true), (.normal, false)] := by decide +kernel

/-- C20.4 a Firing evaluation delivers its notification exactly when the transport works and either
nothing has been sent yet or both the cool-down and the silence period since the last delivery are over -/
theorem firing_notified_when_allowed (cfg : Cfg) (st : St) (now : Nat) (sendOk : Bool)
    (hf : (evalStep cfg st now true sendOk).2.state = .firing) :
    (evalStep cfg st now true sendOk).2.notified = true ↔
      sendOk = true ∧ (st.lastSentTime = none ∨
        ∃ t, st.lastSentTime = some t ∧ t + cfg.cooldown ≤ now ∧ t + cfg.silence ≤ now) := by
  rw [Lemmas.C20.evalStep_notified_iff, hf, Lemmas.C20.shouldSend_iff, Lemmas.C20.minutesOver_iff,
    Lemmas.C20.minutesOver_iff]
  -- the left side reads: (Firing or Normal) ∧ (not a refused Normal ∧ cool-down over ∧ silence over) ∧ transport ok
  generalize st.lastSentTime = last
  cases last with
  | none =>
    exact ⟨fun h => ⟨h.2.2, .inl rfl⟩,
      fun h => ⟨.inl rfl, ⟨fun g => (nomatch g.1), fun _ e => (nomatch e), fun _ e => (nomatch e)⟩, h.1⟩⟩
  | some t =>
    refine ⟨fun h => ⟨h.2.2, .inr ⟨t, rfl, h.2.1.2.1 t rfl, h.2.1.2.2 t rfl⟩⟩, fun h => ?_⟩
    obtain ⟨hok, e | ⟨t', e, h1, h2⟩⟩ := h
    · cases e
    · cases e
      exact ⟨.inl rfl, ⟨fun g => (nomatch g.1), fun _ e => Option.some.inj e ▸ h1, fun _ e => Option.some.inj e ▸ h2⟩,
        hok⟩

/-- C20.4' entering Firing: as long as nothing has been delivered since the alert was created, the
evaluation that makes the alert Firing delivers its notification whenever the transport works -/
theorem first_firing_notified (cfg : Cfg) (t0 : Nat) (ops : List Op)
    (hq : sends (runOps cfg (init t0) ops).2 = [])
    (hf : (runOps cfg (init t0) (ops ++ [.eval true true])).1.st.state = .firing) :
    ∃ o, (runOps cfg (init t0) (ops ++ [.eval true true])).2 = (runOps cfg (init t0) ops).2 ++ [o] ∧
      o.state = .firing ∧ o.notified = true := by
  have hlt := ((Lemmas.C20.trace_runOps cfg (init t0) ops).unsent hq).1
  rw [Lemmas.C20.runOps_append] at hf ⊢
  exact ⟨_, rfl, hf, (firing_notified_when_allowed cfg _ _ true hf).2 ⟨rfl, .inl hlt⟩⟩

example : -- non-vacuous: N = 2, second matched evaluation fires and is delivered; hypotheses of C20.4' hold
    let cfg : Cfg := { window := 2, interval := 1, cooldown := 10, silence := 3 }
    sends (runOps cfg (init 7) [.eval true true]).2 = [] ∧
    (runOps cfg (init 7) ([.eval true true] ++ [.eval true true])).1.st.state = .firing ∧
    (runOps cfg (init 7) ([.eval true true] ++ [.eval true true])).2.map (fun o => o.notified) = [false, true] := by
  decide +kernel

end SigModel.Props.C20


/-!
# C20, alert state machine ACROSS JOB LIFETIMES (model: SigModel/Model/AlertJob.lean; suite "alertjob",
harness/cmd/corr/c20_alertjob.go)

An alert exists three times at run time: the object the cron job captured when it was created (create,
restart = InitAlertingService, edit = ProcessUpdateAlertRequest), the all_alerts row, and the history /
notification tables.  The model mirrors which copy each decision reads.  For EVERY operation sequence
(evaluations, time, restarts, edits of window / interval, silence / unsilence requests, transport failures):
  J1. the answers and the database never depend on WHEN jobs were re-created: restarts may be inserted or
      removed at any position, and the fields of the captured object that are not its definition (State,
      SilenceMinutes — stale copies) are read by nothing;
  J2. C20.1 restated over sequences with restarts and silence changes: the state after an evaluation is the
      window function of the last N outcomes, N = window / interval of the DEFINITION;
  J3. an edit restarts the window with the NEW N, from any prior situation (whatever job object existed);
  J4. C20.2 / C20.3 / C20.4 restated over such sequences (cool-down spacing, Normal only directly after Firing,
      a Firing evaluation is notified exactly when transport, cool-down and the silence stored in the ROW allow).
-/
namespace SigModel.Props.C20.Job
open SigModel.Alert hiding Op
open SigModel.AlertJob

/-- outcomes (condition matched?) of the evaluations in an operation list, NEWEST FIRST -/
abbrev outcomes (ops : List Op) : List Bool := Lemmas.C20J.outcomes ops

/-- the operation list without its restarts -/
abbrev eraseRestarts (ops : List Op) : List Op := Lemmas.C20J.eraseRestarts ops

/-- no edit of the definition among the operations -/
def NoEdit (ops : List Op) : Prop := ∀ op ∈ ops, Lemmas.C20J.isEdit op = false

instance (ops : List Op) : Decidable (NoEdit ops) := by unfold NoEdit; infer_instance

/-- C20.J1 the state of an alert is a function of its DEFINITION and of the evaluation history only, not
of when its job object was (re-)created: two operation sequences on a freshly created alert that differ
only in their restarts (any number, at any positions — while Inactive, Pending, Firing or Normal) give the
same answer to every evaluation (state, notification) and leave the same database behind -/
theorem state_independent_of_job_recreation (window interval cooldown t0 : Nat) (ops ops' : List Op)
    (h : eraseRestarts ops = eraseRestarts ops') :
    let w := create window interval cooldown t0
    (run w ops).2 = (run w ops').2 ∧
    (run w ops).1.st = (run w ops').1.st ∧
    (run w ops).1.window = (run w ops').1.window ∧ (run w ops).1.interval = (run w ops').1.interval ∧
    (run w ops).1.silence = (run w ops').1.silence := by
  intro w
  have hs : Lemmas.C20J.Sync w := ⟨rfl, rfl⟩
  obtain ⟨a1, a2⟩ := Lemmas.C20J.run_erase ops w hs
  obtain ⟨b1, b2⟩ := Lemmas.C20J.run_erase ops' w hs
  have h' : Lemmas.C20J.eraseRestarts ops = Lemmas.C20J.eraseRestarts ops' := h
  -- both runs agree with the run without restarts up to `forget`, which keeps the database fields as they are
  injection a2.trans (h' ▸ b2.symm) with hst hwin hint hsil
  exact ⟨a1.trans (h' ▸ b1.symm), hst, hwin, hint, hsil⟩

/-- C20.J1' … and nothing reads the stale fields of the captured object: replace, in ANY world, the State
and SilenceMinutes the job object carries by arbitrary values — every later answer and the database are
the same (in particular "the captured State is Firing" can never be a reason to fire) -/
theorem job_stale_fields_unread (w : World) (staleState : AState) (staleSilence : Nat) (ops : List Op) :
    let w' : World := { w with job := { w.job with state := staleState, silence := staleSilence } }
    (run w ops).2 = (run w' ops).2 ∧ (run w ops).1.st = (run w' ops).1.st := by
  intro w'
  obtain ⟨h1, h2⟩ := Lemmas.C20J.dbEq_run ops (show Lemmas.C20J.DbEq w w' from rfl)
  injection h2 with hst
  exact ⟨h1, hst⟩

example : -- non-vacuous: N = 3, restart while Firing, then not-matched, matched: Pending and NOT notified,
          -- exactly as without the restart; the job captured at the restart did carry State = Firing
    let w := create 3 1 0 0
    let ops : List Op := [.eval true true, .eval true true, .eval true true, .restart, .eval false true, .eval true true]
    (run w (ops.take 4)).1.job.state = .firing ∧
    (run w ops).2.map (fun o => (o.state, o.notified)) =
      [(.pending, false), (.pending, false), (.firing, true), (.normal, true), (.pending, false)] ∧
    (run w (eraseRestarts ops)).2 = (run w ops).2 := by decide +kernel

/-- C20.J2 (C20.1 over sequences with restarts): on a freshly created alert, after any sequence of
evaluations, time steps, RESTARTS and silence / unsilence requests, the state is the window function of
the last N outcomes, N = window / interval — Firing iff the condition held in all of the last N
evaluations, Pending iff it held in the latest but not in all N, Normal iff it did not hold in the latest -/
theorem state_is_window_fn_across_restarts (window interval cooldown t0 : Nat) (ops : List Op)
    (hno : NoEdit ops) (hne : outcomes ops ≠ []) :
    let s := (run (create window interval cooldown t0) ops).1.st.state
    (s = .firing ↔ WindowFull (window / interval) (outcomes ops)) ∧
    (s = .pending ↔ (outcomes ops).head? = some true ∧ ¬ WindowFull (window / interval) (outcomes ops)) ∧
    (s = .normal ↔ (outcomes ops).head? = some false) := by
  intro s
  exact (Lemmas.C20J.inv_after_run (create window interval cooldown t0) ops Lemmas.C20.barrier_nil hno
    rfl rfl).spec hne

/-- C20.J3 an accepted edit restarts the window with the NEW definition: from ANY world (any history, any
state, any job object), after the edit and then evaluations, time steps, restarts and silence changes, the
state is the window function — for N = new window / new interval — of the outcomes since the edit -/
theorem edit_restarts_window (w : World) (window interval : Nat) (ops : List Op)
    (hacc : editAccepted window interval = true) (hno : NoEdit ops) (hne : outcomes ops ≠ []) :
    let s := (run (step w (.edit window interval)).1 ops).1.st.state
    (s = .firing ↔ WindowFull (window / interval) (outcomes ops)) ∧
    (s = .pending ↔ (outcomes ops).head? = some true ∧ ¬ WindowFull (window / interval) (outcomes ops)) ∧
    (s = .normal ↔ (outcomes ops).head? = some false) := by
  rw [Lemmas.C20J.step_edit, if_pos hacc]
  exact (Lemmas.C20J.inv_after_run _ ops (Lemmas.C20.barrier_inactive w.st.hist) hno rfl rfl).spec hne

example : -- non-vacuous: edit N 2 → 3 while Firing (the new job captures State = Firing): three matched evaluations are needed again
    let w := (run (create 2 1 0 0) [.eval true true, .eval true true]).1
    w.st.state = .firing ∧ (step w (.edit 3 1)).1.job.state = .firing ∧ editAccepted 3 1 = true ∧
    (run (step w (.edit 3 1)).1 [.eval true true, .restart, .eval true true]).1.st.state = .pending ∧
    (run (step w (.edit 3 1)).1 [.eval true true, .restart, .eval true true, .silence 5, .eval true true]).1.st.state = .firing ∧
    NoEdit [.eval true true, .restart, .eval true true, .silence 5, .eval true true] := by decide +kernel

/-- C20.J4a (C20.2 over such sequences): no two delivered notifications are closer than the cool-down,
whatever restarts, edits and silence requests lie between them -/
theorem no_two_sends_within_cooldown_across_restarts (window interval cooldown t0 : Nat) (ops : List Op) :
    (sends (run (create window interval cooldown t0) ops).2).Pairwise
      (fun a b => a.time + cooldown ≤ b.time) :=
  ((Lemmas.C20J.trace_run ops (create window interval cooldown t0)).spaced fun _ e => .inl (Nat.le_of_eq e.symm)).2

/-- C20.J4b (C20.3 over such sequences): every delivered notification is a Firing or a Normal one, the first
one ever is Firing, and a Normal notification directly follows a Firing one — one notification per
transition, also when the job was re-created in between -/
theorem normal_sent_only_after_firing_across_restarts (window interval cooldown t0 : Nat) (ops : List Op) :
    let ss := sends (run (create window interval cooldown t0) ops).2
    (∀ o ∈ ss, o.state = .firing ∨ o.state = .normal) ∧
    (∀ o rest, ss = o :: rest → o.state = .firing) ∧
    (∀ pre a b post, ss = pre ++ a :: b :: post → b.state = .normal → a.state = .firing) :=
  ((Lemmas.C20J.trace_run ops (create window interval cooldown t0)).chain AState.noConfusion).spec

/-- C20.J4c (C20.4 over such sequences): in ANY world an evaluation that ends Firing delivers its
notification exactly when the transport works and either nothing was delivered yet or both the cool-down
and the silence period CURRENTLY STORED IN THE ROW have passed since the last delivery -/
theorem firing_notified_when_allowed_job (w : World) (sendOk : Bool) (o : Out)
    (ho : (step w (.eval true sendOk)).2 = some o) (hf : o.state = .firing) :
    o.notified = true ↔
      sendOk = true ∧ (w.st.lastSentTime = none ∨
        ∃ t, w.st.lastSentTime = some t ∧ t + w.cooldown ≤ w.now ∧ t + w.silence ≤ w.now) := by
  cases ho
  exact SigModel.Props.C20.firing_notified_when_allowed (jobCfg w) w.st w.now sendOk hf

example : -- non-vacuous: silence requested AFTER the job was created is honoured (it is read from the row);
          -- the Normal notification held back by it is delivered once it is over, also across a restart; a failed
          -- delivery leaves nothing to recover from
    (run (create 1 1 0 0) [.eval true true, .silence 10, .tick 3, .eval false true, .restart, .tick 7, .eval false true,
        .eval false true]).2.map (fun o => (o.state, o.notified)) =
      [(.firing, true), (.normal, false), (.normal, true), (.normal, false)] ∧
    (run (create 1 1 0 0) [.eval true false, .restart, .eval false true]).2.map (fun o => (o.state, o.notified)) =
      [(.firing, false), (.normal, false)] := by decide +kernel

end SigModel.Props.C20.Job


/-!
# C20, the SET of alerts and their cron jobs (model: SigModel/Model/AlertSet.lean; op lines `ajs` of suite "alertjob")

Mirrors the create / update / delete handlers and `InitAlertingService` WITH patches c20-10 (EvalInterval = 0 is
refused before anything is written), c20-11 (`InitAlertingService` skips an alert it cannot schedule instead of
returning) and c20-12 (an unknown alert type is refused before anything is written).  For EVERY operation sequence:
  S1. a refused request changes nothing: neither the stored alerts nor the jobs (in particular a refused create
      stores nothing);
  S2. after a restart — at any position, whatever rows the database holds, also rows no request can produce any more
      — every stored alert that can be scheduled has exactly one job and nothing else has one: one unschedulable row
      cannot take the job of another alert away;
  S3. alerts stored through the requests alone can always be scheduled, so after a restart EVERY stored alert has
      exactly one job.
The behaviour before the patches (`stepOld`) is refuted for S1 and S2 by counterexample theorems.
-/
namespace SigModel.Props.C20.JobSet
open SigModel.AlertSet

/-- no row is rewritten behind the API -/
def RequestsOnly (ops : List Op) : Prop := ∀ op ∈ ops, Lemmas.C20S.isLegacy op = false

instance (ops : List Op) : Decidable (RequestsOnly ops) := by unfold RequestsOnly; infer_instance

/-- C20.S1 a refused request changes nothing — in ANY state: the stored alerts and the jobs are the same after it
(a refused create stores nothing, a refused update keeps definition and job, a refused delete deletes nothing) -/
theorem refused_request_changes_nothing (s : St) (op : Op) (h : (step s op).2 = .refused) :
    (step s op).1.rows = s.rows ∧ (step s op).1.jobs = s.jobs := by
  rw [Lemmas.C20S.step_refused h]
  exact ⟨rfl, rfl⟩

/-- C20.S1' … spelled out for the creation of a Logs alert: the request is refused exactly when the interval is 0,
the window is shorter than the interval, or (patch c20-17) the interval does not fit the scheduler's time.Duration —
and then nothing is stored -/
theorem refused_create_stores_nothing (s : St) (window interval : Nat) :
    ((step s (.create window interval)).2 = .refused ↔ (interval = 0 ∨ window < interval ∨ maxInterval < interval)) ∧
    ((step s (.create window interval)).2 = .refused →
      (step s (.create window interval)).1.rows = s.rows ∧ (step s (.create window interval)).1.jobs = s.jobs) := by
  refine ⟨?_, refused_request_changes_nothing s (.create window interval)⟩
  refine (Lemmas.C20S.refused_iff.trans (not_congr Lemmas.C20S.accepted_iff)).trans
    ⟨fun h => ?_, fun h g => h.elim g.1.1 fun h => h.elim g.1.2.1 (Nat.not_lt.2 g.2)⟩
  by_cases h0 : interval = 0
  · exact .inl h0
  · by_cases h1 : window < interval
    · exact .inr (.inl h1)
    · exact .inr (.inr (Nat.lt_of_not_le fun hle => h ⟨⟨h0, h1, .inl rfl⟩, hle⟩))

/-- C20.S2 a restart re-arms every alert: after ANY operation sequence (requests, restarts, rows rewritten behind
the API) a restart leaves exactly one job for every stored alert that can be scheduled and no other job — an
alert that cannot be scheduled costs no other alert its job -/
theorem restart_rearms_every_alert (ops : List Op) :
    let s := (run init ops).1
    (step s .restart).1.jobs.Nodup ∧
    ∀ k, k ∈ (step s .restart).1.jobs ↔ ∃ r ∈ s.rows, r.idx = k ∧ schedulable r = true := by
  intro s
  exact ⟨Lemmas.C20S.restart_jobs_nodup s (Lemmas.C20S.inv_run ops init Lemmas.C20S.inv_init),
    Lemmas.C20S.mem_restart_jobs s⟩

/-- C20.S3 after any sequence of REQUESTS and restarts every stored alert can be scheduled; hence after a restart
every stored alert has exactly one job -/
theorem restart_rearms_every_stored_alert (ops : List Op) (hr : RequestsOnly ops) :
    let s := (run init ops).1
    (∀ r ∈ s.rows, schedulable r = true) ∧
    (step s .restart).1.jobs.Nodup ∧
    ∀ k, k ∈ (step s .restart).1.jobs ↔ ∃ r ∈ s.rows, r.idx = k := by
  intro s
  have hall : ∀ r ∈ s.rows, schedulable r = true :=
    Lemmas.C20S.allSched_run ops init hr (List.forall_mem_nil _)
  exact ⟨hall, (restart_rearms_every_alert ops).1, fun k => ((restart_rearms_every_alert ops).2 k).trans
    (exists_congr fun r => and_congr_right fun hr => and_iff_left (hall r hr))⟩

/-- C20.S4 (patch c20-17) the cron job of an accepted alert runs at the interval of its DEFINITION: for every
accepted window / interval / type the seconds `AddCronJob` computes — `int(EvalInterval*60)`, a uint64 product
converted to a 64-bit int — are EvalInterval·60, unwrapped, and that many seconds fit a time.Duration -/
theorem accepted_interval_is_job_interval (window interval type : Nat) (h : accepted window interval type = true) :
    cronSeconds interval = Int.ofNat (interval * 60) ∧ interval * 60 * 10 ^ 9 < 2 ^ 63 := by
  have hb := Nat.mul_le_mul_right 60 (of_decide_eq_true (Bool.and_eq_true_iff.1 h).2)
  have h1 : interval * 60 < 2 ^ 63 := Nat.lt_of_le_of_lt hb (by decide)
  refine ⟨?_, Nat.lt_of_le_of_lt (Nat.mul_le_mul_right _ hb) (by decide)⟩
  dsimp only [cronSeconds]
  rw [Nat.mod_eq_of_lt (Nat.lt_trans h1 (by decide)), if_pos h1]

/-- OLD behaviour (before patch c20-17) REFUTED: an alert with eval_interval = eval_for = 307445734561825861 minutes
passed every test and its cron job ran every 44 SECONDS (the product wraps around 2^64); with 153722867280912931
minutes the product is negative as an int, gocron refused it, and the request was answered with an error AFTER the
alert had been stored -/
theorem job_interval_wraps_old_counterexample :
    acceptedOld 307445734561825861 307445734561825861 1 = true ∧ cronSeconds 307445734561825861 = 44 ∧
    (stepOld init (.create 307445734561825861 307445734561825861)).2 = .ok ∧
    (stepOld init (.create 153722867280912931 153722867280912931)).2 = .refused ∧
    (stepOld init (.create 153722867280912931 153722867280912931)).1.rows ≠ init.rows ∧
    (step init (.create 307445734561825861 307445734561825861)) = ({ init with next := 2 }, .refused) ∧
    (step init (.create 153722867280912931 153722867280912931)) = ({ init with next := 2 }, .refused) := by decide +kernel

example : -- Metrics alerts are stored and scheduled like Logs alerts; the longest interval that fits is accepted
    (run init [.createMetrics 2 1, .createMetrics 0 0, .create 153722867 153722867, .create 153722868 153722868,
      .restart]).1 =
      { next := 5, rows := [⟨1, 2, 1, 2⟩, ⟨3, 153722867, 153722867, 1⟩], jobs := [1, 3] } := by decide +kernel

example : -- non-vacuous: refused creates (interval 0, window < interval, type 0) store nothing; a row rewritten to
          -- interval 0 loses its own job at the restart, the alerts stored after it keep theirs
    (run init [.create 1 1, .create 0 0, .create 1 2, .createTyped 0, .create 4 2, .restart]).1 =
      { next := 6, rows := [⟨1, 1, 1, 1⟩, ⟨5, 4, 2, 1⟩], jobs := [1, 5] } ∧
    (run init [.create 1 1, .create 2 1, .create 3 1, .legacyInterval 2, .restart]).1.jobs = [1, 3] ∧
    (run init [.create 1 1, .create 2 1, .create 3 1, .legacyType 1, .restart, .edit 1 5 5, .edit 2 0 0, .delete 3,
        .delete 3]) =
      ({ next := 4, rows := [⟨1, 5, 5, 1⟩, ⟨2, 2, 1, 1⟩], jobs := [2, 1] }, [.ok, .ok, .ok, .none, .none, .ok, .refused, .ok, .refused]) ∧
    RequestsOnly [.create 1 1, .create 0 0, .create 1 2, .createTyped 0, .create 4 2, .restart] := by decide +kernel

/-- OLD behaviour (before patches c20-10 / c20-12) REFUTED for S1: a create request with window 0 and interval 0
— or with an unknown alert type — was answered with an error and the alert was stored nevertheless -/
theorem refused_create_stores_nothing_old_counterexample :
    ¬ (∀ (s : St) (op : Op), (stepOld s op).2 = .refused → (stepOld s op).1.rows = s.rows) := by
  intro h
  exact absurd (h init (.create 0 0)) (by decide +kernel)

theorem refused_create_unknown_type_old_counterexample :
    (stepOld init (.createTyped 0)).2 = .refused ∧ (stepOld init (.createTyped 0)).1.rows ≠ init.rows := by decide +kernel

/-- OLD behaviour (before patch c20-11) REFUTED for S2: `InitAlertingService` returned at the first alert it could
not schedule — after create, refused create (0/0, stored), create, a restart left the third alert without a job -/
theorem restart_rearms_every_alert_old_counterexample :
    ¬ (∀ ops : List Op, let s := (runOld init ops).1
        ∀ k, (∃ r ∈ s.rows, r.idx = k ∧ schedulable r = true) → k ∈ (stepOld s .restart).1.jobs) := by
  intro h
  exact absurd (h [.create 1 1, .create 0 0, .create 1 1] 3) (by decide +kernel)

end SigModel.Props.C20.JobSet


/-!
# C20, keyed-store half (model: SigModel/Model/KV.lean; suite "kv", harness/cmd/corr/c20_kv.go)

Specification: `Spec T K V := T → K → Option V`, (tenant, key) ↦ last written value.  Per store an
implementation-shaped model (`step`, `abs`) mirroring the Go code as it is.  Per store (its section says
which of the three are proved for it; dashboards and alert definitions have no refinement theorem):
  (1) `kv_refines_spec_<store>`   for EVERY operation sequence every answer is the documented one for
      the abstract state and `abs` commutes with every step;
  (2) `reload_persist_id_<store>` a restart (new process, state re-read from the files) is the identity
      on what reads return, in every reachable state;
  (3) `tenant_frame_<store>`      an operation of tenant t leaves every other tenant's state unchanged.
Where the code violated a statement before one of the patches: `…_old_counterexample…`, a concrete witness
on the model of that earlier behaviour (`stepOld` and the like), replayed on the real code by corpus/kv.ops.
The `example`s run each model on a concrete request sequence.
-/
namespace SigModel.Props.C20.KV
open SigModel.KV

/-! ## saved queries (pkg/usersavedqueries) — all three statements hold at full strength -/
section Usq
open SigModel.KV.Usq
variable {V : Type}

/-- C20.K1 (saved queries): for EVERY sequence of save / delete / search / list / restart operations on
any tenants, and for EVERY outcome `b` of the mtime-vs-last-read clock race at each operation, every
answer is the documented one for the abstract keyed store (save = upsert, rejected for the empty name;
delete = not-found exactly when absent; search = the entries whose name contains the text; list = all
entries of the tenant), and `abs` commutes with every step. -/
theorem kv_refines_spec_usq (ops : List (Op V × Bool)) : Refines (Spec.empty) (init : St V) ops :=
  Lemmas.C20K.Usq.refines_of_inv ops init Lemmas.C20K.Usq.inv_init

/-- C20.K2 (saved queries): in every reachable state the memory image of every tenant that was loaded
equals its file image, so what a read sees (`view`) is exactly the file content … -/
theorem mem_image_eq_file_image_usq (ops : List (Op V × Bool)) (t : Nat) :
    view (run (init : St V) ops).1 t = (run (init : St V) ops).1.file t :=
  Lemmas.C20K.Usq.view_eq_file (Lemmas.C20K.Usq.inv_run ops) t

/-- … and therefore a restart at ANY position is the identity on what reads return. -/
theorem reload_persist_id_usq (ops : List (Op V × Bool)) (b : Bool) :
    abs (step (run (init : St V) ops).1 .restart b).1 = abs (run (init : St V) ops).1 :=
  (Lemmas.C20K.Usq.step_ok (Lemmas.C20K.Usq.inv_run ops) .restart b).2.1

/-- C20.K3 (saved queries): an operation of tenant `t` leaves what every other tenant reads unchanged,
in every reachable state. -/
theorem tenant_frame_usq (ops : List (Op V × Bool)) (op : Op V) (b : Bool) (t : Nat)
    (ht : op.tenant = some t) (t' : Nat) (hne : t' ≠ t) (k : Key) :
    abs (step (run (init : St V) ops).1 op b).1 t' k = abs (run (init : St V) ops).1 t' k := by
  rw [(Lemmas.C20K.Usq.step_ok (Lemmas.C20K.Usq.inv_run ops) op b).2.1]
  exact Lemmas.C20K.Usq.specStep_other _ op t ht t' hne k

example : -- non-vacuous: two tenants, a restart in the middle, a clock race at every step
    (run (init : St Nat) [(.put 1 [97] 5, false), (.put 0 [97, 98] 6, true), (.restart, true), (.search 0 [98], false),
      (.del 1 [97], true), (.list 1, false), (.put 1 [] 7, false), (.del 0 [99], false)]).2 =
    [.res .ok, .res .ok, .restarted, .entries [([97, 98], 6)], .res .ok, .entries [], .res .invalid, .res .notFound] := by
  decide +kernel
end Usq

/-! ## index aliases (pkg/virtualtable) — with patches c20-1 (the alias files of org 0 are read at restart),
c20-2 (an emptied inner map is dropped) and c20-9 (the shutdown flush adds what an index' alias file lacks
instead of writing the inverted relation) all three statements hold at full strength, graceful restarts
included; the behaviour before the patches (`stepOld`, `stepOldFlush`) is refuted by the counterexample
theorems -/
section Alias
open SigModel.KV.Alias

/-- C20.K1 (aliases): for EVERY sequence of add / remove / get / list / resolve / restart / graceful restart on any tenants,
every answer — including list and resolve, which are read from the in-memory inverse map
`aliasToIndexNames` — is the documented one for the abstract keyed store (org, index) ↦ alias set, and
`abs` commutes with every step. -/
theorem kv_refines_spec_alias (ops : List Op) : Refines Spec.empty init ops :=
  Lemmas.C20K.Alias.refines_of_memOk ops init Lemmas.C20K.Alias.memOk_init

/-- OLD behaviour (before patch c20-2) REFUTED: after the only index of an alias was removed,
`GetAllAliasesAsMapArray` still listed the alias (with no index) — `RemoveAliases` deleted the index from
the alias' inner map but kept the inner map. -/
theorem kv_refines_spec_alias_old_counterexample_removal :
    ¬ (∀ ops, RefinesOld Spec.empty init ops) := by
  intro h
  -- the third answer, to `list 1`, is `[([97], [])]`
  have h2 := (h [.add 1 [105] [97], .remove 1 [105] [97], .list 1]).2.2.2.2.1
  exact (h2.2.1 [97] [] (by decide +kernel)).1 rfl

/-- OLD behaviour (before patch c20-1) REFUTED: after a restart the aliases of org 0 no longer resolved —
`initializeAliasToIndexMap` walked only the DIRECTORIES of the alias directory, and the alias files of
org 0 lie at its top level. -/
theorem kv_refines_spec_alias_old_counterexample_restart :
    ¬ (∀ ops, RefinesOld Spec.empty init ops) := by
  intro h
  -- the third answer, to `resolve 0 [97]`, is `[]`
  have h2 := (h [.add 0 [105] [97], .restart, .resolve 0 [97]]).2.2.2.2.1 [105]
  revert h2
  unfold Spec.has
  decide +kernel

/-- C20.K2 (aliases): a restart at ANY position — a plain one (`restart`) or one after a graceful shutdown
(`graceful`: `FlushAliasMapToFile`, then a new process) — is the identity on the alias files (`abs`) and on
the memory view (what list / resolve answer from). -/
theorem reload_persist_id_alias (ops : List Op) (op : Op) (hop : op = .restart ∨ op = .graceful) :
    abs (step (run init ops).1 op).1 = abs (run init ops).1 ∧
    ∀ t a i, memView (step (run init ops).1 op).1 t a i ↔ memView (run init ops).1 t a i := by
  have hm := Lemmas.C20K.Alias.memOk_run ops
  have habs : abs (step (run init ops).1 op).1 = abs (run init ops).1 := by
    rw [Lemmas.C20K.Alias.abs_step hm op]
    rcases hop with rfl | rfl <;> rfl
  -- each memory view is the inverse of its files, and the files are the same
  refine ⟨habs, fun t a i => ((Lemmas.C20K.Alias.step_ok hm op).1.inverse t a i).trans (Iff.trans ?_ (hm.inverse t a i).symm)⟩
  show a ∈ (abs (step (run init ops).1 op).1 t i).getD [] ↔ _
  rw [habs]
  rfl

/-- OLD behaviour (before patch c20-9) REFUTED: at graceful shutdown `FlushAliasMapToFile` wrote, for every
alias, a file NAMED like the alias holding the INDEX names (`writeAliasFile(&alias, indexNames, org)`); the
next start read it as the alias file of an index: the index name came back as an alias of an "index" named
like the alias (and an index that really had that name lost its own aliases). -/
theorem reload_persist_id_alias_old_counterexample_shutdown_flush :
    ¬ (∀ ops t a i, memView (stepOldFlush (run init ops).1 .graceful).1 t a i ↔ memView (run init ops).1 t a i) := by
  intro h
  have h1 := h [.add 0 [105] [97]] 0 [105] [97]
  revert h1; unfold memView; decide +kernel

/-- … and the refinement statement for that behaviour is refuted as well: after `add index i alias a`
and a graceful restart, `i` resolved as an alias (of "index" `a`). -/
theorem kv_refines_spec_alias_old_counterexample_shutdown_flush :
    ¬ (∀ ops, RefinesOldFlush Spec.empty init ops) := by
  intro h
  -- the third answer, to `resolve 0 [105]`, is `[[97]]`
  have h2 := (h [.add 0 [105] [97], .graceful, .resolve 0 [105]]).2.2.2.2.1 [97]
  revert h2
  unfold Spec.has
  decide +kernel

/-- OLD behaviour (before patch c20-1) REFUTED: the aliases of org 0 were gone from the memory view after
a restart. -/
theorem reload_persist_id_alias_old_counterexample :
    ¬ (∀ ops t a i, memView (stepOld (runOld init ops).1 .restart).1 t a i ↔ memView (runOld init ops).1 t a i) := by
  intro h
  have h1 := h [.add 0 [105] [97]] 0 [97] [105]
  revert h1; unfold memView; decide +kernel

/-- The ES `_aliases` request (patches c20-20 / c20-21): whatever the actions, the state after a request
is the state after a sequence of add / remove operations — the flattened actions up to and including the
first refused one.  So every state reachable through requests is reachable through operations, and all
theorems about operation sequences (refinement, restart identity, tenant frame) cover it. -/
theorem alias_request_is_run (ops : List Op) (t : Nat) (acts : List Act) :
    ∃ ops', (post (run init ops).1 t acts).1 = (run init ops').1 :=
  ⟨ops ++ executed (run init ops).1 (acts.flatMap (actOps t)), by
    rw [Lemmas.C20K.Alias.run_append]; exact Lemmas.C20K.Alias.post_is_run _ _⟩

/-- acknowledged ⇒ stored: an acknowledged request held no unreadable action and EVERY operation of EVERY
action (each index of an `indices` list included) was executed and answered ok. -/
theorem alias_request_acknowledged_all_applied (st : St) (t : Nat) (acts : List Act)
    (h : (post st t acts).2 = true) :
    Act.refuse ∉ acts ∧
    executed st (acts.flatMap (actOps t)) = (acts.flatMap (actOps t)).filterMap id ∧
    (post st t acts).1 = (run st ((acts.flatMap (actOps t)).filterMap id)).1 := by
  obtain ⟨h1, h2⟩ := Lemmas.C20K.Alias.post_ack _ st h
  refine ⟨fun hm => h1 (List.mem_flatMap.2 ⟨.refuse, hm, List.mem_cons_self⟩), h2, ?_⟩
  rw [← h2]
  exact Lemmas.C20K.Alias.post_is_run _ _

/-- a refused action is never acknowledged. -/
theorem alias_request_refused_not_acknowledged (st : St) (t : Nat) (acts : List Act) (h : Act.refuse ∈ acts) :
    (post st t acts).2 = false := by
  cases hk : (post st t acts).2 with
  | false => rfl
  | true => exact absurd h (alias_request_acknowledged_all_applied st t acts hk).1

/-- OLD behaviour (before patch c20-20) REFUTED: an add action in the `indices` form was acknowledged and
stored nothing. -/
theorem alias_request_old_counterexample_indices :
    ¬ (∀ (st : St) (t : Nat) (acts : List Act), (postOld st t acts).2 = true →
        (postOld st t acts).1 = (run st ((acts.flatMap (actOps t)).filterMap id)).1) := by
  intro h
  have h1 := congrArg (fun s => abs s 0 [105]) (h init 0 [.addMany [[105], [106]] [97]] rfl)
  revert h1; decide +kernel

/-- OLD behaviour (before patch c20-21) REFUTED: a request with an action the handler could not read (or
refused) was answered `acknowledged`. -/
theorem alias_request_old_counterexample_refused :
    ¬ (∀ (st : St) (t : Nat) (acts : List Act), Act.refuse ∈ acts → (postOld st t acts).2 = false) := by
  intro h
  exact absurd (h init 0 [.refuse] List.mem_cons_self) (by decide +kernel)

example : -- non-vacuous: index and indices forms, an invalid name stops the request after the first index of the list
    ((post init 0 [.add [105] [97], .addMany [[105], [106]] [98]]).2,
     (step (post init 0 [.add [105] [97], .addMany [[105], [106]] [98]]).1 (.list 0)).2,
     (post init 0 [.addMany [[105], [46], [106]] [97], .add [107] [97]]).2,
     (step (post init 0 [.addMany [[105], [46], [106]] [97], .add [107] [97]]).1 (.list 0)).2,
     (post init 0 [.add [105] [97], .refuse, .add [106] [97]]).2,
     (post init 0 [.remove [105] [97]]).2) =
    (true, .amap [([97], [[105]]), ([98], [[105], [106]])], false, .amap [([97], [[105]])], false, false) := by decide +kernel

/-- C20.K3 (aliases): an operation of tenant `t` changes neither the alias files nor the memory view of
any other tenant — in ANY state (the maps are keyed by org; nothing is shared). -/
theorem tenant_frame_alias (st : St) (op : Op) (t : Nat) (ht : op.tenant = some t) (t' : Nat) (hne : t' ≠ t) :
    (∀ i, abs (step st op).1 t' i = abs st t' i) ∧
    (∀ a i, memView (step st op).1 t' a i ↔ memView st t' a i) := by
  open Lemmas.C20K Lemmas.C20K.Alias in
  let P (s : St) : Prop := (∀ i, abs s t' i = abs st t' i) ∧ ∀ a i, memView s t' a i ↔ memView st t' a i
  show P (step st op).1
  have keep : P st := ⟨fun _ => rfl, fun _ _ => Iff.rfl⟩
  -- every key the operation writes holds `t`
  cases op with
  | add t0 i a =>
    cases ht
    refine ite_fst (fun _ => keep) fun _ => ite_fst (fun _ => keep) fun _ => ⟨fun i' => ?_, fun a' i' => ?_⟩
    · exact get_put_ne st.files _ fun e => hne (congrArg Prod.fst e)
    · exact (has_fold_putMem _ t i st.mem (t', a') i').trans (or_iff_left fun h => hne h.1)
  | remove t0 i a =>
    cases ht
    refine ite_fst (fun _ => keep) fun _ => ⟨fun i' => ?_, fun a' i' => ?_⟩
    · exact (get_removeFile st.files t i a (t', i')).trans (if_neg fun e => hne (congrArg Prod.fst e))
    · show has (removeMem st.mem t i a) (t', a') i' ↔ _
      rw [removeMem_eq, has_removeFile]
      exact and_iff_left fun e => hne e.1
  | get t0 i => exact ite_fst (fun _ => keep) fun _ => keep
  | list t0 => exact keep
  | resolve t0 a => exact keep
  | restart => cases ht
  | graceful => cases ht

/-- C20.K4 (aliases), WITH patch c20-14 (AddAliases refuses an alias that is not a valid index name): after EVERY
operation sequence every stored alias name is a valid name … -/
theorem alias_names_valid (ops : List Op) (t : Nat) (i a : Key)
    (hf : a ∈ ((run init ops).1.files.get (t, i)).getD []) : validIndex a = true :=
  ((Lemmas.C20K.Alias.memOk_run ops).valid t i a hf).2

/-- … and the two views of the store — the index' alias file (`GetAliases`) and the in-memory alias→index map
(list / resolve) — agree on EVERY pair, with no exception for the empty alias name any more. -/
theorem alias_views_agree (ops : List Op) (t : Nat) (a i : Key) :
    memView (run init ops).1 t a i ↔ a ∈ ((run init ops).1.files.get (t, i)).getD [] :=
  (Lemmas.C20K.Alias.memOk_run ops).inverse t a i

/-- OLD behaviour (before patch c20-14) REFUTED: the EMPTY alias was acknowledged and written into the index' file
(returned by `GetAliases`) but never entered the in-memory map (`putAliasToIndexInMem` refuses it): the two
views disagreed for ever. -/
theorem alias_views_agree_old_counterexample :
    ¬ (∀ (ops : List Op) (t : Nat) (a i : Key),
        memView (runOldAnyAlias init ops).1 t a i ↔ a ∈ ((runOldAnyAlias init ops).1.files.get (t, i)).getD []) := by
  intro h
  have h1 := h [.add 0 [105] []] 0 [] [105]
  revert h1; unfold memView; decide +kernel

example : -- the add request is refused for an empty alias, "..", and a name with a path separator; nothing is stored
    (run init [.add 0 [105] [], .add 0 [105] [46, 46], .add 0 [105] [97, 47, 98], .get 0 [105], .list 0]).2 =
    [.res .invalid, .res .invalid, .res .invalid, .names [], .amap []] := by decide +kernel

example : -- non-vacuous run of the alias model: removal of the last index, restart and graceful restart, orgs 0 and 1
    (run init [.add 0 [105] [97], .add 0 [106] [97], .resolve 0 [97], .remove 0 [105] [97], .remove 0 [106] [97],
      .list 0, .add 0 [105] [98], .add 1 [105] [98], .restart, .resolve 0 [98], .graceful, .resolve 1 [98],
      .resolve 0 [105], .get 0 [105], .get 0 [98]]).2 =
    [.res .ok, .res .ok, .target [[105], [106]], .res .ok, .res .ok, .amap [], .res .ok, .res .ok, .restarted,
      .target [[105]], .gracefulRestarted, .target [[105]], .target [], .names [[98]], .names []] := by decide +kernel
end Alias

/-! ## lookup files (pkg/lookups) — one directory per org (WITH patch c13-1: org 0 keeps `<data>/lookups/`, every
other org has the sub-directory named after it; before the patch the handlers took no org id and all orgs shared one
directory), no in-memory state; statements (1), (2) and (3) hold at full strength -/
section Lookup
open SigModel.KV.Lookup

/-- C20.K1 (lookup files): for EVERY sequence of upload (with / without overwrite, plain or gzip) / get /
delete / list / restart by any orgs, every answer is the documented one (upload stores under the normalised name —
".csv" / ".csv.gz" appended unless already there, case-insensitively —, without overwrite it is a
`create` = 409 when the org has a file of that name, with overwrite an upsert; get / delete = not-found exactly when
the ORG has no such file; list = exactly the names the org stored) and `abs` commutes with every step. -/
theorem kv_refines_spec_lookup (ops : List Op) : Refines Spec.empty init ops :=
  Lemmas.C20K.Lookup.refines_of_inv ops init Lemmas.C20K.Lookup.inv_init

/-- C20.K2 (lookup files): a restart is the identity on the whole state (nothing is held in memory). -/
theorem reload_persist_id_lookup (st : St) : (step st .restart).1 = st := rfl

/-- C20.K3 / C13 (lookup files): an operation of org `t` changes no file of any other org — in ANY state (every request
works inside the directory of its own org). -/
theorem tenant_frame_lookup (st : St) (op : Op) (t : Nat) (ht : op.tenant = some t) (t' : Nat) (hne : t' ≠ t) :
    ∀ k, abs (step st op).1 t' k = abs st t' k :=
  fun k => congrArg (·.get k) (Lemmas.C20K.Lookup.frame st op t ht t' hne)

/-- … and what an org reads (download, listing) is determined by its own files alone: two states that agree on the
files of org `t` give the same answers to every read of org `t`. -/
theorem lookup_reads_own_files (st st' : St) (t : Nat) (h : st.files t = st'.files t) (name : Key) :
    (step st (.get t name)).2 = (step st' (.get t name)).2 ∧ (step st (.list t)).2 = (step st' (.list t)).2 := by
  dsimp only [step]
  rw [h]
  refine ⟨?_, rfl⟩
  cases hasExt name
  · rfl
  · cases (st'.files t).get name <;> rfl

/-- OLD behaviour (before patch c13-1) REFUTED: the handlers knew no org — a file uploaded for org 1 was returned to
org 7, listed for it, and org 7 could delete it. -/
theorem tenant_frame_lookup_old_counterexample :
    ¬ (∀ (st : St) (op : Op) (t : Nat), op.tenant = some t → ∀ t' : Nat, t' ≠ t →
        ∀ k, abs (stepOld st op).1 t' k = abs st t' k) := by
  intro h
  let k : Key := [97, 46, 99, 115, 118]
  have h1 := h { files := fun t => if t = 0 then [(k, "01")] else [] } (.delete 7 k) 7 rfl 0 (by decide) k
  revert h1; decide +kernel

example : -- the old handlers: an upload by org 1 is what org 7 downloads
    (runOld init [.upload 1 [97] "01" false false, .get 7 [97, 46, 99, 115, 118], .list 7, .delete 7 [97, 46, 99, 115, 118], .get 1 [97, 46, 99, 115, 118]]).2 =
    [.stored [97, 46, 99, 115, 118], .content "01", .names [[97, 46, 99, 115, 118]], .res .ok, .res .notFound] := by decide +kernel

example : -- non-vacuous: suffix rule, conflict without overwrite, case variants are different files, orgs apart
    (run init [.upload 0 [97] "01" false false, .upload 0 [97, 46, 99, 115, 118] "02" false false, .upload 0 [97] "03" true false,
      .get 0 [97], .get 0 [97, 46, 99, 115, 118], .upload 0 [65, 46, 67, 83, 86] "04" false true, .list 0, .delete 0 [97, 46, 99, 115, 118],
      .restart, .list 0, .upload 0 [46, 46] "05" true false,
      .upload 7 [97] "06" false false, .get 0 [97, 46, 99, 115, 118], .get 7 [97, 46, 99, 115, 118], .list 1, .delete 1 [97, 46, 99, 115, 118], .list 7, .get 0 [55]]).2 =
    [.stored [97, 46, 99, 115, 118], .res .exists_, .stored [97, 46, 99, 115, 118], .res .notFound, .content "03",
      .stored [65, 46, 67, 83, 86], .names [[97, 46, 99, 115, 118], [65, 46, 67, 83, 86]], .res .ok, .restarted,
      .names [[65, 46, 67, 83, 86]], .res .invalid,
      .stored [97, 46, 99, 115, 118], .res .notFound, .content "06", .names [], .res .notFound, .names [[97, 46, 99, 115, 118]], .res .notFound] := by decide +kernel
end Lookup

/-! ## contact points (pkg/alerts/alertsHandler + alertsqlite) — with patches c20-6 / c20-7 / c20-8 (sqlite
methods), c20-15 (an update keeps the org of the stored row) and c20-18 (update / delete requests answer a contact
of another org like one that does not exist) the table behind the request handlers refines the keyed store (with
names unique over all orgs) for EVERY operation sequence, and no org's requests touch what another org reads;
the behaviours before the patches are refuted by counterexample theorems -/
section Contact
open SigModel.KV.Contact

/-- C20.K1 (contact points) at full strength: for EVERY sequence of create / update / delete / list requests of
any orgs and restarts, every answer is the documented one (create = stored under a fresh id, or already-exists
when ANY org holds the name; update = not-found — also for a contact of ANOTHER org — / already-exists / ok with
the request's name, pager and Slack list replacing the stored ones, a refused update changing nothing;
delete = not-found exactly when the caller's org holds no such contact; list = exactly the org's contacts as
last written) and `abs` commutes with every step. -/
theorem kv_refines_spec_contact (ops : List Op) : Refines Spec.empty init ops :=
  Lemmas.C20K.Contact.refines_of_inv ops init Lemmas.C20K.Contact.inv_init

example : -- non-vacuous: two orgs, duplicate names, empty and non-empty Slack lists, foreign update / delete refused
    (run init [.create 0 [97] "p" ["c1"], .create 1 [97] "" [], .create 1 [98] "" ["c9"], .update 1 2 [99] "q" [],
      .update 0 2 [100] "r" [], .delete 0 2, .update 1 1 [101] "x" [], .list 0, .restart, .delete 1 2, .delete 1 2,
      .list 1]).2 =
    [.created 1, .res .exists_, .created 2, .res .ok, .res .notFound, .res .notFound, .res .notFound,
      .rows [(1, { name := [97], org := 0, pager := "p", slack := ["c1"] })], .restarted, .res .ok, .res .notFound,
      .rows []] := by decide +kernel

/-- OLD behaviour (before patch c20-18, client putting its own org into the body) REFUTED: org 1 updating the id
of org 0's contact was answered ok where the keyed store of org 1 holds no such key. -/
theorem kv_refines_spec_contact_old_counterexample_foreign_update : ¬ (∀ ops, RefinesBodyOrg Spec.empty init ops) := by
  intro h
  -- `.2.2.1`: what the refinement says of the answer to the second request; of its three cases keep the decidable
  -- halves (answer notFound, or org 1 holds id 1, or answer exists_) — the model answered ok and org 1 holds nothing
  have h2 := (h [.create 0 [97] "p" [], .update 1 1 [98] "q" []]).2.2.1.imp And.right (Or.imp And.left (·.2.2))
  revert h2; decide +kernel

/-- OLD behaviour (before patch c20-15) REFUTED: the saved row carried the org the request BODY named; a body
without `org_id` (org 0) moved the contact of org 1 out of what org 1 reads — by org 1's OWN update. -/
theorem contact_update_moves_org_old_counterexample :
    ¬ (∀ (st : St) (t id : Nat) (name : Key) (pager : String) (slack : List String),
        (stepBodyOrg (fun _ => 0) st (.update t id name pager slack)).2 = .res .ok →
        abs (stepBodyOrg (fun _ => 0) st (.update t id name pager slack)).1 t id = some (name, pager, slack)) := by
  intro h
  exact absurd (h (step init (.create 1 [97] "p" [])).1 1 1 [97] "q" []) (by decide +kernel)

/-- OLD behaviour (before patch c20-8) REFUTED: a create whose name exists — in whatever org — was
acknowledged and stored nothing (`CreateContact` returned nil when `First` found the name). -/
theorem kv_refines_spec_contact_old_counterexample_create : ¬ (∀ ops, RefinesOld Spec.empty init ops) := by
  intro h
  -- whatever `NameUsed` says, the documented second answer is `created` or `exists_`; the model answered `notCreated`
  have h2 := (h [.create 0 [97] "p" [], .create 1 [97] "q" []]).2.2.1.imp And.right And.right
  revert h2; decide +kernel

/-- OLD behaviour (before patch c20-6) REFUTED: an update with an EMPTY Slack list left the old channels
attached (the association was cleared only `if len(contact.Slack) != 0`). -/
theorem kv_refines_spec_contact_old_counterexample_update_keeps : ¬ (∀ ops, RefinesOld Spec.empty init ops) := by
  intro h
  -- `.2.2.2.1`: `abs` after the second request is the documented next state; read it at (org 0, id 1)
  have h2 := (h [.create 0 [97] "p" ["c1"], .update 0 1 [97] "p" []]).2.2.2.1
  exact absurd (congrFun (congrFun h2 0) 1) (by decide +kernel)

/-- OLD behaviour (before patch c20-7) REFUTED: a refused update (the new name belongs to another contact)
still cleared the Slack channels (the clear ran before, and outside the transaction of, the failing Save). -/
theorem kv_refines_spec_contact_old_counterexample_failed_update : ¬ (∀ ops, RefinesOld Spec.empty init ops) := by
  intro h
  -- the documented third answer is notFound, ok or exists_; the model answered `saveFailed`
  have h2 := (h [.create 0 [97] "p" ["c1"], .create 0 [98] "q" ["c2"], .update 0 2 [97] "r" ["c3"]]).2.2.2.2.1.imp
    And.right (Or.imp (·.2.2) (·.2.2))
  revert h2; decide +kernel

/-- OLD behaviour (before patch c20-18) REFUTED for C20.K3: an update by org 1 of org 0's contact was accepted and
changed what org 0 reads (no org check; the saved row carried the org of the body). -/
theorem tenant_frame_contact_old_counterexample :
    ¬ (∀ (st : St) (t cid : Nat) (name : Key) (pager : String) (slack : List String) (t' id' : Nat),
        t' ≠ t → abs (stepBodyOrg id st (.update t cid name pager slack)).1 t' id' = abs st t' id') := by
  intro h
  exact absurd (h (step init (.create 0 [97] "p" [])).1 1 1 [98] "q" [] 0 1) (by decide +kernel)

/-- C20.K3 (contact points) at full strength: after EVERY operation sequence a request of org `t` leaves what
every other org reads unchanged. -/
theorem tenant_frame_contact (ops : List Op) (op : Op)
    (t : Nat) (ht : op.tenant = some t) (t' : Nat) (hne : t' ≠ t) (id : Nat) :
    abs (step (run init ops).1 op).1 t' id = abs (run init ops).1 t' id := by
  rw [(Lemmas.C20K.Contact.step_ok (Lemmas.C20K.Contact.inv_run ops) op).2.1]
  exact Lemmas.C20K.Contact.specNext_other _ op _ t ht t' hne id

/-- C20.K2 (contact points): reopening the database is the identity on the whole (persistent) state. -/
theorem reload_persist_id_contact (st : St) : (step st .restart).1 = st := rfl
end Contact

/-! ## dashboards and folders (pkg/dashboards) — modelled for the correspondence; with patches c20-3 / c20-4 /
c20-5 proved here: restart identity and the tenant frame (folder structures AND details files) at full
strength; counterexample theorems for the behaviour before the patches.  The refinement of the tree
operations is NOT proved. -/
section Dash
open SigModel.KV.Dash

/-- C20.K2 (dashboards): nothing is held in memory — a restart is the identity on the whole state. -/
theorem reload_persist_id_dash (st : St) : (step st .restart).1 = st := rfl

/-- C20.K3 (dashboards), the folder structures: an operation of tenant `t` leaves the folder structure
(items and order) of every other tenant untouched, in ANY state. -/
theorem tenant_frame_dash_structure (st : St) (op : Op) (t : Nat) (ht : op.tenant = some t) (t' : Nat) (hne : t' ≠ t) :
    (step st op).1.fs t' = st.fs t' :=
  (Lemmas.C20K.Dash.step_effect false st op t ht).frame t' hne

/-- C20.K3 (dashboards) at full strength: after EVERY operation sequence, an operation of tenant `t` leaves
untouched everything another tenant `t'` reads from — its folder structure and the details file of every
object of its structure (the root folder, id 0, has no details file).  Rests on: ids come from one generator,
so no id is in two tenants' structures, and every write to a details file is now preceded by a lookup of the
id in the CALLER's structure. -/
theorem tenant_frame_dash (ops : List Op) (op : Op) (t : Nat) (ht : op.tenant = some t) (t' : Nat) (hne : t' ≠ t) :
    (step (run init ops).1 op).1.fs t' = (run init ops).1.fs t' ∧
    ∀ id, id ≠ 0 → ((run init ops).1.fs t').items.get id ≠ none →
      (step (run init ops).1 op).1.det.get id = (run init ops).1.det.get id :=
  ⟨(Lemmas.C20K.Dash.step_effect false _ op t ht).frame t' hne,
   fun _ hid hown => (Lemmas.C20K.Dash.step_effect false _ op t ht).det_frame (Lemmas.C20K.Dash.inv_run ops)
     hne hid hown⟩

/-- OLD behaviour (before patch c20-5) REFUTED: the details files are addressed by id alone — tenant 0
toggling the favourite flag of tenant 1's dashboard changed what tenant 1 read. -/
theorem tenant_frame_dash_old_counterexample :
    ¬ (∀ (st : St) (op : Op) (t : Nat), op.tenant = some t → ∀ t', t' ≠ t → ∀ id,
        (stepOld (stepOld st op).1 (.getDash t' id)).2 = (stepOld st (.getDash t' id)).2) := by
  intro h
  have h1 := h (stepOld init (.createDash 1 [97] "p" 0)).1 (.favorite 0 1) 0 rfl 1 Nat.one_ne_zero 1
  revert h1; decide +kernel

/-- OLD behaviour (before patch c20-3) REFUTED: `updateDashboard` checked neither the type of the id nor
cycles — two accepted API calls left a parent cycle in the folder structure (on which `buildFolderPath` /
`generateBreadcrumbs` never returned). -/
theorem dash_update_creates_cycle_old_counterexample :
    ¬ (∀ ops t, hasCycle ((runOld init ops).1.fs t) = false) := by
  intro h
  have h1 := h [.createFolder 1 [97] 0, .updateDash 1 1 [97] "p" (some 1)] 1
  revert h1; decide +kernel

/-- C20.K5 (folders, patch c20-13), in ANY state: an ACCEPTED updateFolder that moves the folder or changes its name
leaves no OTHER child of the folder's (new) parent with the folder's (new) name — the test `createFolder` and a rename
always made is now made for a move as well. -/
theorem update_folder_ok_name_free (st : St) (t id : Nat) (name : Option Key) (newParent : Option Nat) (it : Item)
    (hit : (st.fs t).items.get id = some it)
    (hchg : (∃ np, newParent = some np ∧ some np ≠ it.parent) ∨ (∃ n, name = some n ∧ n ≠ it.name))
    (hok : (step st (.updateFolder t id name newParent)).2 = .res .ok) :
    ∃ it', ((step st (.updateFolder t id name newParent)).1.fs t).items.get id = some it' ∧
      ∀ p, it'.parent = some p →
        nameTaken ((step st (.updateFolder t id name newParent)).1.fs t) p it'.name none (some id) = false := by
  refine Lemmas.C20K.Dash.updateFolder_cases
    (P := fun x => x.2 = .res .ok → ∃ it', (x.1.fs t).items.get id = some it' ∧
      ∀ p, it'.parent = some p → nameTaken (x.1.fs t) p it'.name none (some id) = false)
    (fun e he h => absurd (Out.res.inj h) he) (fun it0 it2 fs' hg hget _ hfree _ => ?_) hok
  obtain rfl : it = it0 := Option.some.inj (hit.symm.trans hg)
  simp only [setFS, Lemmas.C20K.upd_same]
  exact ⟨it2, hget, hfree rfl hchg⟩

/-- OLD behaviour (before patch c20-13) REFUTED: `createFolder` and a folder rename refuse a name that a sibling
carries ("already exists in this location"), but `updateFolder` ran that test only when the request RENAMED the
folder: a folder that was only moved landed next to a folder of its own name — two folders of one name (and one
full path) in one parent. -/
theorem folder_names_distinct_old_counterexample :
    ¬ (∀ ops t p, (folderNames ((runOld init ops).1.fs t) p).Nodup) := by
  intro h
  have h1 := h [.createFolder 0 [97] 0, .createFolder 0 [98] 0, .createFolder 0 [97] 2, .updateFolder 0 3 none (some 0)] 0 0
  revert h1; decide +kernel

example : -- WITH patch c20-13 the same requests end in "already exists": moved without a name, moved under its own name,
    -- the OTHER folder moved next to it; a move under a free name, and a move after the namesake is gone, are accepted
    (run init [.createFolder 0 [97] 0, .createFolder 0 [98] 0, .createFolder 0 [97] 2, .updateFolder 0 3 none (some 0),
      .updateFolder 0 3 (some [97]) (some 0), .updateFolder 0 1 none (some 2), .updateFolder 0 3 (some [99]) (some 0),
      .updateFolder 0 3 (some [97]) none, .deleteFolder 0 1, .updateFolder 0 3 (some [97]) none]).2 =
    [.created 1, .created 2, .created 3, .res .exists_, .res .exists_, .res .exists_, .res .ok, .res .exists_, .res .ok,
      .res .ok] ∧
    (folderNames ((run init [.createFolder 0 [97] 0, .createFolder 0 [98] 0, .createFolder 0 [97] 2,
      .updateFolder 0 3 none (some 0)]).1.fs 0) 0).Nodup := by decide +kernel

example : -- non-vacuous run: folder rename refreshes the stored folder path on the next read; recursive delete;
    -- the dashboard API refuses a folder id, the folder API a dashboard id, another tenant reads nothing
    (run init [.createFolder 0 [97] 0, .createDash 0 [100] "p" 1, .updateFolder 0 1 (some [122]) none, .getDash 0 2,
      .updateDash 0 1 [98] "q" (some 1), .updateFolder 0 2 (some [98]) none, .getDash 1 2, .favorite 1 2,
      .deleteFolder 0 1, .getDash 0 2, .list 0]).2 =
    [.created 1, .created 2, .res .ok,
      .dash { name := [100], payload := "p", fid := 1, fname := [122], path := [122], crumbs := [0, 1], fav := false },
      .res .wrongType, .res .wrongType, .res .notFound, .res .notFound,
      .res .ok, .res .notFound, .rows []] := by decide +kernel
end Dash

/-! ## alert definitions (pkg/alerts/alertsqlite, CreateAlert / UpdateAlert / DeleteAlert / GetAlert /
GetAllAlerts behind the request handlers of pkg/alerts/alertsHandler) — modelled for the correspondence; proved here:
restart identity, name uniqueness for every operation sequence and, WITH patches c20-16 / c20-18, the tenant frame
at full strength (counterexamples for the behaviour before them).  No refinement theorem. -/
section AlertDB
open SigModel.KV.AlertDB

/-- C20.K2 (alert definitions): reopening the database is the identity on the whole (persistent) state. -/
theorem reload_persist_id_adb (st : St) : (step st .restart).1 = st := rfl

/-- after EVERY operation sequence no two stored alerts carry the same name: although `isNewAlertName`
answers "new" on both of its branches, every path that writes a name (CreateAlert, UpdateAlert) ends in an
insert / save that the UNIQUE index refuses, and a refused write changes nothing. -/
theorem alert_names_unique (ops : List Op) (id id' : Nat) (r r' : Row)
    (h : (run init ops).1.alerts.get id = some r) (h' : (run init ops).1.alerts.get id' = some r')
    (hn : r.name = r'.name) : id = id' :=
  (Lemmas.C20K.AlertDB.unique_fresh_run ops).1 id id' r r' h h' hn

/-- OLD behaviour (before patch c20-18) REFUTED for C20.K3: org 1 deleting the alert of org 0 by its id was
accepted (GetAlert / UpdateAlert / DeleteAlert and their handlers carried no org id) and changed what org 0 lists. -/
theorem tenant_frame_adb_old_counterexample :
    ¬ (∀ (st : St) (op : Op) (t : Nat), (match op with
          | .update t' _ _ _ _ => t' = t | .delete t' _ => t' = t | _ => False) →
        ∀ t', t' ≠ t → (stepNoOrg (stepNoOrg st op).1 (.list t')).2 = (stepNoOrg st (.list t')).2) := by
  intro h
  exact absurd (h (run init [.contact 0 [99], .create 0 [97] "m" 1]).1 (.delete 1 1) 1 rfl 0) (by decide +kernel)

/-- C20.K3 (alert definitions) at full strength, WITH patches c20-16 / c20-18: after EVERY operation sequence a
request of org `t` (create, update, delete, get, list, the auxiliary contact create) leaves every alert of every
other org exactly as it is and creates no alert for another org: the alerts whose org is not `t` are the same
before and after. -/
theorem tenant_frame_adb (ops : List Op) (op : Op) (t : Nat) (ht : op.tenant = some t) (id : Nat) (r : Row)
    (hne : r.org ≠ t) :
    (step (run init ops).1 op).1.alerts.get id = some r ↔ (run init ops).1.alerts.get id = some r :=
  Lemmas.C20K.AlertDB.frame_step (Lemmas.C20K.AlertDB.unique_fresh_run ops).2 op t ht id r hne

/-- … and a get request answers only with an alert of the org it was made for — in ANY state. -/
theorem get_alert_own_org (st : St) (t id id' : Nat) (r : Row) (h : (step st (.get t id)).2 = .alert id' r) :
    r.org = t := by
  dsimp only [step] at h
  revert h
  cases st.alerts.get id with
  | none => exact Out.noConfusion
  | some r0 =>
    dsimp only
    by_cases ho : r0.org ≠ t
    · rw [if_pos ho]
      exact Out.noConfusion
    · rw [if_neg ho]
      intro h
      cases h
      exact Classical.not_not.1 ho

/-- OLD behaviour (before patch c20-18) REFUTED: a get request of org 1 was answered with the alert of org 0. -/
theorem get_alert_own_org_old_counterexample :
    ¬ (∀ (st : St) (t id id' : Nat) (r : Row), (stepNoOrg st (.get t id)).2 = .alert id' r → r.org = t) := by
  intro h
  exact absurd (h (run init [.contact 0 [99], .create 0 [97] "m" 1]).1 1 1 1
    { name := [97], org := 0, msg := "m", cid := 1, cname := [99] }) (by decide +kernel)

/-- WITH patch c20-22: a get or an update request that names an id no alert has is refused "does not exist", whatever
org asks — in ANY state; nothing is changed. -/
theorem unknown_alert_id_refused (st : St) (t id : Nat) (h : st.alerts.get id = none) :
    step st (.get t id) = (st, .res .notFound) ∧
    ∀ name msg cid, step st (.update t id name msg cid) = (st, .res .notFound) := by
  dsimp only [step]
  rw [h]
  exact ⟨rfl, fun _ _ _ => rfl⟩

/-- OLD behaviour (before patch c20-22) REFUTED: org 0 asking for an id that no alert has was answered with an EMPTY
alert (status 200), and its update request with "alert id not valid". -/
theorem unknown_alert_id_refused_old_counterexample :
    ¬ (∀ (st : St) (t id : Nat), st.alerts.get id = none → (stepUnknownIdOld st (.get t id)).2 = .res .notFound) ∧
    ¬ (∀ (st : St) (t id : Nat), st.alerts.get id = none →
        (stepUnknownIdOld st (.update t id [120] "m" none)).2 = .res .notFound) := by
  constructor
  · intro h
    have h1 := h init 0 9 rfl
    revert h1; decide +kernel
  · intro h
    have h1 := h init 0 9 rfl
    revert h1; decide +kernel

/-- OLD behaviour (before patch c20-16) REFUTED: the create request stored the alert for the org its BODY named —
a request of org 1 naming org 2 produced an alert that org 2 lists. -/
theorem create_alert_body_org_old_counterexample :
    ¬ (∀ (st : St) (bodyOrg t : Nat) (name : Key) (msg : String) (cid id : Nat) (r : Row), r.org ≠ t →
        (createBodyOrg st bodyOrg name msg cid).1.alerts.get id = some r → st.alerts.get id = some r) := by
  intro h
  exact absurd (h (run init [.contact 1 [99]]).1 2 1 [97] "m" 1 1
    { name := [97], org := 2, msg := "m", cid := 1, cname := [99] }) (by decide +kernel)

example : -- non-vacuous run: duplicate name, missing contact, invalid names, unknown id, contact change, restart
    (run init [.contact 0 [99], .contact 1 [100], .create 0 [97] "m1" 1, .create 1 [97] "m2" 1, .create 0 [98] "m3" 5,
      .create 0 [] "m" 1, .create 0 [42] "m" 1, .get 0 9, .update 0 9 [120] "m" none, .get 1 9, .get 1 1, .update 1 1 [121] "x" none,
      .delete 1 1, .update 0 1 [120] "m4" (some 2), .restart, .list 0, .delete 0 1, .delete 0 1]).2 =
    [.created 1, .created 2, .created 1, .res .exists_, .res .parentNotFound, .res .invalid, .res .invalid, .res .notFound,
      .res .notFound, .res .notFound, .res .notFound, .res .notFound, .res .notFound, .res .ok, .restarted,
      .rows [(1, { name := [120], org := 0, msg := "m4", cid := 2, cname := [100] })], .res .ok, .res .notFound] := by
  decide +kernel
end AlertDB

end SigModel.Props.C20.KV
