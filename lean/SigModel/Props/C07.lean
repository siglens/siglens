/-
C07 — Flushed log data survives a process crash at any instant.
Property theorems only (model: SigModel/Model/Crash.lean, helper lemmas: SigModel/Lemmas/C07*.lean).

For EVERY ingest history `h` (any sequence of buffer flushes — each with ANY list of column-file appends, i.e.
any completion order of the parallel column writers — and rotations) and EVERY number `k` of completed
file-system steps (process-crash model: completed calls persist, no torn writes), `crashAfter h k` is the data
directory a restart finds; `visible` is what a match-all search then serves (startup adopts the lines of
segmeta.json and every directory whose .sfm parses; it reads every block summary present), `completed h k` are
the flushes whose last step (the rename that puts the running .sfm in place) lies within the first k steps,
`inflight h k` the flush that was cut.

History of the finding: `WriteSfm` used to open the running .sfm with O_TRUNC and write afterwards; a crash in
between left a zero-byte .sfm, and the open segment — with ALL its earlier, completed flushes — was not adopted.
Statement 1 was therefore false (`crash_prefix_safe_counterexample_old`, about the `…Old` step lists, which are
kept only for this theorem; the crash suite had replayed it on the real code).  Since the repair (write
`<segkey>.sfm.tmp`, Sync, rename onto `<segkey>.sfm`) statement 1 holds at full strength (`crash_prefix_safe`).

Later findings, all about the flush IN PROGRESS at the crash (its block summary is appended before the running .sfm
is replaced, and the restart serves every block summary it finds), all repaired; the old behaviour is kept in
explicitly named `…Old` definitions with their counterexample theorems:
 * the adopted record was the older .sfm as it is (`metasOld`): the events of the flush in progress came back without
   the columns that flush had introduced (`served_columns_advertised_counterexample_old`) — now the adopted record
   is made to cover the block summaries (`reconciled`), `served_columns_advertised` holds at full strength;
 * a record search never returned when a served block straddled the advertised start of its segment (`answerOld`,
   `search_terminates_counterexample_old`) — now fetchRRCs hands out what it kept back once the last blocks are
   read: `search_terminates` at full strength, and with the reconciled records `search_keeps_nothing_back`.
-/
import SigModel.Model.Crash
import SigModel.Model.CrashMeta
import SigModel.Lemmas.C07d
import SigModel.Lemmas.C07e
import SigModel.Model.CrashSuffix
import SigModel.Lemmas.C07f

namespace SigModel.Props.C07
open SigModel.Crash

/-- C07.1, full strength: after a crash at ANY step of ANY history, every flush that had completed is served,
and nothing is served twice. -/
def CrashPrefixSafe : Prop :=
  ∀ (h : Hist) (k : Nat),
    (∀ f ∈ completed h k, f ∈ visible (crashAfter h k)) ∧ (visible (crashAfter h k)).Nodup

/-- C07.1 holds for the write order of the code: every completed flush is served exactly once — for all
histories and all crash points, no guard. -/
theorem crash_prefix_safe : CrashPrefixSafe := fun h k =>
  let G := SigModel.Lemmas.C07.crashAfter_goodH h k
  ⟨fun f hf => G.complete f (Or.inr hf), G.nodup⟩

/-- the same statement about the protocol BEFORE the repair of `WriteSfm` (truncate in place, then write) -/
def CrashPrefixSafeOld : Prop :=
  ∀ (h : Hist) (k : Nat),
    (∀ f ∈ completedOld h k, f ∈ visible (crashAfterOld h k)) ∧ (visible (crashAfterOld h k)).Nodup

/-- the minimal history: two flushes into one segment, crash inside the second flush's `WriteSfm` -/
def cexHist : Hist := [.fl [0], .fl [0]]

/-- step 14 of that history in the old protocol is the truncating open of the second flush's `WriteSfm` -/
example : ((stepsOld cexHist).take 14).getLast? = some (.sfmTrunc 0) := by decide +kernel

/-- The old write order violated C07.1: flush 0 had completed (its .sfm was written at step 9), yet after a
crash right behind step 14 the restart served nothing at all. -/
theorem crash_prefix_safe_counterexample_old : ¬ CrashPrefixSafeOld := fun H =>
  absurd ((H cexHist 14).1 0 (by decide +kernel)) (by decide +kernel)

/-- the same cut in the repaired protocol (step 14 = .sfm.tmp written, not yet renamed): flush 0 is served, and
so is the block of the flush in progress; after the rename (15) both are completed -/
example : ((steps cexHist).take 14).getLast? = some (.sfmTmp 0 [0, 1]) ∧
    completed cexHist 14 = [0] ∧ inflight cexHist 14 = some 1 ∧ visible (crashAfter cexHist 14) = [0, 1] := by decide +kernel
example : completed cexHist 15 = [0, 1] ∧ visible (crashAfter cexHist 15) = [0, 1] := by decide +kernel
/-- before the block summary of the second flush is written only the first one is served -/
example : completed cexHist 10 = [0] ∧ inflight cexHist 10 = some 1 ∧ visible (crashAfter cexHist 10) = [0] := by decide +kernel

/-- C07.2 the flush in progress is served entirely or not at all: no block that the restart serves misses any of
its column chunks (`torn` = block summaries of adopted segments that point at chunks which are not on disk), and
no flush is served twice — at every crash point. -/
theorem inflight_atomic (h : Hist) (k : Nat) :
    torn (crashAfter h k) = [] ∧ (visible (crashAfter h k)).Nodup :=
  let G := SigModel.Lemmas.C07.crashAfter_goodH h k
  ⟨G.torn, G.nodup⟩

/-- C07.3 no garbage: whatever the restart serves is a flush that had completed or the one flush that was in
progress — never a later one, never anything that was not written. -/
theorem no_garbage (h : Hist) (k : Nat) :
    ∀ f ∈ visible (crashAfter h k), f ∈ completed h k ∨ inflight h k = some f := fun f hf =>
  ((SigModel.Lemmas.C07.crashAfter_goodH h k).sound f hf).resolve_left (Nat.not_lt_zero f)

/-- C07.4 later ingestion does not overwrite recovered data: the suffix the restarted writer takes for its first
segment is larger than that of every existing segment directory, and no segment without a directory has any file. -/
theorem restart_no_overwrite (h : Hist) (k : Nat) :
    (∀ s ∈ (crashAfter h k).dirs, s < nextSuffix (crashAfter h k)) ∧
    (∀ s, s ∉ (crashAfter h k).dirs → (crashAfter h k).seg s = {}) :=
  let G := SigModel.Lemmas.C07.crashAfter_goodH h k
  ⟨G.fresh, G.untouched⟩

/-- non-vacuity of C07.3/C07.4: a rotation in progress (segment 0 sealed, suffix file bumped, directory 1 not
yet created): both flushes served from the sealed segment, next suffix 2 -/
example : visible (crashAfter [.fl [0, 1], .fl [2], .ro] 21) = [0, 1] ∧ nextSuffix (crashAfter [.fl [0, 1], .fl [2], .ro] 21) = 2
    ∧ (crashAfter [.fl [0, 1], .fl [2], .ro] 21).dirs = [0] := by decide +kernel

/-! ### the segment number of the restarted writer, at system-call level (Model/CrashSuffix.lean)

`restart_no_overwrite` rests on the step `suffixTmp` = "os.WriteFile of the temp file completed".  An os.WriteFile is
two system calls (open with O_TRUNC, write); the statements below are about every crash point between single system
calls, for any number of processes that each die anywhere, and they depend on the temp file + rename visibly: the
in-place variant is refuted. -/

/-- C07.4 at system-call level, as a statement about an allocation protocol: over a whole life of the node (process
after process on one directory, each making any number of allocations and dying after any number of system calls) no
segment number is handed out twice, and the number the NEXT process will read from the suffix file is above every
number ever handed out — the restarted writer's first segment directory is fresh, new ingestion cannot touch the
files of a segment that may hold flushed data. -/
def SegmentNumberNeverReissued (proto : Nat → List CrashSuffix.Sys) : Prop :=
  ∀ (d : CrashSuffix.Disk) (runs : List (Nat × Nat)),
    (∀ r ∈ CrashSuffix.lifeHanded proto d runs, r < CrashSuffix.getSuffix (CrashSuffix.life proto d runs)) ∧
    (CrashSuffix.lifeHanded proto d runs).Nodup

/-- … holds for the protocol of the code (writeSuffix: os.WriteFile of `<file>.tmp`, os.Rename onto the file; getSuffix
reading a missing or empty file as 0), from ANY initial content of the two files. -/
theorem segment_number_never_reissued : SegmentNumberNeverReissued CrashSuffix.allocTmpRename := fun d runs =>
  let H := SigModel.Lemmas.C07f.life_fresh runs d
  ⟨fun r hr => (H.2.1 r hr).2, H.2.2.imp (fun h => Nat.ne_of_lt h)⟩

/-- … and is FALSE for the variant that rewrites the suffix file in place (os.WriteFile on the file itself): one
process, two allocations, death between the open(O_TRUNC) and the write of the second one — the file is empty, the
restart reads 0, and 0 was handed out. -/
theorem segment_number_never_reissued_counterexample_inplace : ¬ SegmentNumberNeverReissued CrashSuffix.allocInPlace :=
  fun H => absurd ((H {} [(2, 3)]).1 0 (by decide +kernel)) (by decide +kernel)

/-- the kernel of the positive statement: until the rename has happened nothing that a restart reads has changed,
wherever the process dies inside the write of the temp file (also between its open(O_TRUNC) and its write: the crash
points `…|~open` of the harness). -/
theorem suffix_unchanged_before_rename (d : CrashSuffix.Disk) (r k : Nat) (hk : k < 3) :
    CrashSuffix.getSuffix (CrashSuffix.run d ((CrashSuffix.allocTmpRename r).take k)) = CrashSuffix.getSuffix d :=
  SigModel.Lemmas.C07f.getSuffix_allocTmpRename_prefix d r k hk

/-- tie between the two models: the number the restarted writer takes in the step model (`nextSuffix`, compared with
the real code at every crash point: field `next=`) is `getSuffix` of the two suffix files, and `openSteps n` acts on
them as one temp-file + rename allocation. -/
theorem step_model_suffix_is_alloc (fs : FS) (n : Nat) :
    nextSuffix fs = CrashSuffix.getSuffix (SigModel.Lemmas.C07f.project fs) ∧
    SigModel.Lemmas.C07f.project (run fs (openSteps n)) =
      CrashSuffix.run (SigModel.Lemmas.C07f.project fs) (CrashSuffix.allocTmpRename n) :=
  ⟨SigModel.Lemmas.C07f.project_nextSuffix fs, SigModel.Lemmas.C07f.project_openSteps fs n⟩

/-- non-vacuity: process 1 hands out 0, dies between the open and the write of the temp file of its second
allocation; process 2 reads 1, hands out 1, completes: numbers 0 and 1 handed out, the next process reads 2 -/
example : CrashSuffix.lifeHanded CrashSuffix.allocTmpRename {} [(2, 4), (1, 3)] = [0, 1] ∧
    CrashSuffix.getSuffix (CrashSuffix.life CrashSuffix.allocTmpRename {} [(2, 4), (1, 3)]) = 2 ∧
    CrashSuffix.crashAfter CrashSuffix.allocTmpRename 2 {} 4 = { file := .num 1, tmp := .empty } := by decide +kernel

/-- the in-place witness spelled out: number 0 handed out, then the file is empty and reads as 0 again -/
example : CrashSuffix.lifeHanded CrashSuffix.allocInPlace {} [(2, 3)] = [0] ∧
    CrashSuffix.life CrashSuffix.allocInPlace {} [(2, 3)] = { file := .empty, tmp := .missing } ∧
    CrashSuffix.getSuffix (CrashSuffix.life CrashSuffix.allocInPlace {} [(2, 3)]) = 0 := by decide +kernel

/-! ### "searchable", not only "served by a match-all search": the metadata records (Model/CrashMeta.lean)

`evs f` are the events of flush `f` (any assignment of events to flushes); every metadata record on disk — the
running `.sfm` after each flush, the record a rotation writes to the `.sfm` and to segmeta.json — is built from the
SegStore fields, which the per-record rule `SM.addEv` maintains.  Ingest never stores a timestamp 0 (it is replaced
by the arrival time), hence `PosTs`; the field value 0 means "no record yet" in the code. -/

/-- no stored event has the timestamp 0 -/
def PosTs (evs : Evs) : Prop := ∀ f, ∀ e ∈ evs f, 0 < e.ts

/-- C07.5 metadata soundness: after a crash at ANY step of ANY history, every completed flush is served from an
adopted segment whose metadata record — the one the restarted node prunes by — covers every event of the flush
(advertised time range contains the timestamp, advertised column set contains the columns), was built from the
flush (so its RecordCount counts it), and counts exactly the records it was built from. -/
theorem meta_sound (evs : Evs) (hpos : PosTs evs) (h : Hist) (k : Nat) :
    ∀ f ∈ completed h k, ∃ p ∈ metas (crashAfter h k),
      f ∈ segVisible ((crashAfter h k).seg p.1) ∧ f ∈ p.2 ∧ (∀ e ∈ evs f, (metaOf evs p.2).covers e) ∧
      (metaOf evs p.2).recs = (evsOf evs p.2).length := by
  intro f hf
  have ⟨p, hp, hfp, hv⟩ := (SigModel.Lemmas.C07.crashAfter_goodH h k).prov f (Or.inr hf)
  exact ⟨p, hp, hv, hfp, SigModel.Lemmas.C07.metaOf_covers hpos hfp, SigModel.Lemmas.C07.ofEvents_recs _⟩

/-- C07.5, full strength for EVERYTHING a restart serves (since `readSegFullMetaFileAndPopulate` makes the adopted
record cover the block summaries): every record the restarted node holds covers every event of every block it
serves from that segment — the flush in progress included. -/
theorem meta_sound_served (evs : Evs) (hpos : PosTs evs) (h : Hist) (k : Nat) :
    ∀ p ∈ metas (crashAfter h k), ∀ f ∈ segVisible ((crashAfter h k).seg p.1),
      f ∈ p.2 ∧ ∀ e ∈ evs f, (metaOf evs p.2).covers e := by
  intro p hp f hf
  have hfp := (SigModel.Lemmas.C07.crashAfter_goodH h k).provAll p hp f hf
  exact ⟨hfp, SigModel.Lemmas.C07.metaOf_covers hpos hfp⟩

/-- C07.6 for the flush in progress: it is ALL visible or ALL invisible, for every search alike — as soon as the
restart serves one of its blocks (the all-time match-all shows it), every search returns every event of the block
that satisfies it. -/
theorem served_is_searchable (evs : Evs) (hpos : PosTs evs) (h : Hist) (k : Nat) (q : Query) :
    ∀ f ∈ visible (crashAfter h k), ∀ e ∈ evs f, evPass q e = true → e ∈ search evs (crashAfter h k) q :=
  fun _ hf _ he hq =>
    SigModel.Lemmas.C07.mem_search_of_visible hpos (SigModel.Lemmas.C07.crashAfter_goodH h k).provAll hf he hq

/-- C07.6 every event of a completed flush is SEARCHABLE after the crash: whatever the time window and column
condition of the search, an event of a completed flush that satisfies them is returned — the segment is not pruned
by its advertised time range, the block is not pruned by its summary.  All histories, all crash points, all
queries. -/
theorem time_search_complete (evs : Evs) (hpos : PosTs evs) (h : Hist) (k : Nat) (q : Query) :
    ∀ f ∈ completed h k, ∀ e ∈ evs f, evPass q e = true → e ∈ search evs (crashAfter h k) q := fun f hf =>
  served_is_searchable evs hpos h k q f ((crash_prefix_safe h k).1 f hf)

/-- C07.7 … exactly once and nothing else: every search reads each block at most once, and only blocks the
match-all search serves (so by C07.3 only completed flushes or the one flush in progress). -/
theorem time_search_exactly_once (evs : Evs) (h : Hist) (k : Nat) (q : Query) :
    (searchFlushes evs (crashAfter h k) q).Nodup ∧
    ∀ f ∈ searchFlushes evs (crashAfter h k) q, f ∈ completed h k ∨ inflight h k = some f := by
  have hs := SigModel.Lemmas.C07.searchFlushesWith_sublist metaOf evs (crashAfter h k) q
  exact ⟨hs.nodup (crash_prefix_safe h k).2, fun f hf => no_garbage h k f (hs.subset hf)⟩

/-- C07.6 for the VARIANT that caches the record at the first block of a segment and refreshes only counters and
columns afterwards (time range of the FIRST block): -/
def TimeSearchCompleteCachedRange : Prop :=
  ∀ (evs : Evs), PosTs evs → ∀ (h : Hist) (k : Nat) (q : Query),
    ∀ f ∈ completed h k, ∀ e ∈ evs f, evPass q e = true → e ∈ searchWith metaOfCachedRange evs (crashAfter h k) q

/-- two flushes into one segment, the second one later in time -/
def cexEvs : Evs := fun f => if f = 0 then [⟨1, 1000, ["a"]⟩] else if f = 1 then [⟨2, 60000, ["a"]⟩] else []

/-- … that variant loses a completed flush: two flushes into one unrotated segment, crash after the second flush
completed (step 15), search over the window of the second flush — the segment is pruned, nothing is returned;
the match-all search still serves both flushes. -/
theorem time_search_complete_counterexample_cached_range : ¬ TimeSearchCompleteCachedRange := by
  intro H
  have hpos : PosTs cexEvs := SigModel.Lemmas.C07.posTs_of_two (by decide) (by decide) fun _ => rfl
  exact absurd (H cexEvs hpos cexHist 15 ⟨59000, 61000, none⟩ 1 (by decide +kernel) ⟨2, 60000, ["a"]⟩ (by decide +kernel)
    (by decide +kernel)) (by decide +kernel)

/-- the same cut with the rule of the code: the window of the second flush returns its event, the window of the
first flush the first one, and the match-all search of the variant would still have served both -/
example : (search cexEvs (crashAfter cexHist 15) ⟨59000, 61000, none⟩).map (·.id) = [2] ∧
    (search cexEvs (crashAfter cexHist 15) ⟨900, 1100, none⟩).map (·.id) = [1] ∧
    visible (crashAfter cexHist 15) = [0, 1] ∧
    metaOf cexEvs [0, 1] = { lo := 1000, hi := 60000, recs := 2, cols := ["a", "a"] } ∧
    metaOfCachedRange cexEvs [0, 1] = { lo := 1000, hi := 1000, recs := 2, cols := ["a", "a"] } := by decide +kernel

/-! ### content of what is served -/

/-- C07.8, full strength for the CONTENT of what is served: every event a restart serves — of a completed flush or
of the flush in progress — has all its columns in the column set its segment advertises (the record reader reads the
advertised columns only, so nothing comes back with a field missing).  All histories, all crash points. -/
theorem served_columns_advertised (evs : Evs) (h : Hist) (k : Nat) :
    ∀ p ∈ metas (crashAfter h k), ∀ f ∈ segVisible ((crashAfter h k).seg p.1),
      ∀ e ∈ evs f, ∀ c ∈ e.cols, c ∈ (metaOf evs p.2).cols := by
  intro p hp f hf e he c hc
  have hfp := (SigModel.Lemmas.C07.crashAfter_goodH h k).provAll p hp f hf
  exact SigModel.Lemmas.C07.ofEvents_cols e (List.mem_flatMap.2 ⟨f, hfp, he⟩) c hc

/-- the same statement about the records BEFORE the repair of `readSegFullMetaFileAndPopulate` (`metasOld`: the
adopted record is the .sfm as it is) -/
def ServedColumnsAdvertisedOld : Prop :=
  ∀ (evs : Evs) (h : Hist) (k : Nat), ∀ p ∈ metasOld (crashAfter h k), ∀ f ∈ segVisible ((crashAfter h k).seg p.1),
    ∀ e ∈ evs f, ∀ c ∈ e.cols, c ∈ (metaOf evs p.2).cols

/-- the second flush brings a column the first one did not have -/
def cexEvsCol : Evs := fun f => if f = 0 then [⟨1, 1000, ["a"]⟩] else if f = 1 then [⟨2, 60000, ["a", "c1"]⟩] else []

/-- … which was false for the flush IN PROGRESS: its block summary is written (step 11) before the running .sfm names
the new column (step 15), and the restart reads every block summary present; in between the event of the flush in
progress was served without its new column (replayed on the real code: crash/inflight-new-column-dropped) -/
theorem served_columns_advertised_counterexample_old : ¬ ServedColumnsAdvertisedOld := fun H =>
  absurd (H cexEvsCol cexHist 11 (0, [0]) (by decide +kernel) 1 (by decide +kernel) ⟨2, 60000, ["a", "c1"]⟩
    (by decide +kernel) "c1" (by decide +kernel)) (by decide +kernel)

/-- the same cut now: the adopted record is built from both blocks -/
example : metas (crashAfter cexHist 11) = [(0, [0, 1])] ∧ metasOld (crashAfter cexHist 11) = [(0, [0])] := by decide +kernel

/-! ### every search returns -/

/-- C07.9, full strength for "queries return": every record search of the restarted node terminates with an answer
(`answer`: once every segment has given its blocks, fetchRRCs hands out whatever it kept back).  All histories, all
crash points, all queries, whatever the records advertise. -/
theorem search_terminates (evs : Evs) (h : Hist) (k : Nat) (q : Query) :
    (answer evs (crashAfter h k) q).isSome = true := rfl

/-- … and with the records the restart now adopts nothing is kept back to the end in the first place: every record
a search finds lies at or above the advertised start of its segment, hence at or above the last cut-off. -/
theorem search_keeps_nothing_back (evs : Evs) (hpos : PosTs evs) (h : Hist) (k : Nat) (q : Query) :
    keptBack evs (crashAfter h k) q = [] :=
  SigModel.Lemmas.C07.keptBack_nil_of_visible hpos (SigModel.Lemmas.C07.crashAfter_goodH h k).provAll

/-- the same statement about the code BEFORE the two repairs (`answerOld`: records as the .sfm had them, nothing
handed out after the last round) -/
def SearchTerminatesOld : Prop :=
  ∀ (evs : Evs), PosTs evs → ∀ (h : Hist) (k : Nat) (q : Query), (answerOld evs (crashAfter h k) q).isSome = true

/-- the flush in progress holds two batches: one older and one newer than everything the first flush held -/
def cexEvsStraddle : Evs := fun f =>
  if f = 0 then [⟨1, 50001, ["a"]⟩] else if f = 1 then [⟨2, 30004, ["a"]⟩, ⟨3, 60007, ["a"]⟩] else []

/-- … which was false while a flush was in progress: the block summary of the second flush is on disk (step 11), the
running .sfm still advertises [50001, 50001]; the block reaches the cut-off (its HighTs 60007 ≥ 50001) and is read,
its record at 30004 lies below the last cut-off and was never handed out — the all-time search never returned
(replayed on the real code: crash/query-never-returns) -/
theorem search_terminates_counterexample_old : ¬ SearchTerminatesOld := by
  intro H
  have hpos : PosTs cexEvsStraddle := SigModel.Lemmas.C07.posTs_of_two (by decide) (by decide) fun _ => rfl
  exact absurd (H cexEvsStraddle hpos cexHist 11 ⟨1, 100000, none⟩) (by decide +kernel)

/-- the same cut now: the search answers, with all three events -/
example : (answer cexEvsStraddle (crashAfter cexHist 11) ⟨1, 100000, none⟩).map (fun r => r.map (·.id)) = some [1, 2, 3] := by
  decide +kernel

/-- `PosTs` is needed in the MODEL of the per-record rule (0 = "no record yet"): a record with timestamp 0 followed
by a later one leaves a range that misses the first — which is why ingest must never store 0 -/
example : ¬ (SM.ofEvents [⟨1, 0, []⟩, ⟨2, 5, []⟩]).covers ⟨1, 0, []⟩ := by
  intro h; exact absurd h.1 (by decide +kernel)

end SigModel.Props.C07
