/-
C13 — Searches see only the requested indexes of the requesting tenant.  Property theorems only.

Scope of this slice (kernel level): the index-expression expansion `ExpandAndReturnIndexNames`, the
segment selection predicates (`FilterSegmentsByTime`, `FilterUnrotatedSegmentsInQuery`) and the
deletion steps on the table list (`vtable.DeleteVirtualTable`) and on the rotated-segment metadata
(`metadata.DeleteVirtualTable`).  The model is `SigModel.Tenant` (Model/Tenant.lean); it is tied to the
Go code by the correspondence suite `tenant`.

Results (all hold for the code as it is now; items 2 and 5 were FALSE before the two `fix:` commits of C13,
see known_findings.txt — the former behaviour is kept as `…Old` definitions with their counterexamples):
  1. `expand_only_own_org`        every returned name is a table or alias target of the requesting
                                  organisation, or text of the expression itself (characterised exactly).
  2. `expand_sound_glob`          every returned name is named by the expression under glob semantics
                                  (`*` = any string, every other character literal); key lemma `implMatch_eq_glob`;
                                  `implMatchOld_counterexample` (`logs.2*` matched `logsX2024` when unquoted).
  3. `select_only_named_org`, `select_only_named_org_unrotated`, `search_sees_only_own_org`.
  4. `delete_exact`, `delete_other_org_unaffected`  (table list).
  5. `delete_segments_exact`      deleting index t of org o removes exactly the segments of (o,t) from the
                                  rotated-segment view; `deleteTableOld_counterexample` (another organisation's
                                  index of the same name used to disappear too).
  6. stream ids keep (organisation, index) pairs apart (`stream_id_separates`, `stream_id_injective`).
  7. `visible_only_own_named`     the record-level filter `visible` returns own, named records only.
-/
import SigModel.Model.Tenant
import SigModel.Lemmas.C13
import SigModel.Lemmas.C13Regex
import SigModel.Lemmas.C13Meta
import SigModel.Lemmas.C13Stream

namespace SigModel.Props.C13
open SigModel.Tenant SigModel.Lemmas.C13

/-! ## 1. Expansion stays inside the requesting organisation -/

/-- `x` is an element of the comma list that has no wildcard and is not an alias of the organisation:
the code hands such an element through verbatim, whether or not a table of that name exists. -/
def Verbatim (expr : Name) (org : Org) (A : List AliasEntry) (x : Name) : Prop :=
  x ∈ splitOn ',' (stripColon expr) ∧ containsStar x = false ∧ aliasPresent org x A = false

/-- the documented fallback: nothing at all was collected (no element matched anything, or only aliases
without targets were named) and the expression is not an excluded internal index; then the whole
expression (after the `cluster:` prefix was stripped) is returned as the only name. -/
def Fallback (expr : Name) (org : Org) (es : Bool) (T : List (Org × Name)) (A : List AliasEntry) (x : Name) : Prop :=
  x = stripColon expr ∧ collect (stripColon expr) org es T A = some [] ∧ isExcluded (stripColon expr) = false

/-- C13.1 For EVERY table/alias state, organisation and expression: a returned name is a table of the
requesting organisation, or a target of one of ITS aliases, or a wildcard-free element of the expression
handed through verbatim, or the fallback (the whole expression).  Tables and alias targets of other
organisations are never produced from the state. -/
theorem expand_only_own_org (expr : Name) (org : Org) (es : Bool) (T : List (Org × Name)) (A : List AliasEntry)
    (x : Name) (hx : x ∈ expand expr org es T A) :
    (org, x) ∈ T ∨ (∃ e ∈ A, e.org = org ∧ x ∈ e.targets) ∨ Verbatim expr org A x ∨ Fallback expr org es T A x := by
  rcases mem_expand hx with h | ⟨_, h⟩ | ⟨elem, helem, le, hle, hxle⟩
  · exact Or.inr (Or.inr (Or.inr h))
  · exact Or.inl h
  · rcases mem_expandElem hle hxle with ⟨_, ⟨e, he, ho, _, hxt⟩ | h⟩ | ⟨_, e, he, ho, _, hxt⟩ | ⟨hs, hp, rfl⟩
    · exact Or.inr (Or.inl ⟨e, he, ho, hxt⟩)
    · exact Or.inl h.1
    · exact Or.inr (Or.inl ⟨e, he, ho, hxt⟩)
    · exact Or.inr (Or.inr (Or.inl ⟨helem, hs, hp⟩))

/-- the fallback fires exactly as described: whenever nothing was collected and the expression is not excluded -/
theorem fallback_returns_whole_expression (expr : Name) (org : Org) (es : Bool) (T : List (Org × Name)) (A : List AliasEntry)
    (hc : collect (stripColon expr) org es T A = some []) (hex : isExcluded (stripColon expr) = false) :
    expand expr org es T A = [stripColon expr] := by
  simp [expand, hc, hex]

/-- non-vacuity: two organisations hold an index of the same name and prefix-related names; `*` and
`logs*` of organisation 1 return only organisation 1's tables -/
example : expand "*".toList 1 false
    [(1, "logs".toList), (2, "logs".toList), (2, "logs2".toList), (1, "logs.2024".toList), (0, "logsX".toList)] []
    = ["logs".toList, "logs.2024".toList] := by
  -- evaluating `"…".toList` makes the kernel decode UTF-8, which is slow to check; rewriting the
  -- literals to character lists first costs nothing
  repeat rewrite [String.toList_ofList]
  rewrite [expand_eq_expandWith]
  decide +kernel
example : expand "remote:logs*".toList 1 false
    [(1, "logs".toList), (2, "logs".toList), (2, "logs2".toList), (1, "logs.2024".toList), (0, "logsX".toList)]
    [{ org := 2, alias := "logsall".toList, targets := ["secret".toList] }]
    = ["logs".toList, "logs.2024".toList] := by
  repeat rewrite [String.toList_ofList]
  rewrite [expand_eq_expandWith]
  decide +kernel
/-- non-vacuity of the verbatim case: a plain name is returned even though only ANOTHER organisation has it
(harmless only because the segment selection filters on the organisation, theorem 3) -/
example : expand "secret".toList 1 false [(2, "secret".toList)] [] = ["secret".toList] := by
  repeat rewrite [String.toList_ofList]
  rewrite [expand_eq_expandWith]
  decide +kernel

/-! ## 2. Every returned name is named by the expression (glob semantics) -/

/-- `x` is named by the expression when `*` is a wildcard and EVERY other character is literal: the
expression is `*`, or some element of the comma list glob-matches `x`, or glob-matches an alias of the
organisation one of whose targets is `x`. -/
def NamedByGlob (expr : Name) (org : Org) (A : List AliasEntry) (x : Name) : Prop :=
  stripColon expr = ['*'] ∨
  ∃ elem ∈ splitOn ',' (stripColon expr),
    globMatch elem x = true ∨ ∃ e ∈ A, e.org = org ∧ globMatch elem e.alias = true ∧ x ∈ e.targets

/-- table and alias names are lines of text (the table list is a line-oriented file) -/
def NoNewlines (T : List (Org × Name)) (A : List AliasEntry) : Prop :=
  (∀ p ∈ T, ∀ c ∈ p.2, c ≠ '\n') ∧ (∀ e ∈ A, ∀ c ∈ e.alias, c ≠ '\n')

/-- the full-strength statement -/
def ExpandSoundGlob : Prop :=
  ∀ (expr : Name) (org : Org) (es : Bool) (T : List (Org × Name)) (A : List AliasEntry), NoNewlines T A →
    ∀ x ∈ expand expr org es T A, NamedByGlob expr org A x ∨ Fallback expr org es T A x

/-- KEY LEMMA: for EVERY wildcard element — whatever characters it contains —
the code's regular expression, compiled from `"^" + Join(QuoteMeta(parts), ".*") + "$"` and used with
the unanchored `Match`, compiles and decides exactly the glob match. -/
theorem implMatch_eq_glob (elem name : Name) (hn : ∀ c ∈ name, c ≠ '\n') :
    implMatch elem name = some (globMatch elem name) := by
  rw [implMatch, compile_quoted, Option.map_some, search_bot, prefixMatch_globRe elem name hn]

/-- C13.2 For EVERY state, organisation and expression, every returned name is named by the expression
under glob semantics (or is the fallback). -/
theorem expand_sound_glob : ExpandSoundGlob := by
  intro expr org es T A hnl x hx
  rcases mem_expand hx with h | ⟨h, _⟩ | ⟨elem, helem, le, hle, hxle⟩
  · exact Or.inr h
  · exact Or.inl (Or.inl h)
  · have glob : ∀ {n}, (∀ c ∈ n, c ≠ '\n') → implMatch elem n = some true → globMatch elem n = true :=
      fun hn hm => Option.some.inj ((implMatch_eq_glob elem _ hn).symm.trans hm)
    refine Or.inl (Or.inr ⟨elem, helem, ?_⟩)
    rcases mem_expandElem hle hxle with ⟨_, ⟨e, he, ho, hm, hxt⟩ | h⟩ | ⟨_, e, he, ho, rfl, hxt⟩ | ⟨_, _, rfl⟩
    · exact Or.inr ⟨e, he, ho, glob (hnl.2 e he) hm, hxt⟩
    · exact Or.inl (glob (hnl.1 (org, x) h.1) h.2)
    · exact Or.inr ⟨e, he, ho, globMatch_self _, hxt⟩
    · exact Or.inl (globMatch_self _)

/-- a wildcard element never fails to compile any more (before the fix `a(*` emptied the whole answer) -/
theorem wildcard_always_compiles (elem : Name) : (compile (regexSrc elem)).isSome = true := by
  rw [compile_quoted]; rfl

/-- non-vacuity: metacharacters in the literal parts are literal now, prefix-related names are kept apart -/
example : expand "logs.2*".toList 1 false [(1, "logsX2024".toList), (1, "logs.2024".toList), (2, "logs.2".toList)] []
    = ["logs.2024".toList] := by
  repeat rewrite [String.toList_ofList]
  rewrite [expand_eq_expandWith]
  decide +kernel
example : expand "logs*".toList 1 false
    [(1, "logs".toList), (1, "logs2".toList), (1, "logsX2024".toList), (1, "log".toList), (2, "logs3".toList)] []
    = ["logs".toList, "logs2".toList, "logsX2024".toList] := by
  repeat rewrite [String.toList_ofList]
  rewrite [expand_eq_expandWith]
  decide +kernel
example : expand "logs,a(*".toList 1 false [(1, "logs".toList), (1, "a(b".toList)] [] = ["a(b".toList, "logs".toList] := by
  repeat rewrite [String.toList_ofList]
  rewrite [expand_eq_expandWith]
  decide +kernel

/-- the behaviour BEFORE the fix (`regexSrcOld`: literal parts not quoted): the test for `logs.2*` accepted
`logsX2024`, which the glob pattern does not match; `zzz|*` accepted everything. -/
theorem implMatchOld_counterexample :
    implMatchOld "logs.2*".toList "logsX2024".toList = some true ∧ globMatch "logs.2*".toList "logsX2024".toList = false ∧
    implMatchOld "zzz|*".toList "prod".toList = some true ∧ globMatch "zzz|*".toList "prod".toList = false := by
  repeat rewrite [String.toList_ofList]
  decide +kernel

/-! ## 3. Segment selection admits exactly the named tables of the requesting organisation -/

/-- distinct segment keys (segment keys are unique identifiers) -/
abbrev DistinctKeys := Lemmas.C13.DistinctKeys

/-- C13.3 (rotated segments, `FilterSegmentsByTime`) For every set of segments with distinct keys, the
selection for organisation `org` over the names `names` admits a segment iff it is one of the segments,
its table is among the names, its organisation is the requesting one, and it overlaps the time range. -/
theorem select_only_named_org (qlo qhi : Int) (names : List Name) (org : Org) (segs : List Seg)
    (hd : DistinctKeys segs) (s : Seg) :
    s ∈ selectRotated qlo qhi names org (Meta.ofList segs) ↔
      s ∈ segs ∧ s.table ∈ names ∧ s.org = org ∧ overlaps qlo qhi s = true :=
  mem_selectRotated_inv (inv_ofList hd) qlo qhi names org s

/-- C13.3 (unrotated segments, `FilterUnrotatedSegmentsInQuery`) -/
theorem select_only_named_org_unrotated (qlo qhi : Int) (names : List Name) (org : Org) (segs : List Seg) (s : Seg) :
    s ∈ selectUnrotated qlo qhi names org segs ↔
      s ∈ segs ∧ s.table ∈ names ∧ s.org = org ∧ overlaps qlo qhi s = true := by
  simp only [selectUnrotated, List.mem_filter, Bool.and_eq_true, List.contains_iff_mem, decide_eq_true_eq]
  exact and_congr_right fun _ => and_congr_right fun _ => and_comm

/-- expansion and selection composed: whatever the expression and whatever other organisations own, a
search of organisation `org` is handed only segments OF `org`, of tables the expansion returned — in
particular the verbatim / fallback names of theorem 1 never reach another organisation's data. -/
theorem search_sees_only_own_org (expr : Name) (org : Org) (es : Bool) (T : List (Org × Name)) (A : List AliasEntry)
    (qlo qhi : Int) (rot unrot : List Seg) (hd : DistinctKeys rot) (s : Seg)
    (hs : s ∈ selectRotated qlo qhi (expand expr org es T A) org (Meta.ofList rot) ∨
          s ∈ selectUnrotated qlo qhi (expand expr org es T A) org unrot) :
    s.org = org ∧ s.table ∈ expand expr org es T A := by
  rcases hs with h | h
  · have := (select_only_named_org qlo qhi _ org rot hd s).1 h
    exact ⟨this.2.2.1, this.2.1⟩
  · have := (select_only_named_org_unrotated qlo qhi _ org unrot s).1 h
    exact ⟨this.2.2.1, this.2.1⟩

/-- non-vacuity: two organisations hold a table `logs`; organisation 2's query admits only its own segment -/
example : (selectRotated 0 100 ["logs".toList] 2
    (Meta.ofList [⟨1, "logs".toList, 1, 0, 10⟩, ⟨2, "logs".toList, 2, 0, 10⟩, ⟨3, "logs2".toList, 2, 0, 10⟩])).map (·.key) = [2] := by
  repeat rewrite [String.toList_ofList]
  decide +kernel

/-! ## 4. Deleting an index from the table list removes exactly that (organisation, index) -/

/-- C13.4 `DeleteVirtualTable(name, org)`: exactly the pair `(org, name)` leaves the table list — other
organisations' tables of the same name and names that are prefixes/extensions of `name` stay. -/
theorem delete_exact (org : Org) (name : Name) (T : List (Org × Name)) (p : Org × Name) :
    p ∈ deleteTable org name T ↔ p ∈ T ∧ p ≠ (org, name) := by
  simp only [deleteTable, List.mem_filter, Bool.not_eq_true', Bool.and_eq_false_iff, decide_eq_false_iff_not,
    ne_eq, Prod.ext_iff, Decidable.not_and_iff_not_or_not]

/-- the expansions of every OTHER organisation are unchanged by the deletion -/
theorem delete_other_org_unaffected (org : Org) (name : Name) (T : List (Org × Name)) (A : List AliasEntry)
    (o : Org) (ho : o ≠ org) (expr : Name) (es : Bool) :
    expand expr o es (deleteTable org name T) A = expand expr o es T A :=
  expand_congr (tablesOf_filter o _ T fun p _ hp => by
    have : ¬ p.1 = org := fun h => ho (hp.symm.trans h)
    simp [this]) rfl expr es

/-- non-vacuity (names that are prefixes of each other, same name in another organisation) -/
example : deleteTable 1 "logs".toList [(1, "logs".toList), (1, "logs2".toList), (2, "logs".toList), (1, "log".toList)]
    = [(1, "logs2".toList), (2, "logs".toList), (1, "log".toList)] := by
  repeat rewrite [String.toList_ofList]
  decide +kernel

/-! ## 5. Deleting an index from the rotated-segment metadata removes exactly that (organisation, index) -/

/-- the full-strength statement: after `metadata.DeleteVirtualTable(t, o)` a segment is selected iff it was
selected before and is not a segment of index `t` of organisation `o`.  (`t ≠ []`: an index has a name —
`deleteSegmentKeyWithLock` uses the empty table name as its "not found" marker.) -/
def DeleteSegmentsExact : Prop :=
  ∀ (segs : List Seg), DistinctKeys segs → ∀ (t : Name), t ≠ [] → ∀ (o : Org) (qlo qhi : Int) (names : List Name) (org : Org) (s : Seg),
    s ∈ selectRotated qlo qhi names org ((Meta.ofList segs).deleteTable t o) ↔
      (s ∈ selectRotated qlo qhi names org (Meta.ofList segs) ∧ ¬ (s.table = t ∧ s.org = o))

/-- C13.5 For every set of segments: the data of the deleted index is gone from the view, and every other
(organisation, index) — same-named indexes of other organisations and prefix-related names included — is
selected exactly as before. -/
theorem delete_segments_exact : DeleteSegmentsExact := by
  intro segs hd t ht o qlo qhi names org s
  have hi := inv_ofList hd
  have hdel := inv_deleteTable hi (keyInj_of_distinct hd) t ht o
  rw [mem_selectRotated_inv hdel, mem_selectRotated_inv hi]
  exact and_right_comm

/-- non-vacuity: organisation 1 deletes `logs`; its `logs2` and `log` and organisation 2's `logs` stay visible -/
example : (selectRotated 0 100 ["logs".toList, "logs2".toList, "log".toList] 1
    ((Meta.ofList [⟨1, "logs".toList, 1, 0, 10⟩, ⟨2, "logs2".toList, 1, 0, 10⟩, ⟨3, "log".toList, 1, 0, 10⟩,
      ⟨4, "logs".toList, 2, 0, 10⟩]).deleteTable "logs".toList 1)).map (·.key) = [2, 3] := by
  repeat rewrite [String.toList_ofList]
  decide +kernel
example : (selectRotated 0 100 ["logs".toList] 2
    ((Meta.ofList [⟨1, "logs".toList, 1, 0, 10⟩, ⟨4, "logs".toList, 2, 0, 10⟩]).deleteTable "logs".toList 1)).map (·.key) = [4] := by
  repeat rewrite [String.toList_ofList]
  decide +kernel

/-- the behaviour BEFORE the fix (`Meta.deleteTableOld`: the table's whole name-keyed entry was dropped):
after organisation 1 deleted `logs`, organisation 2's `logs` segment was no longer selected. -/
theorem deleteTableOld_counterexample :
    selectRotated 0 100 ["logs".toList] 2
      ((Meta.ofList [⟨1, "logs".toList, 1, 0, 10⟩, ⟨4, "logs".toList, 2, 0, 10⟩]).deleteTableOld "logs".toList 1) = [] := by
  repeat rewrite [String.toList_ofList]
  decide +kernel

/-! ## 6. Stream ids keep (organisation, index) pairs apart -/

/-- C13.6 The coded format `"<shard>-<org>-<hash(index)>"`, for EVERY hash function: two stream ids are the
same string only if shard, organisation and the hash of the index name agree — the organisation is
rendered OUTSIDE the hash and the string parses uniquely (decimal renderings contain no `-` except the
sign of the organisation, and are injective). -/
theorem stream_id_separates (H : Name → Nat) (s s' : Nat) (o o' : Org) (i i' : Name)
    (h : streamId H s o i = streamId H s' o' i') : s = s' ∧ o = o' ∧ H i = H i' := by
  unfold streamId at h
  have h1 := first_split_unique (dash_not_mem_decNat s) (dash_not_mem_decNat s') h
  have h2 := last_split_unique (dash_not_mem_decNat (H i)) (dash_not_mem_decNat (H i')) h1.2
  exact ⟨decNat_injective h1.1, decInt_injective h2.1, decNat_injective h2.2⟩

/-- … hence, for a collision-free hash, only if (organisation, index) agree: an open segment store is never
shared between two organisations or two indexes. -/
theorem stream_id_injective (H : Name → Nat) (hH : ∀ a b, H a = H b → a = b) (s s' : Nat) (o o' : Org) (i i' : Name)
    (h : streamId H s o i = streamId H s' o' i') : o = o' ∧ i = i' :=
  let ⟨_, ho, hi⟩ := stream_id_separates H s s' o o' i i' h
  ⟨ho, hH _ _ hi⟩

/-- the statement on the PRE-IMAGE (no assumption on the hash at all): the text outside the hash together
with the hashed string determines (organisation, index). -/
theorem stream_preimage_injective (o o' : Org) (i i' : Name) (h : streamPre o i = streamPre o' i') : o = o' ∧ i = i' := by
  simp only [streamPre, Prod.mk.injEq] at h
  exact ⟨decInt_injective h.1, h.2⟩

/-- why the organisation must stay outside: hashing `<org><index>` as ONE string makes different
(organisation, index) pairs share a pre-image — org 1 / `0app` and org 10 / `app`; org 2 / `17-logs` and
org 21 / `7-logs`. (`streamPreConcat` is NOT the code.) -/
theorem streamPreConcat_counterexample :
    streamPreConcat 1 "0app".toList = streamPreConcat 10 "app".toList ∧
    streamPreConcat 2 "17-logs".toList = streamPreConcat 21 "7-logs".toList := by
  repeat rewrite [String.toList_ofList]
  decide +kernel

/-- non-vacuity: the coded ids of those pairs differ for any hash -/
example (H : Name → Nat) : streamId H 0 1 "0app".toList ≠ streamId H 0 10 "app".toList :=
  fun h => absurd (stream_id_separates H 0 0 1 10 _ _ h).2.1 (by decide)

/-! ## 7. End to end: a search returns only records of the requesting organisation in named indexes -/

/-- C13.7 (composition of 1–3 on the record level) whatever was ingested by whichever organisation, the
records visible to a search of `org` over `expr` were ingested by `org`, into an index that the expansion
of `expr` for `org` returned — hence (theorem 2) an index the expression names. -/
theorem visible_only_own_named (recs : List Rec) (org : Org) (expr : Name) (r : Rec) (h : r ∈ visible recs org expr) :
    r ∈ recs ∧ r.org = org ∧
    r.index ∈ expand expr org false (recs.foldl (fun acc r => addTable r.org r.index acc) []) [] := by
  simp only [visible, List.mem_filter, Bool.and_eq_true, decide_eq_true_eq, List.contains_iff_mem] at h
  exact ⟨h.1, h.2.1, h.2.2⟩

/-- non-vacuity: digit-prefixed and prefix-related names over multi-digit organisations -/
example : (visible [⟨1, 1, "0app".toList⟩, ⟨2, 10, "app".toList⟩, ⟨3, 1, "app".toList⟩, ⟨4, 1, "app2".toList⟩] 1 "*app".toList).map (·.id)
    = [1, 3] := by
  repeat rewrite [String.toList_ofList]
  rewrite [visible, expand_eq_expandWith]
  decide +kernel
example : (visible [⟨1, 1, "0app".toList⟩, ⟨2, 10, "app".toList⟩, ⟨3, 1, "app".toList⟩, ⟨4, 1, "app2".toList⟩] 10 "*".toList).map (·.id)
    = [2] := by
  repeat rewrite [String.toList_ofList]
  rewrite [visible, expand_eq_expandWith]
  decide +kernel

end SigModel.Props.C13
